import Magog.Spec.Minimax
import Magog.Lemmas.SearchIter

/-! Lemmas for C04 ("pruning is transparent"): the model's fail-hard alpha-beta / quiescence return, up to
    clamping into the window, the plain negamax value of `Spec.Minimax`. The hypotheses are collected in `Hyps env G`
    (`Quiet`, `PermSort`, `KillerIndep`, `Closed G`, `LazyOn`). `ChildOk` is the claim for one node function; it is
    proved for `quiescence` and `alphaBeta` (`quiescence_ok`, `alphaBeta_ok`: value theorems, unlike the `…_succ_ok`
    inversions of `SearchBasic`) through the one loop lemma `loop_value` over `LoopStep`, and carried to every reported
    score by `startAlphaBeta_value`, `deepenLoop_ok`, `iterDeep_ok` (`AllGood`). The end of the file is C05's: the
    mate window `InRange`, the hypothesis `EvalRange`, and `QV_range` / `V_range`.
    `Quiet env` unfolds to `Model.Env.Quiet` of `SearchFrame`, `Generated p m` to `GenFull p m ∨ GenTac p m` of
    `PvLegal`; `KillerIndep` is stated a second time, and proved, in `Lemmas/KillerIndep`. -/

namespace Magog.Lemmas.AlphaBeta
open Magog Magog.Model Magog.Spec.Minimax

/-- the lazy assumption at `p`: the cheap (piece-square) score is within the generated margin of the full one -/
def LazyGood (blend : Blend) (p : Position) (d : Int) : Prop :=
  ∀ cheap full, isCheckMate p = .ok false → pieceSquareScore blend p = .ok cheap →
    evaluate blend p d = .ok full → (full - cheap).natAbs ≤ Gen.fullEvalScoreMargin

theorem lazyEvaluate_ok {blend : Blend} {p : Position} {d α β x : Int} :
    lazyEvaluate blend p d α β = .ok x ↔ ∃ mate, isCheckMate p = .ok mate ∧
      (mate = true ∧ x = Gen.LostScore + d ∨
       ¬mate = true ∧ ∃ cheap, pieceSquareScore blend p = .ok cheap ∧
         ((cheap > β + Gen.fullEvalScoreMargin ∨ cheap < α - Gen.fullEvalScoreMargin) ∧ x = cheap ∨
          ¬(cheap > β + Gen.fullEvalScoreMargin ∨ cheap < α - Gen.fullEvalScoreMargin) ∧
            ∃ own, countMoves p = .ok own ∧
              (own * Gen.MobilityScoreFactor = 0 ∧ x = Gen.DrawScore ∨
               ¬own * Gen.MobilityScoreFactor = 0 ∧ ∃ enemy, countMoves (flipTurn p) = .ok enemy ∧
                 x = cheap + (own * Gen.MobilityScoreFactor : Nat) - (enemy * Gen.MobilityScoreFactor : Nat)))) := by
  simp only [lazyEvaluate, ite_ok, bind_ok, pure_ok', Bool.or_eq_true, decide_eq_true_eq, beq_iff_eq]

theorem lazy_clamp (blend : Blend) (p : Position) (d α β full x : Int)
    (hα : Gen.MinusInfinityScore ≤ α) (hβ : β ≤ Gen.InfinityScore) (hαβ : α ≤ β)
    (hfull : evaluate blend p d = .ok full) (hx : lazyEvaluate blend p d α β = .ok x)
    (hg : LazyGood blend p d) : clamp x α β = clamp full α β := by
  obtain ⟨mate, hmate, hx⟩ := lazyEvaluate_ok.1 hx
  obtain ⟨mate', hmate', hf⟩ := lazyEvaluate_ok.1 (show lazyEvaluate blend p d _ _ = .ok full from hfull)
  rw [hmate] at hmate'; cases hmate'
  rcases hx with ⟨ht, rfl⟩ | ⟨hm, cheap, hcheap, hx⟩
  · rcases hf with ⟨-, rfl⟩ | ⟨hm', -⟩
    · rfl
    · exact absurd ht hm'
  rcases hf with ⟨ht, -⟩ | ⟨-, cheap', hcheap', hf⟩
  · exact absurd ht hm
  rw [hcheap] at hcheap'; cases hcheap'
  have hmate0 : isCheckMate p = .ok false := by rw [hmate]; congr 1; simpa using hm
  have hm := hg cheap full hmate0 hcheap hfull
  rcases hx with ⟨hc, rfl⟩ | ⟨hc, own, hown, hx⟩
  · -- the lazy shortcut was taken
    unfold clamp
    omega
  rcases hf with ⟨hc', -⟩ | ⟨-, own', hown', hf⟩
  · omega
  rw [hown] at hown'; cases hown'
  rcases hx with ⟨h0, rfl⟩ | ⟨h0, enemy, hen, rfl⟩ <;> rcases hf with ⟨h0', rfl⟩ | ⟨h0', enemy', hen', rfl⟩
  · rfl
  · exact absurd h0 h0'
  · exact absurd h0' h0
  · rw [hen] at hen'; cases hen'; rfl

theorem foldMax_cons_ok {cv : Move → M Int} {m : Move} {l : List Move} {acc w : Int} :
    foldMax cv (m :: l) acc = .ok w ↔ ∃ v, cv m = .ok v ∧ foldMax cv l (max acc v) = .ok w := by
  simp only [foldMax, bind_ok]

theorem foldMax_nil_ok {cv : Move → M Int} {acc w : Int} : foldMax cv [] acc = .ok w ↔ acc = w := by
  simp only [foldMax, pure_ok]

theorem foldMax_ok {cv : Move → M Int} {l : List Move} : ∀ {acc w : Int},
    foldMax cv l acc = .ok w ↔
      acc ≤ w ∧ (∀ m ∈ l, ∃ v, cv m = .ok v ∧ v ≤ w) ∧ (w = acc ∨ ∃ m ∈ l, cv m = .ok w) := by
  induction l with
  | nil =>
    intro acc w
    rw [foldMax_nil_ok]
    constructor
    · rintro rfl
      exact ⟨Int.le_refl _, nofun, .inl rfl⟩
    · rintro ⟨_, _, h | ⟨_, hm, _⟩⟩
      · exact h.symm
      · cases hm
  | cons m l ih =>
    intro acc w
    rw [foldMax_cons_ok]
    constructor
    · rintro ⟨v, hv, h⟩
      obtain ⟨hge, hall, hatt⟩ := ih.1 h
      refine ⟨by omega, ?_, ?_⟩
      · intro m' hm'
        rcases List.mem_cons.1 hm' with rfl | hm'
        · exact ⟨v, hv, by omega⟩
        · exact hall m' hm'
      · rcases hatt with hw | ⟨m', hm', hw⟩
        · by_cases hle : v ≤ acc
          · exact .inl (by omega)
          · exact .inr ⟨m, List.mem_cons_self, by rw [hv, hw]; congr 1; omega⟩
        · exact .inr ⟨m', List.mem_cons_of_mem _ hm', hw⟩
    · rintro ⟨hge, hall, hatt⟩
      obtain ⟨v, hv, hvw⟩ := hall m List.mem_cons_self
      refine ⟨v, hv, ih.2 ⟨by omega, fun m' hm' => hall m' (List.mem_cons_of_mem _ hm'), ?_⟩⟩
      rcases hatt with hw | ⟨m', hm', hw⟩
      · exact .inl (by omega)
      · rcases List.mem_cons.1 hm' with rfl | hm'
        · rw [hv] at hw
          cases hw
          exact .inl (by omega)
        · exact .inr ⟨m', hm', hw⟩

theorem foldMax_perm {cv : Move → M Int} {l l' : List Move} (h : l.Perm l') {acc w : Int}
    (hw : foldMax cv l acc = .ok w) : foldMax cv l' acc = .ok w := by
  obtain ⟨hge, hall, hatt⟩ := foldMax_ok.1 hw
  exact foldMax_ok.2 ⟨hge, fun m hm => hall m (h.mem_iff.2 hm),
    hatt.imp id fun ⟨m, hm, e⟩ => ⟨m, h.mem_iff.1 hm, e⟩⟩

theorem foldMax_of_greatest {cv : Move → M Int} {l : List Move} {w : Int}
    (hall : ∀ m ∈ l, ∃ v, cv m = .ok v ∧ v ≤ w) (hatt : ∃ m ∈ l, cv m = .ok w) (a : Int) :
    foldMax cv l a = .ok (max a w) := by
  refine foldMax_ok.2 ⟨by omega, fun m hm => ?_, ?_⟩
  · obtain ⟨v, hv, hvw⟩ := hall m hm
    exact ⟨v, hv, by omega⟩
  · by_cases h : w ≤ a
    · exact .inl (by omega)
    · have : max a w = w := by omega
      rw [this]
      exact .inr hatt

theorem foldMax_max {cv : Move → M Int} {l : List Move} {acc w : Int} (h : foldMax cv l acc = .ok w) (a : Int) :
    foldMax cv l (max a acc) = .ok (max a w) := by
  obtain ⟨hge, hall, hatt⟩ := foldMax_ok.1 h
  refine foldMax_ok.2 ⟨by omega, fun m hm => ?_, ?_⟩
  · obtain ⟨v, hv, hvw⟩ := hall m hm
    exact ⟨v, hv, by omega⟩
  · rcases hatt with hw | ⟨m, hm, hw⟩
    · exact .inl (by omega)
    · by_cases hle : w ≤ a
      · exact .inl (by omega)
      · have : max a w = w := by omega
        rw [this]
        exact .inr ⟨m, hm, hw⟩

theorem childVal_ok {f : Position → M Int} {p : Position} {m : Move} {v : Int} :
    childVal f p m = .ok v ↔ ∃ q b x, makeMove p m = .ok (q, b) ∧ b = true ∧ f q = .ok x ∧ v = -x := by
  unfold childVal
  simp only [bind_ok]
  constructor
  · rintro ⟨⟨q, b⟩, hmk, h⟩
    cases b with
    | false => simp [throw_ok] at h
    | true =>
      simp only [Bool.not_true, Bool.false_eq_true, if_false, bind_ok, pure_ok] at h
      obtain ⟨x, hx, h⟩ := h
      exact ⟨q, true, x, hmk, rfl, hx, h.symm⟩
  · rintro ⟨q, b, x, hmk, hb, hx, hv⟩
    subst hb
    refine ⟨(q, true), hmk, ?_⟩
    simp only [Bool.not_true, Bool.false_eq_true, if_false, bind_ok, pure_ok]
    exact ⟨x, hx, hv.symm⟩

theorem V_succ_ok {blend : Blend} {qfuel rem : Nat} {p : Position} {d : Nat} {w : Int}
    (h : V blend qfuel (rem + 1) p d = .ok w) :
    ∃ ms, generateMoves Killers.empty p = .ok ms ∧
      ((ms = [] ∧ terminalNodeScore p d = .ok w) ∨
       (ms ≠ [] ∧
        (∀ m ∈ ms.map (·.mov), ∃ v, childVal (fun q => V blend qfuel rem q (d + 1)) p m = .ok v ∧ v ≤ w) ∧
        ∃ m ∈ ms.map (·.mov), childVal (fun q => V blend qfuel rem q (d + 1)) p m = .ok w)) := by
  unfold V at h
  obtain ⟨ms, hms, h⟩ := bind_ok.1 h
  refine ⟨ms, hms, ?_⟩
  cases hm : ms.map (·.mov) with
  | nil =>
    rw [hm] at h
    exact .inl ⟨List.map_eq_nil_iff.1 hm, h⟩
  | cons m rest =>
    rw [hm] at h
    obtain ⟨v0, hv0, h⟩ := bind_ok.1 h
    obtain ⟨hge, hall, hatt⟩ := foldMax_ok.1 h
    refine .inr ⟨fun h0 => (by rw [h0] at hm; cases hm), ?_, ?_⟩
    · intro m' hm'
      rcases List.mem_cons.1 hm' with rfl | hm'
      · exact ⟨v0, hv0, hge⟩
      · exact hall m' hm'
    · rcases hatt with rfl | ⟨m', hm', hw⟩
      · exact ⟨m, List.mem_cons_self, hv0⟩
      · exact ⟨m', List.mem_cons_of_mem _ hm', hw⟩

def Quiet (env : Env) : Prop := ∀ n, env.timeUp n = false ∧ env.stopAt n = false

def PermSort (env : Env) : Prop := ∀ l, (env.sortFn l).Perm l

/-- the killer table influences rankings only, not the generated moves (proved in `Lemmas/KillerIndep`) -/
def KillerIndep : Prop :=
  ∀ kt kt' p ms ms', generateMoves kt p = .ok ms → generateMoves kt' p = .ok ms' →
    ms.map (·.mov) = ms'.map (·.mov)

def Generated (p : Position) (m : Move) : Prop :=
  (∃ kt ms, generateMoves kt p = .ok ms ∧ m ∈ ms.map (·.mov)) ∨
  (∃ ms, generateTacticalMoves p = .ok ms ∧ m ∈ ms.map (·.mov))

def Closed (G : Position → Prop) : Prop :=
  ∀ p m q b, G p → Generated p m → makeMove p m = .ok (q, b) → G q

def LazyOn (env : Env) (G : Position → Prop) : Prop :=
  env.lazy = true → ∀ p, G p → ∀ d : Int, LazyGood env.blend p d

theorem Quiet.frame {env : Env} (hq : Quiet env) : FrameRel env StaysUninterrupted :=
  staysUninterrupted_rel env fun n => (hq n).2

def ChildOk (G : Position → Prop) (child : NodeFn) (cval : Position → M Int) (d : Nat) : Prop :=
  ∀ q idx a b curLen s v len s' w, G q → a < b → Gen.MinusInfinityScore ≤ a → b ≤ Gen.InfinityScore →
    s.interrupted = false → child q idx d a b curLen s = .ok (v, len, s') → cval q = .ok w →
    clamp v a b = clamp w a b

theorem pollAfterMove_quiet {env : Env} (hq : Quiet env) {s : SS} (hs : s.interrupted = false) :
    pollAfterMove env s = (false, s.consult.consult) := by
  unfold pollAfterMove
  simp only [hs, Bool.false_eq_true, if_false, (hq _).1, (hq _).2]

theorem improve_max {s : SS} {depth subLen : Nat} {mv : Move} {score alpha : Int} {curLen : Nat} {a : Int}
    {l : Nat} {s' : SS} (h : improve s depth subLen mv score alpha curLen = .ok (a, l, s')) :
    a = max alpha score ∧ s'.interrupted = s.interrupted := by
  rcases improve_ok.1 h with ⟨hgt, rfl, hu⟩ | ⟨hle, rfl, -, rfl⟩
  · obtain ⟨_, rfl⟩ := updateBestLine_rows hu
    exact ⟨by omega, rfl⟩
  · exact ⟨by omega, rfl⟩

theorem rootImprove_max {env : Env} {target : Nat} {s : SS} {subLen : Nat} {mv : Move} {score alpha : Int}
    {curLen : Nat} {a : Int} {l : Nat} {s' : SS}
    (h : rootImprove env target s subLen mv score alpha curLen = .ok (a, l, s')) :
    a = max alpha score ∧ s'.interrupted = s.interrupted := by
  rcases rootImprove_ok.1 h with ⟨hgt, rfl, s1, hu, hp⟩ | ⟨hle, rfl, -, rfl⟩
  · obtain ⟨_, rfl⟩ := updateBestLine_rows hu
    rcases rootPrint_ok.1 hp with ⟨-, -, rfl⟩ | ⟨-, rfl⟩ <;> exact ⟨by omega, rfl⟩
  · exact ⟨by omega, rfl⟩

theorem clamp_window {a b α β : Int} (hαβ : α < β) (h : clamp a α β = clamp b α β) :
    (a ≥ β ↔ b ≥ β) ∧ (a > α ↔ b > α) ∧ (a > α → ¬a ≥ β → a = b) := by
  unfold clamp at h
  omega

/-- what a loop entered with `α` returns (`min (max α w) β`) is the node's value `w` up to clamping -/
theorem clamp_min_max (w α β : Int) : clamp (min (max α w) β) α β = clamp w α β := by
  unfold clamp
  omega

/-- what one move of a fail-hard move loop `L` does when nothing interrupts, told from the child's answer `x` for the
    window `(−β, −α)`, worth `−x.1` to the mover: the loop leaves with `β` when that is `≥ β`, may leave with the raised
    `α` when it is `Top` (the root's "next move wins": no move can be worth more), and otherwise goes on, uninterrupted,
    over the remaining moves with the raised `α`. A loop that goes on without having tested `≥ β` (the root's) has a `Top`. -/
def LoopStep (L : List RMove → Int → Nat → Nat → SS → M LoopOut) (child : NodeFn) (idx d : Nat) (p : Position)
    (β : Int) (Top : Int → Prop) : Prop :=
  (∀ α cl sl s, L [] α cl sl s = pure ⟨α, cl, s⟩) ∧
  ∀ mv rest α cl sl s out, s.interrupted = false → L (mv :: rest) α cl sl s = .ok out →
    ∃ q x, makeMove p mv.mov = .ok (q, true) ∧ child q idx d (-β) (-α) sl s = .ok x ∧
      (x.2.2.interrupted = false →
        -x.1 ≥ β ∧ out.score = β ∨ Top (-x.1) ∧ out.score = max α (-x.1) ∨
        (-x.1 ≥ β → ∃ t, Top t) ∧
          ∃ cl' sl' s', L rest (max α (-x.1)) cl' sl' s' = .ok out ∧ s'.interrupted = false)

/-- **the fail-hard loop lemma** (DESIGN.md Appendix D): a loop entered with `α` over moves whose specification fold
    from `α` is `w` returns `min w β`. The children answer up to clamping to `(−β, −α)`, which decides how a move's
    value compares with `α` and `β` and is exact strictly inside; a `Top` value is below `β` and bounds the value of
    every move, so that stopping at it loses nothing. -/
theorem loop_value {G : Position → Prop} (hcl : Closed G) {child : NodeFn} {cval : Position → M Int} {d : Nat}
    (hch : ChildOk G child cval d) (hcf : NodeFrame StaysUninterrupted child) {p : Position} (hp : G p)
    {L : List RMove → Int → Nat → Nat → SS → M LoopOut} {idx : Nat} {β : Int} {Top : Int → Prop}
    (hL : LoopStep L child idx d p β Top) (hβ : β ≤ Gen.InfinityScore) (ms : List RMove) :
    (∀ mv ∈ ms, Generated p mv.mov) →
    (∀ t, Top t → t < β ∧ ∀ m ∈ ms.map (·.mov), ∀ v, childVal cval p m = .ok v → v ≤ t) →
    ∀ (α : Int) (cl sl : Nat) (s : SS) (out : LoopOut) (w : Int),
      Gen.MinusInfinityScore ≤ α → α < β → s.interrupted = false → L ms α cl sl s = .ok out →
      foldMax (childVal cval p) (ms.map (·.mov)) α = .ok w → out.score = min w β := by
  induction ms with
  | nil =>
    intro _ _ α cl sl s out w _ hαβ _ h hw
    rw [hL.1, pure_ok] at h
    simp only [List.map_nil, foldMax_nil_ok] at hw
    subst h; subst hw
    show α = min α β
    omega
  | cons mv rest ih =>
    intro hgen htop α cl sl s out w hα hαβ hs h hw
    have ih := ih (fun m hm => hgen m (List.mem_cons_of_mem _ hm))
      fun t ht => ⟨(htop t ht).1, fun m hm => (htop t ht).2 m (List.mem_cons_of_mem _ hm)⟩
    obtain ⟨-, -, hatt⟩ := foldMax_ok.1 hw
    simp only [List.map_cons, foldMax_cons_ok] at hw
    obtain ⟨v, hv, hw⟩ := hw
    have hvt := fun t ht => (htop t ht).2 _ List.mem_cons_self v hv
    obtain ⟨q, b, x, hmk, rfl, hx, rfl⟩ := childVal_ok.1 hv
    obtain ⟨q', y, hmk', hy, h⟩ := hL.2 mv rest α cl sl s out hs h
    rw [hmk] at hmk'; cases hmk'
    have hc := hch q idx (-β) (-α) sl s y.1 y.2.1 y.2.2 x (hcl p _ q true hp (hgen mv List.mem_cons_self) hmk)
      (by omega) (by rw [minusInf_eq]; omega) (by rw [minusInf_eq] at hα; omega) hs hy hx
    obtain ⟨hge, hgt, heq⟩ := clamp_window (by omega) hc
    have hmono := (foldMax_ok.1 hw).1
    rcases h (hcf _ _ _ _ _ _ _ _ _ _ hy hs) with ⟨hcut, e⟩ | ⟨ht, e⟩ | ⟨hcut, l, sl', s', h, hs'⟩
    · rw [e]; omega
    · -- nothing is worth more than `−y.1`
      obtain ⟨htβ, hup⟩ := htop _ ht
      have hwle : w ≤ max α (-y.1) := by
        rcases hatt with rfl | ⟨m, hm, hv'⟩
        · omega
        · have := hup m hm w hv'; omega
      rw [e]; omega
    · have hcut : ¬-y.1 ≥ β := fun hc => by
        obtain ⟨t, ht⟩ := hcut hc
        have := hvt t ht; have := (htop t ht).1; omega
      have hmax : max α (-x) = max α (-y.1) := by omega
      rw [hmax] at hw
      exact ih _ l sl' s' out w (by omega) (by omega) hs' h hw

theorem qLoop_step {env : Env} (hq : Quiet env) (child : NodeFn) (p : Position) (idx d : Nat) (β : Int) :
    LoopStep (qLoop env child p idx d β) child (idx + 1) (d + 1) p β (fun _ => False) := by
  refine ⟨fun _ _ _ _ => rfl, fun mv rest α cl sl s out hs h => ?_⟩
  obtain ⟨-, q, legal, hmk, rfl, v, sl', s1, hc, h⟩ := qLoop_cons_ok.1 h
  refine ⟨q, (v, sl', s1), hmk, hc, fun (hs1 : s1.interrupted = false) => ?_⟩
  rcases h with ⟨hi, -⟩ | ⟨-, ⟨hto, -⟩ | ⟨-, h⟩⟩
  · rw [hs1] at hi; cases hi
  · rw [(hq _).1] at hto; cases hto
  rcases h with ⟨hcut, rfl⟩ | ⟨hcut, ⟨hgt, s2, cl2, hub, h⟩ | ⟨hle, h⟩⟩
  · exact .inl ⟨hcut, rfl⟩
  · obtain ⟨_, rfl⟩ := updateBestLine_rows hub
    rw [← show max α (-v) = -v by omega] at h
    exact .inr (.inr ⟨fun hc => absurd hc hcut, cl2, sl', _, h, hs1⟩)
  · rw [← show max α (-v) = α by omega] at h
    exact .inr (.inr ⟨fun hc => absurd hc hcut, cl, sl', _, h, hs1⟩)

theorem abLoop_step {env : Env} (hq : Quiet env) (child : NodeFn) (p : Position) (idx d : Nat) (β : Int) :
    LoopStep (abLoop env child p idx d β) child (idx + 1) (d + 1) p β (fun _ => False) := by
  refine ⟨fun _ _ _ _ => rfl, fun mv rest α cl sl s out hs h => ?_⟩
  rcases abLoop_cons_ok.1 h with ⟨hi, -⟩ | ⟨-, -, q, legal, hmk, rfl, v, sl', s1, hc, h⟩
  · rw [hs] at hi; cases hi
  refine ⟨q, (v, sl', s1), hmk, hc, fun (hs1 : s1.interrupted = false) => ?_⟩
  rcases h with ⟨hcut, ⟨-, kt, -, rfl⟩ | ⟨-, rfl⟩⟩ | ⟨hcut, a2, l2, s2, hi, h⟩
  · exact .inl ⟨hcut, rfl⟩
  · exact .inl ⟨hcut, rfl⟩
  · obtain ⟨rfl, hs2⟩ := improve_max hi
    rw [hs1] at hs2
    rw [pollAfterMove_quiet hq hs2] at h
    rcases h with ⟨hbrk, -⟩ | ⟨-, h⟩
    · cases hbrk
    exact .inr (.inr ⟨fun hc => absurd hc hcut, l2, sl', _, h, hs2⟩)

/-- the root never cuts (`β = +∞`); it stops at a mate in one, which no move can beat -/
theorem rootLoop_step {env : Env} (hq : Quiet env) (child : NodeFn) (p : Position) (target : Nat) :
    LoopStep (rootLoop env child p target) child 1 1 p Gen.InfinityScore (fun t => t = -Gen.LostScore - 1) := by
  refine ⟨fun _ _ _ _ => rfl, fun mv rest α cl sl s out hs h => ?_⟩
  rcases rootLoop_cons_ok.1 h with ⟨hi, -⟩ | ⟨-, -, q, legal, hmk, rfl, v, sl', s1, hc, a2, l2, s2, himp, h⟩
  · rw [hs] at hi; cases hi
  refine ⟨q, (v, sl', s1), hmk, hc, fun (hs1 : s1.interrupted = false) => ?_⟩
  obtain ⟨rfl, hs2⟩ := rootImprove_max himp
  rw [hs1] at hs2
  rcases h with ⟨hi, -⟩ | ⟨-, ⟨hto, -⟩ | ⟨-, ⟨hwin, rfl⟩ | ⟨-, h⟩⟩⟩
  · rw [hs2] at hi; cases hi
  · rw [(hq _).1] at hto; cases hto
  · exact .inr (.inl ⟨by simpa [nextMoveWins] using hwin, rfl⟩)
  · refine .inr (.inr ⟨fun _ => ⟨_, rfl⟩, l2, sl', _, h, ?_⟩)
    rw [rootStop_upd, (hq _).2, Bool.or_false]
    exact hs2

theorem quiescence_ok (env : Env) (hq : Quiet env) (hps : PermSort env) (G : Position → Prop)
    (hcl : Closed G) (hlz : LazyOn env G) (fuel : Nat) :
    ∀ d, ChildOk G (quiescence env fuel) (fun q => QV env.blend fuel q d) d := by
  induction fuel with
  | zero =>
    intro d q idx a b curLen s v len s' w _ _ _ _ _ h _
    simp only [quiescence, throw_ok] at h
  | succ fuel ih =>
    intro d p idx α β curLen s v len s' w hp hαβ hα hβ hs h hw
    unfold QV at hw
    simp only [bind_ok] at hw
    obtain ⟨e, he, ms, hms, hw⟩ := hw
    obtain ⟨subLen, -, score, hscore, s2, hlog, h⟩ := quiescence_succ_ok.1 h
    have hclamp : clamp score α β = clamp e α β := by
      unfold qEval at hscore
      split at hscore
      · rename_i hl
        exact lazy_clamp env.blend p d α β e score hα hβ (by omega) he hscore (hlz hl p hp d)
      · rw [he] at hscore; cases hscore; rfl
    have hs2 : s2.interrupted = false := by
      obtain ⟨_, rfl, -⟩ := qLog_out hlog
      exact hs
    have hmono := (foldMax_ok.1 hw).1
    obtain ⟨hge, hgt, heq⟩ := clamp_window hαβ hclamp
    rcases h with ⟨hcut, rfl, -⟩ | ⟨hcut, ms', hms', r, hr, rfl, -⟩
    · -- stand-pat cut
      clear hclamp
      unfold clamp; omega
    · rw [hms] at hms'; cases hms'
      have hperm : (ms.map (·.mov)).Perm ((env.sortFn ms).map (·.mov)) := ((hps ms).map _).symm
      have hw' := foldMax_max (foldMax_perm hperm hw) α
      have hα' : (if score > α then (score, 0) else (α, curLen)).1 = max α e := by
        rw [apply_ite Prod.fst]; split <;> omega
      rw [hα'] at hr
      have hgen : ∀ mv ∈ env.sortFn ms, Generated p mv.mov := fun mv hmv =>
        .inr ⟨ms, hms, List.mem_map_of_mem ((hps ms).mem_iff.mp hmv)⟩
      rw [loop_value hcl (ih (d + 1)) (quiescence_frame hq.frame fuel) hp (qLoop_step hq _ p idx d β) hβ _ hgen
        (fun _ => False.elim) _ _ subLen s2 r _ (by omega) (by omega) hs2 hr hw']
      exact clamp_min_max w α β

theorem sorted_bonus_perm {env : Env} (hps : PermSort env) (cand : List Move) (matched depth : Nat)
    (ms : List RMove) :
    (ms.map (·.mov)).Perm ((env.sortFn (applyPvBonus cand matched depth ms).1).map (·.mov)) := by
  rw [← applyPvBonus_movs cand matched depth ms]
  exact ((hps _).map _).symm

theorem alphaBeta_ok (env : Env) (hq : Quiet env) (hps : PermSort env) (hki : KillerIndep)
    (G : Position → Prop) (hcl : Closed G) (hlz : LazyOn env G) (qfuel rem : Nat) :
    ∀ d, ChildOk G (alphaBeta env qfuel rem) (fun q => V env.blend qfuel rem q d) d := by
  induction rem with
  | zero =>
    intro d p idx α β curLen s v len s' w hp hαβ hα hβ hs h hw
    rw [alphaBeta] at h
    obtain ⟨_, _, h⟩ := bind_ok.1 h
    unfold V at hw
    exact quiescence_ok env hq hps G hcl hlz qfuel d p idx α β curLen s v len s' w hp hαβ hα hβ hs h hw
  | succ rem ih =>
    intro d p idx α β curLen s v len s' w hp hαβ hα hβ hs h hw
    obtain ⟨ms0, hms0, hw⟩ := V_succ_ok hw
    obtain ⟨subLen, -, ms, hms, h⟩ := alphaBeta_succ_ok.1 h
    have hmov := hki _ _ p ms ms0 hms hms0
    rw [← hmov] at hw
    rcases h with ⟨hemp, v', hv', rfl, -⟩ | ⟨hne, r, hr, rfl, -⟩
    · -- no legal move
      rcases hw with ⟨-, hw⟩ | ⟨hne, -⟩
      · rw [hw] at hv'; cases hv'; rfl
      · rw [List.isEmpty_iff.1 hemp] at hmov
        exact absurd (List.map_eq_nil_iff.1 hmov.symm) hne
    · rcases hw with ⟨hnil, -⟩ | ⟨-, hall, hatt⟩
      · rw [hnil] at hmov
        exact absurd (List.isEmpty_iff.2 (List.map_eq_nil_iff.1 hmov)) hne
      have hw' := foldMax_perm (sorted_bonus_perm hps s.cand s.matched d ms) (foldMax_of_greatest hall hatt α)
      have hgen : ∀ mv ∈ env.sortFn (applyPvBonus s.cand s.matched d ms).fst, Generated p mv.mov := fun mv hmv =>
        .inl ⟨s.killers, ms, hms, (sorted_bonus_perm hps s.cand s.matched d ms).mem_iff.2 (List.mem_map_of_mem hmv)⟩
      rw [loop_value hcl (ih (d + 1)) (alphaBeta_frame hq.frame qfuel rem) hp (abLoop_step hq _ p idx d β) hβ _ hgen
        (fun _ => False.elim) α curLen subLen _ r _ hα hαβ (by exact hs) hr hw']
      exact clamp_min_max w α β

/-- the mate window at depth `d`: `Gen.LostScore + d` is what `terminalNodeScore` gives the side mated there -/
def InRange (d : Nat) (x : Int) : Prop := Gen.LostScore + d ≤ x ∧ x ≤ -(Gen.LostScore + d)

/-- the evaluation bound of C05 as an explicit hypothesis (discharged in `Lemmas/EvalBound`) -/
def EvalRange (blend : Blend) (G : Position → Prop) (D : Nat) : Prop :=
  ∀ p, G p → ∀ d : Nat, 1 ≤ d → d ≤ D →
    (∀ x, evaluate blend p d = .ok x → InRange d x) ∧ (∀ x, terminalNodeScore p d = .ok x → InRange d x)

theorem InRange.succ {d : Nat} {x : Int} (h : InRange (d + 1) x) : InRange d x := by
  unfold InRange at h ⊢
  omega

theorem childVal_range {f : Position → M Int} {p : Position} {m : Move} {v : Int} {d : Nat}
    (hv : childVal f p m = .ok v) (hf : ∀ q x, makeMove p m = .ok (q, true) → f q = .ok x → InRange d x) :
    InRange d v := by
  obtain ⟨q, b, x, hmk, rfl, hx, rfl⟩ := childVal_ok.1 hv
  have := hf q x hmk hx
  unfold InRange at this ⊢
  omega

theorem QV_range (blend : Blend) (G : Position → Prop) (hcl : Closed G) (D : Nat)
    (her : EvalRange blend G D) (fuel : Nat) :
    ∀ (d : Nat) (p : Position) (x : Int), G p → 1 ≤ d → d + fuel ≤ D → QV blend fuel p d = .ok x → InRange d x := by
  induction fuel with
  | zero => intro d p x _ _ _ h; simp only [QV, throw_ok] at h
  | succ fuel ih =>
    intro d p x hp hd hD h
    unfold QV at h
    simp only [bind_ok] at h
    obtain ⟨e, he, ms, hms, h⟩ := h
    rcases (foldMax_ok.1 h).2.2 with rfl | ⟨m, hm, hv⟩
    · exact (her p hp d hd (by omega)).1 x he
    · exact .succ <| childVal_range hv fun q y hmk hy =>
        ih (d + 1) q y (hcl p m q true hp (.inr ⟨ms, hms, hm⟩) hmk) (by omega) (by omega) hy

theorem V_range (blend : Blend) (qfuel : Nat) (G : Position → Prop) (hcl : Closed G) (D : Nat)
    (her : EvalRange blend G D) (rem : Nat) :
    ∀ (d : Nat) (p : Position) (x : Int), G p → 1 ≤ d → d + rem + qfuel ≤ D →
      V blend qfuel rem p d = .ok x → InRange d x := by
  induction rem with
  | zero =>
    intro d p x hp hd hD h
    unfold V at h
    exact QV_range blend G hcl D her qfuel d p x hp hd (by omega) h
  | succ rem ih =>
    intro d p x hp hd hD h
    obtain ⟨ms, hms, ⟨_, h⟩ | ⟨_, _, m, hm, hv⟩⟩ := V_succ_ok h
    · exact (her p hp d hd (by omega)).2 x h
    · exact .succ <| childVal_range hv fun q y hmk hy =>
        ih (d + 1) q y (hcl p m q true hp (.inl ⟨_, ms, hms, hm⟩) hmk) (by omega) (by omega) hy

structure Hyps (env : Env) (G : Position → Prop) : Prop where
  quiet : Quiet env
  perm : PermSort env
  killer : KillerIndep
  closed : Closed G
  lazyOk : LazyOn env G

theorem startAlphaBeta_value (env : Env) (G : Position → Prop) (H : Hyps env G) (D : Nat)
    (her : EvalRange env.blend G D) (qfuel : Nat) (p : Position) (hp : G p) (target : Nat)
    (hD : 1 + (target - 1) + qfuel ≤ D) (curLen : Nat) (s : SS) (score : Int) (one : Bool) (len : Nat)
    (s' : SS) (w : Int) (hs : s.interrupted = false)
    (h : startAlphaBeta env qfuel p target curLen s = .ok (score, one, len, s'))
    (hw : rootV env.blend qfuel target p = .ok w) : score = w := by
  obtain ⟨hq, hps, hki, hcl, hlz⟩ := H
  obtain ⟨ms0, hms0, hw⟩ := V_succ_ok hw
  obtain ⟨subLen, -, ms, hms, h⟩ := startAlphaBeta_ok.1 h
  have hmov := hki _ _ p ms ms0 hms hms0
  rw [← hmov] at hw
  rcases h with ⟨hemp, v', hv', rfl, -⟩ | ⟨hne, r, hr, rfl, -⟩
  · rcases hw with ⟨-, hw⟩ | ⟨hne, -⟩
    · exact Except.ok.inj (hv'.symm.trans hw)
    · rw [List.isEmpty_iff.1 hemp] at hmov
      exact absurd (List.map_eq_nil_iff.1 hmov.symm) hne
  · rcases hw with ⟨hnil, -⟩ | ⟨-, hall, hatt⟩
    · rw [hnil] at hmov
      exact absurd (List.isEmpty_iff.2 (List.map_eq_nil_iff.1 hmov)) hne
    -- no move is worth more than a mate in one, nor less than being mated at once
    have hvals : ∀ m, Generated p m → ∀ v, childVal (fun q => V env.blend qfuel (target - 1) q 1) p m = .ok v →
        InRange 1 v := fun m hm v hv => childVal_range hv fun q y hmk hy =>
      V_range env.blend qfuel G hcl D her (target - 1) 1 q y (hcl p m q true hp hm hmk) (by omega) hD hy
    have hlc : Gen.MinusInfinityScore < Gen.LostScore + 1 ∧ -(Gen.LostScore + 1) < (Gen.InfinityScore : Int) := by
      decide
    have hwr := hvals _ (.inl ⟨_, ms, hms, hatt.choose_spec.1⟩) w hatt.choose_spec.2
    unfold InRange at hwr
    have hw' := foldMax_perm (sorted_bonus_perm hps s.cand s.matched 0 ms)
      (foldMax_of_greatest hall hatt Gen.MinusInfinityScore)
    rw [show max Gen.MinusInfinityScore w = w by omega] at hw'
    have hgen : ∀ mv ∈ env.sortFn (applyPvBonus s.cand s.matched 0 ms).fst, Generated p mv.mov := fun mv hmv =>
      .inl ⟨s.killers, ms, hms, (sorted_bonus_perm hps s.cand s.matched 0 ms).mem_iff.2 (List.mem_map_of_mem hmv)⟩
    rw [loop_value hcl (alphaBeta_ok env hq hps hki G hcl hlz qfuel (target - 1) 1) (alphaBeta_frame hq.frame qfuel _) hp
      (rootLoop_step hq _ p target) (Int.le_refl _) _ hgen (fun t ht => ⟨by omega, fun m hm v hv => by
        obtain ⟨mv, hmv, rfl⟩ := List.mem_map.1 hm
        have := hvals _ (hgen mv hmv) v hv
        unfold InRange at this
        omega⟩) _ curLen subLen _ r w (Int.le_refl _) (by decide) (by exact hs) hr hw']
    omega

def AllGood (blend : Blend) (qfuel : Nat) (p : Position) (out : List Event) : Prop :=
  ∀ d sc nodes pv, Event.infoDepth d sc nodes pv ∈ out → ∀ w, rootV blend qfuel d p = .ok w → sc = w

theorem AllGood.cons_other {blend : Blend} {qfuel : Nat} {p : Position} {out : List Event}
    (h : AllGood blend qfuel p out) {e : Event} (he : e.depth? = none) : AllGood blend qfuel p (e :: out) := by
  intro d sc nodes pv hmem
  rcases List.mem_cons.1 hmem with heq | hmem
  · rw [← heq] at he
    cases he
  · exact h d sc nodes pv hmem

theorem AllGood.frame {blend : Blend} {qfuel : Nat} {p : Position} {s s' : SS}
    (h : AllGood blend qfuel p s.out) (hf : SearchFrame s s') : AllGood blend qfuel p s'.out := by
  obtain ⟨added, e, hadd⟩ := hf.out
  intro d sc nodes pv hmem
  rw [e] at hmem
  rcases List.mem_append.1 hmem with hm | hm
  · exact absurd (hadd _ hm).1 (by simp [Event.isSearchInfo])
  · exact h d sc nodes pv hm

theorem deepenLoop_ok (env : Env) (G : Position → Prop) (H : Hyps env G) (D : Nat)
    (her : EvalRange env.blend G D) (qfuel : Nat) (p : Position) (hp : G p) (maxDepth : Nat)
    (hD : maxDepth + qfuel ≤ D) (n : Nat) :
    ∀ (cur : Nat) (best : Int) (done len0 : Nat) (s : SS) (best' : Int) (done' : Nat) (s' : SS),
      1 ≤ cur → s.interrupted = false → AllGood env.blend qfuel p s.out →
      (∀ w, rootV env.blend qfuel done p = .ok w → best = w) →
      deepenLoop env qfuel p maxDepth n cur best done len0 s = .ok (best', done', s') →
      AllGood env.blend qfuel p s'.out ∧ (∀ w, rootV env.blend qfuel done' p = .ok w → best' = w) := by
  induction n with
  | zero =>
    intro cur best done len0 s best' done' s' _ _ hg hb h
    simp only [deepenLoop, pure_ok, Prod.mk.injEq] at h
    obtain ⟨rfl, rfl, rfl⟩ := h
    exact ⟨hg, hb⟩
  | succ n ih =>
    intro cur best done len0 s best' done' s' hcur hs hg hb h
    rcases deepenLoop_succ_ok.1 h with ⟨-, rfl, rfl, rfl⟩ | ⟨hle, score, one, len1, s1, hsa, h⟩
    · exact ⟨hg, hb⟩
    have hs1 : s1.interrupted = false := startAlphaBeta_frame H.quiet.frame hsa hs
    have hsc : ∀ w, rootV env.blend qfuel cur p = .ok w → score = w := fun w hw =>
      startAlphaBeta_value env G H D her qfuel p hp cur (by omega) len0 s score one len1 s1 w hs hsa hw
    rcases h with ⟨hto, -⟩ | ⟨-, ⟨hi, -⟩ | ⟨-, s2, hpr, h⟩⟩
    · rw [(H.quiet _).1] at hto; cases hto
    · rw [show s1.consult.interrupted = false from hs1] at hi; cases hi
    obtain ⟨-, rfl⟩ := printInfoAfterDepth_ok hpr
    have hg2 : AllGood env.blend qfuel p
        (.infoDepth cur score s1.nodes (copyBestLine s1.consult len1).cand :: s1.out) := by
      intro d sc nodes pv hmem
      rcases List.mem_cons.1 hmem with heq | hmem
      · cases heq
        exact hsc
      · exact hg.frame (startAlphaBeta_searchFrame hsa) d sc nodes pv hmem
    rcases h with ⟨-, rfl, rfl, rfl⟩ | ⟨-, ⟨-, rfl, rfl, rfl⟩ | ⟨-, h⟩⟩
    · exact ⟨hg2, hsc⟩
    · exact ⟨hg2, hsc⟩
    · exact ih (cur + 1) score cur len1 _ best' done' s' (by omega) (by exact hs1) hg2 hsc h

theorem iterDeep_ok (env : Env) (G : Position → Prop) (H : Hyps env G) (D : Nat)
    (her : EvalRange env.blend G D) (qfuel : Nat) (p : Position) (hp : G p) (maxDepth : Nat)
    (hD1 : 1 + qfuel ≤ D) (hD : maxDepth + qfuel ≤ D) (killers : Killers) (rows : Array (Array Move))
    (len0 : Nat) (s : SS) (h : iterDeep env qfuel p maxDepth killers rows len0 = .ok s) :
    AllGood env.blend qfuel p s.out ∧
    ((∃ m best done nodes pv rest, s.out = .bestmove m :: .infoPv best done nodes pv :: rest ∧
        ∀ w, rootV env.blend qfuel done p = .ok w → best = w) ∨
     (∃ sc rest, s.out = .bestmoveNone :: .infoTerminal sc :: rest ∧
        ∀ w, rootV env.blend qfuel 1 p = .ok w → sc = w)) := by
  obtain ⟨score, one, l, s1, hsa, hc⟩ := iterDeep_cases h
  have hs1 : s1.interrupted = false := startAlphaBeta_frame H.quiet.frame hsa rfl
  have hsc : ∀ w, rootV env.blend qfuel 1 p = .ok w → score = w := fun w hw =>
    startAlphaBeta_value env G H D her qfuel p hp 1 (by omega) len0 _ score one l s1 w rfl hsa hw
  have hg1 : AllGood env.blend qfuel p s1.out :=
    AllGood.frame (s := initSS rows killers) (fun _ _ _ _ hm => nomatch hm) (startAlphaBeta_searchFrame hsa)
  rcases hc with ⟨-, rfl⟩ | ⟨-, best, done, s2, m, tl, hd, -, rfl⟩
  · exact ⟨(hg1.cons_other (by rfl)).cons_other (by rfl), .inr ⟨score, _, rfl, hsc⟩⟩
  · have h2 : AllGood env.blend qfuel p s2.out ∧ ∀ w, rootV env.blend qfuel done p = .ok w → best = w := by
      unfold deepenFrom at hd
      split at hd
      · exact deepenLoop_ok env G H D her qfuel p hp maxDepth hD maxDepth 2 score 1 l _ best done s2
          (by omega) (by exact hs1) (by exact hg1) hsc hd
      · simp only [pure_ok, Prod.mk.injEq] at hd
        obtain ⟨rfl, rfl, rfl⟩ := hd
        exact ⟨hg1, hsc⟩
    exact ⟨(h2.1.cons_other (by rfl)).cons_other (by rfl), .inl ⟨m, best, done, _, _, _, rfl, h2.2⟩⟩

end Magog.Lemmas.AlphaBeta
