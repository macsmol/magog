import Magog.Lemmas.AlphaBeta
import Magog.Model.Start
import Magog.Model.Fen
import Magog.Lemmas.PositionEq
import Magog.Props.C02

/-! Concrete witnesses for the non-vacuity examples of C04 (kernel-evaluated runs of the model). -/

namespace Magog.Lemmas.AlphaBeta
open Magog Magog.Model Magog.Spec.Minimax

/-- Bool test "`x` is `.ok a`", so that closed runs of the model can be checked by `decide +kernel` -/
def okIs {α} [DecidableEq α] (x : M α) (a : α) : Bool :=
  match x with
  | .ok b => decide (b = a)
  | .error _ => false

theorem okIs_eq {α} [DecidableEq α] {x : M α} {a : α} (h : okIs x a = true) : x = .ok a := by
  unfold okIs at h
  split at h
  · simp only [decide_eq_true_eq] at h; rw [h]
  · cases h

/-- a generator run whose list of moves is tested empty returned the empty list -/
theorem okIs_movs_nil {x : M (List RMove)} (h : okIs ((fun ms => ms.map (·.mov)) <$> x) [] = true) : x = .ok [] := by
  obtain ⟨ms, hms, hnil⟩ := map_ok.1 (okIs_eq h)
  rw [hms, List.map_eq_nil_iff.mp hnil]

/-- a simple integer blend (the driver uses the `float64` one) -/
def demoBlend : Blend := fun _ mid _ => mid

/-- quiet clock, identity sort, full evaluation -/
def demoEnv : Env :=
  { blend := demoBlend, sortFn := id, timeUp := fun _ => false, stopAt := fun _ => false,
    gateOpen := fun _ => false, logInterval := 1000, lazy := false }

/-- the same with the engine's lazy evaluation and a real reordering (reverse) -/
def demoEnvLazy : Env := { demoEnv with lazy := true, sortFn := List.reverse }

def demoSS : SS :=
  { rows := newRows 8, killers := Killers.empty, nodes := 0, interrupted := false, tick := 0, matched := 0,
    cand := [], rootMoves := [], firstMoveIdx := 0, out := [] }

theorem demoEnv_quiet : Quiet demoEnv := fun _ => ⟨rfl, rfl⟩
theorem demoEnv_perm : PermSort demoEnv := fun l => List.Perm.refl l
theorem demoEnvLazy_quiet : Quiet demoEnvLazy := fun _ => ⟨rfl, rfl⟩
theorem demoEnvLazy_perm : PermSort demoEnvLazy := fun l => List.reverse_perm l
theorem closed_true : Closed (fun _ => True) := fun _ _ _ _ _ _ _ => trivial
theorem demoEnv_lazyOn (G : Position → Prop) : LazyOn demoEnv G := fun h => by cases h

/-- a position from a FEN string (the fallback is never taken for the strings used below: every fact
    about these positions is checked by kernel evaluation) -/
def ofFen (fen : String) : Position :=
  match parseFen (fen.toUTF8.toList.map (·.toNat)) with
  | .ok (.ok p) => p
  | _ => startPosition

/-- Whatever the string: what the loader accepts is well-formed with the side not to move out of check, and so
    is the fallback. No witness built with `ofFen` needs these two facts evaluated. -/
theorem ofFen_good (fen : String) : Inv (ofFen fen) ∧ MM.OppSafe (ofFen fen) := by
  unfold ofFen
  split
  · next h => exact ⟨Props.C02.fen_inv h, Props.C08.fen_oppSafe h⟩
  · exact ⟨inv_startPosition, Props.C02.oppSafe_start⟩

/-! #### a pawn ending with a capture sequence (exd5 Kxd5): Ke3 Pe4 / Ke5 Pd5, white to move -/

def capPos : Position := ofFen "8/8/8/3pk3/4P3/4K3/8/8 w - - 0 1"

theorem capPos_eq : capPos =
    { board := #[0, 0, 0, 0, 0, 0, 0, 0, 0, 0, 0, 0, 0, 0, 0, 0, 0, 0, 0, 0, 0, 0, 0, 0, 0, 0, 0, 0, 0, 0, 0, 0,
      0, 0, 0, 0, 160, 0, 0, 0, 0, 0, 0, 0, 0, 0, 0, 0, 0, 0, 0, 0, 129, 0, 0, 0, 0, 0, 0, 0, 0, 0, 0, 0, 0, 0, 0,
      65, 96, 0, 0, 0, 0, 0, 0, 0, 0, 0, 0, 0, 0, 0, 0, 0, 0, 0, 0, 0, 0, 0, 0, 0, 0, 0, 0, 0, 0, 0, 0, 0, 0, 0,
      0, 0, 0, 0, 0, 0, 0, 0, 0, 0, 0, 0, 0, 0, 0, 0, 0, 0, 0, 0, 0, 0, 0, 0, 0, 0], blackPieces := [],
      whitePieces := [], blackPawns := [67], whitePawns := [52], blackKing := 68, whiteKing := 36, flags := 1, ep
      := 136, ply := 0 } := by
  decide +kernel

/-- The runs on `capPos`, evaluated together (the kernel then generates and scores each position once). The lazy
    shortcut is taken: the cheap score 20 is returned instead of the full 25; the quiescence search visits three
    nodes (root, exd5, Kxd5). -/
theorem cap_runs : okIs (isCheckMate capPos) false = true ∧ okIs (pieceSquareScore demoBlend capPos) 20 = true ∧
    okIs (evaluate demoBlend capPos 0) 25 = true ∧ okIs (lazyEvaluate demoBlend capPos 0 400 500) 20 = true ∧
    okIs ((fun r => (r.1, r.2.1, r.2.2.nodes)) <$> quiescence demoEnv 3 capPos 0 0 (-50) 50 0 demoSS) (25, 0, 3) = true ∧
    okIs (QV demoBlend 3 capPos 0) 25 = true := by
  rw [capPos_eq]; decide +kernel

theorem cap_notMate : isCheckMate capPos = .ok false := okIs_eq cap_runs.1
theorem cap_cheap : pieceSquareScore demoBlend capPos = .ok 20 := okIs_eq cap_runs.2.1
theorem cap_full : evaluate demoBlend capPos 0 = .ok 25 := let ⟨_, _, h, _⟩ := cap_runs; okIs_eq h
theorem cap_lazy : lazyEvaluate demoBlend capPos 0 400 500 = .ok 20 := let ⟨_, _, _, h, _⟩ := cap_runs; okIs_eq h

theorem cap_lazyGood : LazyGood demoBlend capPos 0 := by
  intro cheap full _ hc hf
  rw [cap_cheap] at hc; rw [cap_full] at hf
  cases hc; cases hf
  decide

theorem cap_quiescence :
    okIs ((fun r => (r.1, r.2.1, r.2.2.nodes)) <$> quiescence demoEnv 3 capPos 0 0 (-50) 50 0 demoSS) (25, 0, 3) = true :=
  let ⟨_, _, _, _, h, _⟩ := cap_runs; h
theorem cap_QV : QV demoBlend 3 capPos 0 = .ok 25 := let ⟨_, _, _, _, _, h⟩ := cap_runs; okIs_eq h

/-! #### Ka1 Pa2 / Kh8, white to move: four legal moves -/

def kpaPos : Position := ofFen "7k/8/8/8/8/8/P7/K7 w - - 0 1"

theorem kpaPos_eq : kpaPos =
    { board := #[160, 0, 0, 0, 0, 0, 0, 0, 0, 0, 0, 0, 0, 0, 0, 0, 129, 0, 0, 0, 0, 0, 0, 0, 0, 0, 0, 0, 0, 0, 0,
      0, 0, 0, 0, 0, 0, 0, 0, 0, 0, 0, 0, 0, 0, 0, 0, 0, 0, 0, 0, 0, 0, 0, 0, 0, 0, 0, 0, 0, 0, 0, 0, 0, 0, 0, 0,
      0, 0, 0, 0, 0, 0, 0, 0, 0, 0, 0, 0, 0, 0, 0, 0, 0, 0, 0, 0, 0, 0, 0, 0, 0, 0, 0, 0, 0, 0, 0, 0, 0, 0, 0, 0,
      0, 0, 0, 0, 0, 0, 0, 0, 0, 0, 0, 0, 0, 0, 0, 0, 96, 0, 0, 0, 0, 0, 0, 0, 0], blackPieces := [], whitePieces
      := [], blackPawns := [], whitePawns := [16], blackKing := 119, whiteKing := 0, flags := 1, ep := 136, ply :=
      0 } := by
  decide +kernel

/-- a one-ply search that fails high: 3 of the 5 nodes are visited, the fail-hard result is β = 130, while the
    minimax value is 135 (one evaluation for both) -/
theorem kpa_runs :
    okIs ((fun r => (r.1, r.2.1, r.2.2.nodes)) <$> alphaBeta demoEnv 1 1 kpaPos 0 0 100 130 0 demoSS) (130, 1, 3) = true ∧
    okIs (V demoBlend 1 1 kpaPos 0) 135 = true := by
  rw [kpaPos_eq]; decide +kernel

theorem kpa_alphaBeta :
    okIs ((fun r => (r.1, r.2.1, r.2.2.nodes)) <$> alphaBeta demoEnv 1 1 kpaPos 0 0 100 130 0 demoSS) (130, 1, 3) = true :=
  kpa_runs.1
theorem kpa_V : V demoBlend 1 1 kpaPos 0 = .ok 135 := okIs_eq kpa_runs.2

/-! #### a mated root: 1. f3 e5 2. g4 Qh4# -/

def foolsMateFen : String := "rnb1kbnr/pppp1ppp/8/4p3/6Pq/5P2/PPPPP2P/RNBQKBNR w KQkq - 1 3"

def foolsMate : Position := ofFen foolsMateFen

theorem foolsMate_eq : foolsMate =
    { board := #[136, 130, 132, 144, 160, 132, 130, 136, 0, 0, 0, 0, 0, 0, 0, 0, 129, 129, 129, 129, 129, 0, 0,
      129, 0, 0, 0, 0, 0, 0, 0, 0, 0, 0, 0, 0, 0, 129, 0, 0, 0, 0, 0, 0, 0, 0, 0, 0, 0, 0, 0, 0, 0, 0, 129, 80, 0,
      0, 0, 0, 0, 0, 0, 0, 0, 0, 0, 0, 65, 0, 0, 0, 0, 0, 0, 0, 0, 0, 0, 0, 0, 0, 0, 0, 0, 0, 0, 0, 0, 0, 0, 0, 0,
      0, 0, 0, 65, 65, 65, 65, 0, 65, 65, 65, 0, 0, 0, 0, 0, 0, 0, 0, 72, 66, 68, 0, 96, 68, 66, 72, 0, 0, 0, 0,
      0, 0, 0, 0], blackPieces := [112, 113, 114, 117, 118, 119, 55], whitePieces := [0, 1, 2, 3, 5, 6, 7],
      blackPawns := [96, 97, 98, 99, 101, 102, 103, 68], whitePawns := [54, 37, 16, 17, 18, 19, 20, 23], blackKing
      := 116, whiteKing := 4, flags := 31, ep := 136, ply := 4 } := by
  decide +kernel

/-- Everything that is evaluated on `foolsMate`, together: each of these runs generates the moves of the mated
    root, and within one evaluation the kernel does that once. The nine conjuncts are named below, in this order:
    `fm_gen`, `fm_tact`, `fm_count`, `fm_mate`, `fm_check`, `fm_start`, `fm_rootV`, `fm_rootV1`, `fm_iterDeep`. -/
theorem fm_runs :
    okIs ((fun ms => ms.map (·.mov)) <$> generateMoves Killers.empty foolsMate) [] = true ∧
    okIs ((fun ms => ms.map (·.mov)) <$> generateTacticalMoves foolsMate) [] = true ∧
    okIs (countMoves foolsMate) 0 = true ∧ okIs (isCheckMate foolsMate) true = true ∧
    okIs (isCurrentKingUnderCheck foolsMate) true = true ∧
    okIs ((fun r => (r.1, r.2.1)) <$> startAlphaBeta demoEnvLazy 3 foolsMate 2 0 demoSS) (Gen.LostScore, false) = true ∧
    okIs (rootV demoBlend 3 2 foolsMate) Gen.LostScore = true ∧ okIs (rootV demoBlend 3 1 foolsMate) Gen.LostScore = true ∧
    okIs ((fun s => s.out) <$> iterDeep demoEnvLazy 3 foolsMate 5 Killers.empty (newRows 8) 0)
      [.bestmoveNone, .infoTerminal Gen.LostScore] = true := by
  rw [foolsMate_eq]; decide +kernel

theorem fm_gen : generateMoves Killers.empty foolsMate = .ok [] := okIs_movs_nil fm_runs.1
theorem fm_tact : generateTacticalMoves foolsMate = .ok [] := okIs_movs_nil fm_runs.2.1
theorem fm_count : countMoves foolsMate = .ok 0 := let ⟨_, _, h, _⟩ := fm_runs; okIs_eq h
theorem fm_mate : isCheckMate foolsMate = .ok true := let ⟨_, _, _, h, _⟩ := fm_runs; okIs_eq h
theorem fm_check : isCurrentKingUnderCheck foolsMate = .ok true := let ⟨_, _, _, _, h, _⟩ := fm_runs; okIs_eq h

def FM (p : Position) : Prop := p = foolsMate

theorem fm_closed (hki : KillerIndep) : Closed FM := by
  intro p m q b hp hgen _
  unfold FM at hp; subst hp
  exfalso
  cases hgen with
  | inl h =>
    obtain ⟨kt, ms, hms, hm⟩ := h
    rw [hki kt Killers.empty foolsMate ms [] hms fm_gen] at hm
    cases hm
  | inr h =>
    obtain ⟨ms, hms, hm⟩ := h
    rw [fm_tact] at hms; cases hms
    cases hm

theorem fm_lazyOn : LazyOn demoEnvLazy FM := by
  intro _ p hp d cheap full hmate _ _
  unfold FM at hp; subst hp
  rw [fm_mate] at hmate
  cases hmate

theorem fm_evalRange : EvalRange demoEnvLazy.blend FM 100 := by
  intro p hp d hd hD
  unfold FM at hp; subst hp
  constructor
  · intro x hx
    unfold evaluate lazyEvaluate at hx
    simp only [fm_mate, bind_ok, Except.ok.injEq, exists_eq_left', if_true, pure_ok] at hx
    subst hx
    unfold InRange
    simp only [Gen.LostScore]
    omega
  · intro x hx
    unfold terminalNodeScore at hx
    simp only [fm_check, bind_ok, Except.ok.injEq, exists_eq_left', if_true, pure_ok] at hx
    subst hx
    unfold InRange
    simp only [Gen.LostScore]
    omega

theorem fm_hyps (hki : KillerIndep) : Hyps demoEnvLazy FM :=
  ⟨demoEnvLazy_quiet, demoEnvLazy_perm, hki, fm_closed hki, fm_lazyOn⟩

theorem fm_start : okIs ((fun r => (r.1, r.2.1)) <$> startAlphaBeta demoEnvLazy 3 foolsMate 2 0 demoSS)
    (Gen.LostScore, false) = true := let ⟨_, _, _, _, _, h, _⟩ := fm_runs; h
theorem fm_rootV : rootV demoBlend 3 2 foolsMate = .ok Gen.LostScore := let ⟨_, _, _, _, _, _, h, _⟩ := fm_runs; okIs_eq h
theorem fm_rootV1 : rootV demoBlend 3 1 foolsMate = .ok Gen.LostScore := let ⟨_, _, _, _, _, _, _, h, _⟩ := fm_runs; okIs_eq h
theorem fm_iterDeep : okIs ((fun s => s.out) <$> iterDeep demoEnvLazy 3 foolsMate 5 Killers.empty (newRows 8) 0)
    [.bestmoveNone, .infoTerminal Gen.LostScore] = true := let ⟨_, _, _, _, _, _, _, _, h⟩ := fm_runs; h

end Magog.Lemmas.AlphaBeta
