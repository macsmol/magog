import Magog.Lemmas.Geometry
import Magog.Lemmas.MBasic

/-! Attack detection (`isUnderCheck`) against the rules-of-chess specification (`Spec.attacked`,
    `Spec.inCheck`) for an arbitrary well-formed board. What "well-formed" means for a board and for a side's
    lists is fixed here too: `BoardOk` and `SideOk` (the two main fields of `Inv`) with their Boolean checkers, in
    the code vocabulary `pieceCodes`, `pawnOf`, `kingOf`, `officersOf`, `colorOf`; and the `to64`/`to88` round trips
    between the 0x88 squares and the specification's 0..63. -/

namespace Magog.Atk
open Magog Magog.Model Magog.Geo

theorem pos_ext {P Q : Spec.Pos} (h1 : P.board = Q.board) (h2 : P.turn = Q.turn) (h3 : P.wk = Q.wk)
    (h4 : P.wq = Q.wq) (h5 : P.bk = Q.bk) (h6 : P.bq = Q.bq) (h7 : P.ep = Q.ep) : P = Q := by
  cases P; cases Q; simp_all

def pieceCodes : List Nat :=
  [Gen.WPawn, Gen.WKnight, Gen.WBishop, Gen.WRook, Gen.WQueen, Gen.WKing,
   Gen.BPawn, Gen.BKnight, Gen.BBishop, Gen.BRook, Gen.BQueen, Gen.BKing]

def pawnOf (white : Bool) : Nat := if white then Gen.WPawn else Gen.BPawn
def kingOf (white : Bool) : Nat := if white then Gen.WKing else Gen.BKing
/-- the men kept in a side's `pieces` list -/
def officersOf (white : Bool) : List Nat :=
  if white then [Gen.WKnight, Gen.WBishop, Gen.WRook, Gen.WQueen]
  else [Gen.BKnight, Gen.BBishop, Gen.BRook, Gen.BQueen]

def colorOf (white : Bool) : Spec.Color := if white then .white else .black

/-- The 128-slot 0x88 array read on its board squares only; the off-board slots are `Inv.offBoard`'s. -/
structure BoardOk (board : Array Nat) : Prop where
  size : board.size = 128
  codes : ∀ s, s < 128 → isValid s = true → ∃ v, board[s]? = some v ∧ (v = 0 ∨ v ∈ pieceCodes)

/-- The side record agrees with the board. Each field is an iff: left to right the list is sound, right to left
    complete. `king` has the same shape with `s = sd.king` for membership, so that `(king sd.king).1 rfl` is "the
    king stands on `sd.king`" and `(king s).2` is "no other square holds a king of this colour". -/
structure SideOk (board : Array Nat) (sd : Side) (white : Bool) : Prop where
  pawns : ∀ s, s ∈ sd.pawns ↔ (s < 128 ∧ isValid s = true ∧ board[s]? = some (pawnOf white))
  pieces : ∀ s, s ∈ sd.pieces ↔ (s < 128 ∧ isValid s = true ∧ ∃ c ∈ officersOf white, board[s]? = some c)
  king : ∀ s, s = sd.king ↔ (s < 128 ∧ isValid s = true ∧ board[s]? = some (kingOf white))

def boardOkB (board : Array Nat) : Bool :=
  board.size == 128 &&
  sq88.all fun s => match board[s]? with
    | some v => v == 0 || pieceCodes.contains v
    | none => false

/-- "Board square" has three spellings. `s < 128 ∧ isValid s = true` in the fields of `BoardOk`, `SideOk`, `Inv`:
    the spelling of `FenSpec.ListSound`, which is stated over `Model` alone. `s ∈ sq88` where a lemma or a kernel
    sweep ranges over the squares. `onBoard s = true` inside Boolean checkers and kernel-evaluated hypotheses, where
    membership in the list is dear. `mem_sq88` and `onBoard_iff` convert. -/
def onBoard (s : Nat) : Bool := decide (s < 128) && isValid s

def sideOkB (board : Array Nat) (sd : Side) (white : Bool) : Bool :=
  (sd.pawns.all fun s => onBoard s && board[s]? == some (pawnOf white)) &&
  (sd.pieces.all fun s => onBoard s && (officersOf white).any fun c => board[s]? == some c) &&
  (onBoard sd.king && board[sd.king]? == some (kingOf white)) &&
  (sq88.all fun s =>
    (board[s]? != some (pawnOf white) || sd.pawns.contains s) &&
    (!((officersOf white).any fun c => board[s]? == some c) || sd.pieces.contains s) &&
    (board[s]? != some (kingOf white) || s == sd.king))

theorem boardOk_of_boardOkB {board : Array Nat} (h : boardOkB board = true) : BoardOk board := by
  simp only [boardOkB, Bool.and_eq_true, beq_iff_eq, List.all_eq_true] at h
  refine ⟨h.1, fun s hs hv => ?_⟩
  have := h.2 s (mem_sq88.2 ⟨hs, hv⟩)
  cases hb : board[s]? with
  | none => simp [hb] at this
  | some v =>
    refine ⟨v, rfl, ?_⟩
    simpa [hb] using this

theorem onBoard_iff {s : Nat} : onBoard s = true ↔ s < 128 ∧ isValid s = true := by
  simp [onBoard]

theorem sideOk_of_sideOkB {board : Array Nat} {sd : Side} {white : Bool}
    (h : sideOkB board sd white = true) : SideOk board sd white := by
  simp only [sideOkB, Bool.and_eq_true, List.all_eq_true, beq_iff_eq, onBoard_iff, List.any_eq_true,
    Bool.or_eq_true, bne_iff_ne, ne_eq, Bool.not_eq_true', List.contains_iff_mem] at h
  obtain ⟨⟨⟨hp, hq⟩, hk⟩, hall⟩ := h
  -- `pawns`, `pieces`, `king`, each sound (from the pass over the list) then complete (from the pass over `sq88`)
  refine ⟨fun s => ⟨fun hs => ?_, fun hs => ?_⟩, fun s => ⟨fun hs => ?_, fun hs => ?_⟩,
    fun s => ⟨fun hs => ?_, fun hs => ?_⟩⟩
  · have := hp s hs; exact ⟨this.1.1, this.1.2, this.2⟩
  · have := (hall s (mem_sq88.2 ⟨hs.1, hs.2.1⟩)).1.1
    rcases this with h | h
    · exact absurd hs.2.2 h
    · exact h
  · have := hq s hs; exact ⟨this.1.1, this.1.2, this.2⟩
  · have := (hall s (mem_sq88.2 ⟨hs.1, hs.2.1⟩)).1.2
    rcases this with h | h
    · obtain ⟨c, hc, hbc⟩ := hs.2.2
      have : (officersOf white).any (fun c => board[s]? == some c) = true :=
        List.any_eq_true.2 ⟨c, hc, by simp [hbc]⟩
      simp [this] at h
    · exact h
  · subst hs; exact ⟨hk.1.1, hk.1.2, hk.2⟩
  · have := (hall s (mem_sq88.2 ⟨hs.1, hs.2.1⟩)).2
    rcases this with h | h
    · exact absurd hs.2.2 h
    · exact h

theorem to64_lt {s : Nat} (hs : s ∈ sq88) : to64 s < 64 := by
  have : ∀ s ∈ sq88, to64 s < 64 := by decide +kernel
  exact this s hs

theorem to88_to64 {s : Nat} (hs : s ∈ sq88) : to88 (to64 s) = s := by
  have : ∀ s ∈ sq88, to88 (to64 s) = s := by decide +kernel
  exact this s hs

theorem to64_to88 {i : Nat} (hi : i < 64) : to64 (to88 i) = i := by
  have : ∀ i < 64, to64 (to88 i) = i := by decide +kernel
  exact this i hi

theorem to88_mem {i : Nat} (hi : i < 64) : to88 i ∈ sq88 :=
  List.mem_map.2 ⟨i, List.mem_range.2 hi, rfl⟩

theorem decode_isNone {v : Nat} (hv : v = 0 ∨ v ∈ pieceCodes) : (decodePiece v).isNone = (v == 0) := by
  have : ∀ v ∈ 0 :: pieceCodes, (decodePiece v).isNone = (v == 0) := by decide
  exact this v (List.mem_cons.2 hv)

theorem decode_pawn (w : Bool) : decodePiece (pawnOf w) = some ⟨colorOf w, .pawn⟩ := by
  cases w <;> decide

theorem decode_king (w : Bool) : decodePiece (kingOf w) = some ⟨colorOf w, .king⟩ := by
  cases w <;> decide

/-- a piece-list entry is one of four codes: which of the generator's tests it passes, its kind bits, and the man
    it stands for -/
theorem officer_cases {w : Bool} {pc : Nat} (h : pc ∈ officersOf w) :
    ((pc == Gen.WKnight || pc == Gen.BKnight) = true ∧ pc &&& Colorless = Gen.Knight ∧
      decodePiece pc = some ⟨colorOf w, .knight⟩) ∨
    ((pc == Gen.WKnight || pc == Gen.BKnight) = false ∧ (pc == Gen.WBishop || pc == Gen.BBishop) = true ∧
      pc &&& Colorless = Gen.Bishop ∧ decodePiece pc = some ⟨colorOf w, .bishop⟩) ∨
    ((pc == Gen.WKnight || pc == Gen.BKnight) = false ∧ (pc == Gen.WBishop || pc == Gen.BBishop) = false ∧
      (pc == Gen.WRook || pc == Gen.BRook) = true ∧ pc &&& Colorless = Gen.Rook ∧
      decodePiece pc = some ⟨colorOf w, .rook⟩) ∨
    ((pc == Gen.WKnight || pc == Gen.BKnight) = false ∧ (pc == Gen.WBishop || pc == Gen.BBishop) = false ∧
      (pc == Gen.WRook || pc == Gen.BRook) = false ∧ (pc == Gen.WQueen || pc == Gen.BQueen) = true ∧
      pc &&& Colorless = Gen.Queen ∧ decodePiece pc = some ⟨colorOf w, .queen⟩) := by
  revert pc
  cases w <;> decide

theorem classify {v : Nat} (hv : v = 0 ∨ v ∈ pieceCodes) (w : Bool)
    (h : (match decodePiece v with | some m => m.color == colorOf w | none => false) = true) :
    v = pawnOf w ∨ v ∈ officersOf w ∨ v = kingOf w := by
  have : ∀ v ∈ 0 :: pieceCodes, ∀ w : Bool,
      (match decodePiece v with | some m => m.color == colorOf w | none => false) = true →
      v = pawnOf w ∨ v ∈ officersOf w ∨ v = kingOf w := by decide
  exact this v (List.mem_cons.2 hv) w h

theorem decode_eq_king {v : Nat} (hv : v = 0 ∨ v ∈ pieceCodes) (w : Bool)
    (h : decodePiece v = some ⟨colorOf w, .king⟩) : v = kingOf w := by
  have : ∀ v ∈ 0 :: pieceCodes, ∀ w : Bool,
      decodePiece v = some ⟨colorOf w, .king⟩ → v = kingOf w := by decide
  exact this v (List.mem_cons.2 hv) w h

theorem pawnFlag_of_king (w : Bool) :
    (if kingOf w &&& BlackBit == 0 then Gen.WPawnAttacks else Gen.BPawnAttacks)
      = (if w then Gen.WPawnAttacks else Gen.BPawnAttacks) := by
  cases w <;> decide

theorem absBoard_size (B : Array Nat) : (absBoard B).size = 64 := by
  simp [absBoard]

theorem absBoard_at {board : Array Nat} {s v : Nat} (hs : s ∈ sq88) (h : board[s]? = some v) :
    (absBoard board).getD (to64 s) none = decodePiece v := by
  have hlt := to64_lt hs
  simp [absBoard, Array.getD_eq_getD_getElem?, hlt, to88_to64 hs, h]

theorem moveIndex_toNat {a d : Nat} (ha : a ∈ sq88) :
    moveIndex a d = ((idxN a d : Nat) : Int) := by
  have := valid_le ha
  simp only [moveIndex, idxN] at *
  omega

theorem tget_nat (t : List Nat) (what : String) (i : Nat) (hi : i < t.length) :
    tget t.toArray what (i : Int) = .ok (t.getD i 0) := by
  simp [tget, hi, pure, Except.pure, List.getD_eq_getElem?_getD]

theorem tget_attack {a d : Nat} (ha : a ∈ sq88) (hd : d ∈ sq88) :
    tget attackTable "attackTable" (moveIndex a d) = .ok (attackAt a d) := by
  rw [moveIndex_toNat ha, attackTable, attackAt]
  exact tget_nat _ _ _ (by rw [attack_len]; exact idxN_lt ha hd)

theorem tget_direction {a d : Nat} (ha : a ∈ sq88) (hd : d ∈ sq88) :
    tget directionTable "directionTable" (moveIndex a d) = .ok (dirAt a d) := by
  rw [moveIndex_toNat ha, directionTable, dirAt]
  exact tget_nat _ _ _ (by rw [direction_len]; exact idxN_lt ha hd)

theorem sliderWalk_eq (board : Array Nat) (dir dest : Nat) :
    ∀ (fuel sq : Nat) (l : List Nat), walkList dir dest fuel sq = some l →
      (∀ s ∈ l, s < board.size) →
      sliderWalk board dir dest fuel sq = .ok (l.all fun s => board.getD s 0 == 0) := by
  intro fuel
  induction fuel with
  | zero => intro sq l h; simp [walkList] at h
  | succ n ih =>
    intro sq l h hl
    simp only [walkList] at h
    by_cases hsd : (sq == dest) = true
    · simp only [hsd, if_true, Option.some.injEq] at h
      subst h
      simp [sliderWalk, hsd, pure, Except.pure]
    · simp only [hsd, Bool.false_eq_true, if_false, Option.map_eq_some_iff] at h
      obtain ⟨l', hl', rfl⟩ := h
      have hsq : sq < board.size := hl sq (List.mem_cons_self)
      have ih' := ih (addb sq dir) l' hl' (fun s hs => hl s (List.mem_cons_of_mem _ hs))
      have hg : board.getD sq 0 = board[sq] := by simp [Array.getD_eq_getD_getElem?, hsq]
      simp only [sliderWalk, hsd, Bool.false_eq_true, if_false, bget, hsq, dite_true, bind,
        Except.bind, pure, Except.pure, ih', List.all_cons, hg]
      by_cases hc : board[sq] = 0 <;> simp [hc]

/-- the specification's per-attacker test (the body of `Spec.attacked`), at a 0x88 square -/
def att (board : Array Nat) (c : Spec.Color) (d s : Nat) : Bool :=
  match (absBoard board).getD (to64 s) none with
  | some m => m.color == c && Spec.manAttacks (absBoard board) m (to64 s) (to64 d)
  | none => false

theorem att_of_decode {board : Array Nat} {s v : Nat} {m : Spec.Man} (c : Spec.Color) (d : Nat)
    (hs : s ∈ sq88) (h : board[s]? = some v) (hm : decodePiece v = some m) :
    att board c d s = (m.color == c && Spec.manAttacks (absBoard board) m (to64 s) (to64 d)) := by
  simp only [att, absBoard_at hs h, hm]

theorem walk_of_line {a t : Nat} (ha : a ∈ sq88) (ht : t ∈ sq88)
    (h : (Spec.onLine (to64 a) (to64 t) || Spec.onDiag (to64 a) (to64 t)) = true) :
    ∃ l, walkList (dirAt a t) t 8 (addb a (dirAt a t)) = some l ∧ (∀ s ∈ l, s ∈ sq88) ∧
      l.map to64 = Spec.between (to64 a) (to64 t) := by
  have hp := pairOk_of_valid ha ht
  simp only [pairOk, Bool.and_eq_true] at hp
  have hw := hp.2
  rw [if_pos h] at hw
  cases hl : walkList (dirAt a t) t 8 (addb a (dirAt a t)) with
  | none => simp [hl] at hw
  | some l =>
    simp only [hl, Bool.and_eq_true, List.all_eq_true, decide_eq_true_eq, beq_iff_eq] at hw
    exact ⟨l, rfl, fun s hs => mem_sq88.2 (hw.1 s hs), hw.2⟩

theorem all_empty_eq {board : Array Nat} (hb : BoardOk board) :
    ∀ l : List Nat, (∀ s ∈ l, s ∈ sq88) →
      (l.map to64).all (fun s => ((absBoard board).getD s none).isNone)
        = l.all fun s => board.getD s 0 == 0 := by
  intro l
  induction l with
  | nil => intro _; simp only [List.map_nil, List.all_nil]
  | cons x xs ih =>
    intro h
    have hx : x ∈ sq88 := h x List.mem_cons_self
    obtain ⟨hx1, hx2⟩ := mem_sq88.1 hx
    obtain ⟨v, hv, hcode⟩ := hb.codes x hx1 hx2
    simp only [List.map_cons, List.all_cons, ih (fun s hs => h s (List.mem_cons_of_mem _ hs)),
      absBoard_at hx hv, decode_isNone hcode, getD_of_some hv]

theorem clear_eq {board : Array Nat} (hb : BoardOk board) {l : List Nat} {a' t' : Nat}
    (hl : ∀ s ∈ l, s ∈ sq88) (hm : l.map to64 = Spec.between a' t') :
    Spec.clear (absBoard board) a' t' = l.all fun s => board.getD s 0 == 0 := by
  rw [Spec.clear, ← hm]
  exact all_empty_eq hb l hl

theorem slider_attacks {board : Array Nat} (hb : BoardOk board) {a d c : Nat}
    (ha : a ∈ sq88) (hd : d ∈ sq88) (hc : board[a]? = some c) (bit : Nat) (rel : Bool)
    (hbit : c &&& Colorless = bit) (hnk : bit &&& Knight = 0) (hrel : hasBit a d bit = rel)
    (himp : rel = true → (Spec.onLine (to64 a) (to64 d) || Spec.onDiag (to64 a) (to64 d)) = true) :
    pieceAttacks board d a = .ok (rel && Spec.clear (absBoard board) (to64 a) (to64 d)) := by
  simp only [pieceAttacks, bget_ok_iff.2 hc, tget_attack ha hd, tget_direction ha hd, bind,
    Except.bind, hbit, hnk]
  simp only [hasBit] at hrel
  cases rel with
  | false =>
    have : attackAt a d &&& bit = 0 := by simpa using hrel
    simp [this, pure, Except.pure]
  | true =>
    have : ¬ (attackAt a d &&& bit = 0) := by simpa using hrel
    obtain ⟨l, hl, hval, hmap⟩ := walk_of_line ha hd (himp rfl)
    have hsz : ∀ s ∈ l, s < board.size := fun s hs => by
      rw [hb.size]; exact (mem_sq88.1 (hval s hs)).1
    simp [this, sliderWalk_eq board _ _ _ _ _ hl hsz, clear_eq hb hval hmap]

theorem knight_attacks {board : Array Nat} {a d c : Nat}
    (ha : a ∈ sq88) (hd : d ∈ sq88) (hc : board[a]? = some c) (hbit : c &&& Colorless = Gen.Knight) :
    pieceAttacks board d a = .ok (hasBit a d Gen.KnightAttacks) := by
  have e1 : Gen.Knight = Gen.KnightAttacks := by decide
  have e2 : (Gen.KnightAttacks &&& Knight != 0) = true := by decide
  simp only [pieceAttacks, bget_ok_iff.2 hc, tget_attack ha hd, bind, Except.bind, hbit, e1, e2, hasBit]
  by_cases h : attackAt a d &&& Gen.KnightAttacks = 0 <;> simp [h, pure, Except.pure]

theorem pair_bits {a t : Nat} (ha : a ∈ sq88) (ht : t ∈ sq88) :
    hasBit a t Gen.KnightAttacks = Spec.manAttacks emptyBoard ⟨.white, .knight⟩ (to64 a) (to64 t) ∧
    hasBit a t Gen.KingAttacks = Spec.manAttacks emptyBoard ⟨.white, .king⟩ (to64 a) (to64 t) ∧
    hasBit a t Gen.WPawnAttacks = Spec.manAttacks emptyBoard ⟨.white, .pawn⟩ (to64 a) (to64 t) ∧
    hasBit a t Gen.BPawnAttacks = Spec.manAttacks emptyBoard ⟨.black, .pawn⟩ (to64 a) (to64 t) ∧
    hasBit a t Gen.RookAttacks = Spec.onLine (to64 a) (to64 t) ∧
    hasBit a t Gen.BishopAttacks = Spec.onDiag (to64 a) (to64 t) ∧
    hasBit a t Gen.QueenAttacks = (Spec.onLine (to64 a) (to64 t) || Spec.onDiag (to64 a) (to64 t)) := by
  have h := pairOk_of_valid ha ht
  simp only [pairOk, Bool.and_eq_true, beq_iff_eq] at h
  obtain ⟨⟨⟨⟨⟨⟨⟨⟨_, h1⟩, h2⟩, h3⟩, h4⟩, h5⟩, h6⟩, h7⟩, _⟩ := h
  exact ⟨h1, h2, h3, h4, h5, h6, h7⟩

theorem pieceAttacks_spec {board : Array Nat} (hb : BoardOk board) {w : Bool} {a d c : Nat}
    (ha : a ∈ sq88) (hd : d ∈ sq88) (hc : board[a]? = some c) (hoff : c ∈ officersOf w) :
    pieceAttacks board d a = .ok (att board (colorOf w) d a) := by
  obtain ⟨_, _, _, _, hR, hB, hQ⟩ := pair_bits ha hd
  obtain ⟨hN, _⟩ := pair_bits ha hd
  rcases officer_cases hoff with ⟨_, hbit, hdec⟩ | ⟨_, _, hbit, hdec⟩ | ⟨_, _, _, hbit, hdec⟩ | ⟨_, _, _, _, hbit, hdec⟩ <;>
    rw [att_of_decode _ d ha hc hdec]
  · rw [knight_attacks ha hd hc hbit, hN]
    simp [Spec.manAttacks]
  · rw [slider_attacks hb ha hd hc Gen.Bishop _ hbit (by decide) hB (fun h => by simp [h])]
    simp [Spec.manAttacks]
  · rw [slider_attacks hb ha hd hc Gen.Rook _ hbit (by decide) hR (fun h => by simp [h])]
    simp [Spec.manAttacks]
  · rw [slider_attacks hb ha hd hc Gen.Queen _ hbit (by decide) hQ (fun h => h)]
    simp [Spec.manAttacks]

theorem pawnAttacks_spec {board : Array Nat} {w : Bool} {a d : Nat}
    (ha : a ∈ sq88) (hd : d ∈ sq88) (hc : board[a]? = some (pawnOf w)) :
    pawnAttacks (if w then Gen.WPawnAttacks else Gen.BPawnAttacks) d a
      = .ok (att board (colorOf w) d a) := by
  obtain ⟨_, _, hW, hBl, _⟩ := pair_bits ha hd
  rw [att_of_decode _ d ha hc (decode_pawn w)]
  simp only [pawnAttacks, tget_attack ha hd, bind, Except.bind, pure, Except.pure]
  simp only [hasBit] at hW hBl
  cases w
  · simp [hBl, colorOf, Spec.manAttacks]
  · simp [hW, colorOf, Spec.manAttacks]

theorem kingAttacks_spec {board : Array Nat} {w : Bool} {a d : Nat}
    (ha : a ∈ sq88) (hd : d ∈ sq88) (hc : board[a]? = some (kingOf w)) :
    (attackAt a d &&& Gen.KingAttacks != 0) = att board (colorOf w) d a := by
  obtain ⟨_, hK, _⟩ := pair_bits ha hd
  rw [att_of_decode _ d ha hc (decode_king w)]
  simp only [hasBit] at hK
  simp [hK, Spec.manAttacks]

theorem anyM'_ok {α} (f : α → M Bool) (g : α → Bool) :
    ∀ l : List α, (∀ x ∈ l, f x = .ok (g x)) → anyM' f l = .ok (l.any g) := by
  intro l
  induction l with
  | nil => intro _; rfl
  | cons x xs ih =>
    intro h
    have hx := h x List.mem_cons_self
    have ih' := ih (fun y hy => h y (List.mem_cons_of_mem _ hy))
    simp only [anyM', hx, bind, Except.bind, ih', List.any_cons]
    cases g x <;> simp [pure, Except.pure]

/-- the body of `Spec.attacked` as a named function of the attacker's square -/
def attS (B : Array (Option Spec.Man)) (c : Spec.Color) (t a : Nat) : Bool :=
  match B.getD a none with
  | some m => m.color == c && Spec.manAttacks B m a t
  | none => false

theorem attacked_eq_attS (B : Array (Option Spec.Man)) (c : Spec.Color) (t : Nat) :
    Spec.attacked B c t = (List.range 64).any (attS B c t) := rfl

theorem att_eq_attS (board : Array Nat) (c : Spec.Color) (d s : Nat) :
    att board c d s = attS (absBoard board) c (to64 d) (to64 s) := rfl

theorem attacked_eq_any (board : Array Nat) (c : Spec.Color) (d : Nat) :
    Spec.attacked (absBoard board) c (to64 d) = sq88.any (att board c d) := by
  rw [attacked_eq_attS, sq88, List.any_map, Bool.eq_iff_iff]
  simp only [List.any_eq_true, Function.comp]
  exact exists_congr fun i => and_congr_right fun hi => by rw [att_eq_attS, to64_to88 (List.mem_range.1 hi)]

/-- only the men in the side's lists can contribute: any other square holds no man of that colour -/
theorem any_split {board : Array Nat} {enemy : Side} {w : Bool} (hb : BoardOk board)
    (hs : SideOk board enemy w) (d : Nat) :
    sq88.any (att board (colorOf w) d)
      = (enemy.pawns.any (att board (colorOf w) d) || (enemy.pieces.any (att board (colorOf w) d)
          || att board (colorOf w) d enemy.king)) := by
  rw [Bool.eq_iff_iff]
  simp only [Bool.or_eq_true, List.any_eq_true]
  constructor
  · rintro ⟨s, hs88, hG⟩
    obtain ⟨h1, h2⟩ := mem_sq88.1 hs88
    obtain ⟨v, hv, hcode⟩ := hb.codes s h1 h2
    have hcl : (match decodePiece v with | some m => m.color == colorOf w | none => false) = true := by
      simp only [att, absBoard_at hs88 hv] at hG
      cases hdec : decodePiece v with
      | none => simp [hdec] at hG
      | some m =>
        simp only [hdec, Bool.and_eq_true] at hG
        exact hG.1
    rcases classify hcode w hcl with rfl | hoff | rfl
    · exact Or.inl ⟨s, (hs.pawns s).2 ⟨h1, h2, hv⟩, hG⟩
    · exact Or.inr (Or.inl ⟨s, (hs.pieces s).2 ⟨h1, h2, v, hoff, hv⟩, hG⟩)
    · have : s = enemy.king := (hs.king s).2 ⟨h1, h2, hv⟩
      subst this
      exact Or.inr (Or.inr hG)
  · rintro (⟨s, hm, hG⟩ | ⟨s, hm, hG⟩ | hG)
    · obtain ⟨h1, h2, _⟩ := (hs.pawns s).1 hm
      exact ⟨s, mem_sq88.2 ⟨h1, h2⟩, hG⟩
    · obtain ⟨h1, h2, _⟩ := (hs.pieces s).1 hm
      exact ⟨s, mem_sq88.2 ⟨h1, h2⟩, hG⟩
    · obtain ⟨h1, h2, _⟩ := (hs.king enemy.king).1 rfl
      exact ⟨_, mem_sq88.2 ⟨h1, h2⟩, hG⟩

/-- `isUnderCheck` run forward: the king's cell, the per-entry tests and the table entry are the hypotheses -/
theorem isUnderCheck_ok {B : Array Nat} {en : Side} {d kpc t : Nat} {gp gq : Nat → Bool}
    (hk : bget B en.king = .ok kpc)
    (hP : ∀ s ∈ en.pawns,
      pawnAttacks (if kpc &&& BlackBit == 0 then Gen.WPawnAttacks else Gen.BPawnAttacks) d s = .ok (gp s))
    (hQ : ∀ s ∈ en.pieces, pieceAttacks B d s = .ok (gq s))
    (ht : tget attackTable "attackTable" (moveIndex en.king d) = .ok t) :
    isUnderCheck B en d = .ok (en.pawns.any gp || (en.pieces.any gq || t &&& Gen.KingAttacks != 0)) := by
  simp only [isUnderCheck, hk, bind, Except.bind, anyM'_ok _ _ _ hP, anyM'_ok _ _ _ hQ, ht]
  cases en.pawns.any gp <;> cases en.pieces.any gq <;> simp [pure, Except.pure]

theorem isUnderCheck_eq {board : Array Nat} {enemy : Side} {w : Bool} {d : Nat}
    (hb : BoardOk board) (hs : SideOk board enemy w) (hd : d ∈ sq88) :
    isUnderCheck board enemy d = .ok (Spec.attacked (absBoard board) (colorOf w) (to64 d)) := by
  obtain ⟨hk1, hk2, hk⟩ := (hs.king enemy.king).1 rfl
  have hkm : enemy.king ∈ sq88 := mem_sq88.2 ⟨hk1, hk2⟩
  rw [attacked_eq_any, any_split hb hs d, ← kingAttacks_spec hkm hd hk]
  refine isUnderCheck_ok (bget_ok_iff.2 hk) (fun s hm => ?_) (fun s hm => ?_) (tget_attack hkm hd)
  · obtain ⟨h1, h2, h3⟩ := (hs.pawns s).1 hm
    rw [pawnFlag_of_king]
    exact pawnAttacks_spec (mem_sq88.2 ⟨h1, h2⟩) hd h3
  · obtain ⟨h1, h2, c, hc, h3⟩ := (hs.pieces s).1 hm
    exact pieceAttacks_spec hb (mem_sq88.2 ⟨h1, h2⟩) hd h3 hc

theorem find?_unique {α} (p : α → Bool) (x : α) :
    ∀ l : List α, x ∈ l → p x = true → (∀ y ∈ l, p y = true → y = x) → l.find? p = some x
  | [], h, _, _ => by cases h
  | y :: ys, hmem, hpx, hu => by
    by_cases hpy : p y = true
    · rw [List.find?_cons_of_pos hpy, hu y List.mem_cons_self hpy]
    · rw [List.find?_cons_of_neg hpy]
      exact find?_unique p x ys ((List.mem_cons.1 hmem).resolve_left fun e => hpy (e ▸ hpx)) hpx
        fun z hz => hu z (List.mem_cons_of_mem _ hz)

theorem kingSq_of_unique {B : Array (Option Spec.Man)} {c : Spec.Color} {k : Nat} (hk : k < 64)
    (h : B.getD k none = some ⟨c, .king⟩) (hu : ∀ y < 64, B.getD y none = some ⟨c, .king⟩ → y = k) :
    Spec.kingSq B c = some k :=
  find?_unique _ _ _ (List.mem_range.2 hk) (by rw [h]; exact beq_self_eq_true _)
    fun y hy hp => hu y (List.mem_range.1 hy) (beq_iff_eq.1 hp)

/-- a king of colour `w` stands nowhere but on the square the side record names -/
theorem king_at_unique {board : Array Nat} {sd : Side} {w : Bool} (hb : BoardOk board) (hs : SideOk board sd w)
    {i : Nat} (hi : i < 64) (hp : (absBoard board).getD i none = some ⟨colorOf w, .king⟩) : i = to64 sd.king := by
  have hm := to88_mem hi
  obtain ⟨h1, h2⟩ := mem_sq88.1 hm
  obtain ⟨v, hv, hcode⟩ := hb.codes _ h1 h2
  have := absBoard_at hm hv
  rw [to64_to88 hi] at this
  rw [this] at hp
  have hvk := decode_eq_king hcode w hp
  subst hvk
  have := (hs.king (to88 i)).2 ⟨h1, h2, hv⟩
  rw [← this, to64_to88 hi]

/-- the specification finds the king of colour `w` on the square the side record names -/
theorem kingSq_eq {board : Array Nat} {sd : Side} {w : Bool} (hb : BoardOk board)
    (hs : SideOk board sd w) :
    Spec.kingSq (absBoard board) (colorOf w) = some (to64 sd.king) := by
  obtain ⟨hk1, hk2, hk⟩ := (hs.king sd.king).1 rfl
  have hkm : sd.king ∈ sq88 := mem_sq88.2 ⟨hk1, hk2⟩
  exact kingSq_of_unique (to64_lt hkm) (by rw [absBoard_at hkm hk]; exact decode_king _) fun _ hi hp =>
    king_at_unique hb hs hi hp

theorem other_colorOf (w : Bool) : (colorOf w).other = colorOf (!w) := by cases w <;> rfl

theorem inCheck_eq {board : Array Nat} {me enemy : Side} {w : Bool} (hb : BoardOk board)
    (hme : SideOk board me w) (hen : SideOk board enemy (!w)) :
    isUnderCheck board enemy me.king = .ok (Spec.inCheck (absBoard board) (colorOf w)) := by
  obtain ⟨hk1, hk2, _⟩ := (hme.king me.king).1 rfl
  rw [Spec.inCheck, kingSq_eq hb hme]
  simp only [other_colorOf]
  exact isUnderCheck_eq hb hen (mem_sq88.2 ⟨hk1, hk2⟩)

theorem oppCheck_eq (p : Position) (hb : BoardOk p.board) (hs : ∀ w, SideOk p.board (p.side w) w) :
    isUnderCheck p.board (p.side (whiteTurn p)) (p.side (!whiteTurn p)).king =
      .ok (Spec.inCheck (absBoard p.board) (colorOf (!whiteTurn p))) :=
  inCheck_eq hb (hs _) (by rw [Bool.not_not]; exact hs _)

/-- white Ra1 Ke1 Bf1 Pa2, black Ka8 Rh1: the rook h1 attacks f1, the bishop f1 shields e1 -/
def blockedBoard : Array Nat :=
  ((List.range 128).map fun s =>
    if s == 0x00 then Gen.WRook else if s == 0x04 then Gen.WKing else if s == 0x10 then Gen.WPawn
    else if s == 0x70 then Gen.BKing else if s == 0x07 then Gen.BRook else if s == 0x05 then Gen.WBishop
    else 0).toArray

def blockedWhite : Side := ⟨[0x00, 0x05], [0x10], 0x04⟩
def blockedBlack : Side := ⟨[0x07], [], 0x70⟩

end Magog.Atk
