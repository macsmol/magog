import Magog.Lemmas.Total
import Magog.Lemmas.RowsIndep
import Magog.Lemmas.MateValue
import Magog.Lemmas.MateWitness
import Magog.Lemmas.LegalLinkProof
import Magog.Lemmas.LegalCount
import Magog.Props.C01
import Magog.Props.C06Spec

/-! Helper lemmas for the capstone theorems (`Props/Capstone.lean`): the hypotheses that the search theorems
    C03/C04/C05/C10/C14 carry about a set `G` of positions (`Closed`, `GenClosed`, `EvalFinite`, `EvalRange`,
    `EvalBoundOn`, `GenLink`, "the check test does not panic") are discharged once and for all on

        Total.G p := Inv p ∧ OppSafe p      (well-formed, the side not to move is not in check)

    and the model-level notions "generated move", "legal line", "forced mate on the model tree" are identified with
    the notions of the rules of chess (`Spec.legal`, `Spec.play`, `Spec.winsIn`, `Spec.losesIn`). -/

namespace Magog.Capstone
open Magog Magog.Model Magog.MM Magog.Total
open Magog.Lemmas.AlphaBeta Magog.Lemmas.EvalBound Magog.Lemmas.MateValue Magog.Spec.MateM

/-! ### the three notions of "generated move": `MM.Generated` (pseudo-legal generator), `GenFull` / `GenTac` (the two legal
    generators; `AlphaBeta.Generated` is their disjunction) -/

theorem mmGenerated_of_gen {p : Position} {m : Move} (hg : G p) (h : GenFull p m ∨ GenTac p m) :
    MM.Generated p m := by
  rcases h with ⟨kt, ms, hms, hm⟩ | ⟨ts, hts, hm⟩ <;> obtain ⟨rm, hrm, rfl⟩ := List.mem_map.1 hm
  · exact (LegalMoves.listed hms hrm).1
  · exact (TotalMeasure.tactical_sub hg.1 hts hrm).2

theorem accepted_of_gen {p : Position} {m : Move} (h : GenFull p m ∨ GenTac p m) :
    ∃ q, makeMove p m = .ok (q, true) := by
  rcases h with ⟨kt, ms, hms, hm⟩ | ⟨ts, hts, hm⟩ <;> obtain ⟨rm, hrm, rfl⟩ := List.mem_map.1 hm
  · exact (Count.generateMoves_mem hms hrm).2
  · exact (Count.generateTacticalMoves_mem hts hrm).2

/-- the closure notion of C10 / C14 -/
theorem G_closed : GenClosed (fun _ p => G p) :=
  fun _ _ _ _ hg hgen hmk => Total.G_child hg (mmGenerated_of_gen hg hgen) hmk

/-- the closure notion of C04 / C05 (the verdict of `makeMove` on a listed move is always `true`) -/
theorem closed_G : Closed G := by
  intro p m q b hg hgen hmk
  have hgen' : GenFull p m ∨ GenTac p m := hgen
  obtain ⟨q', hq'⟩ := accepted_of_gen hgen'
  rw [hmk] at hq'
  simp only [Except.ok.injEq, Prod.mk.injEq] at hq'
  obtain ⟨rfl, rfl⟩ := hq'
  exact Total.G_child hg (mmGenerated_of_gen hg hgen') hmk

theorem evalBoundOn_G {blend : Blend} (hb : BlendBounded blend pstMaxAbs) : EvalBoundOn blend G :=
  evalBoundOn_of_inv (fun _ h => h.1) hb

theorem evalRange_G {blend : Blend} (hb : BlendBounded blend pstMaxAbs) : EvalRange blend G 10000 :=
  evalRange_of_inv (fun _ h => h.1) hb 10000 depth_10000_ok

/-- all static and terminal scores on good positions are finite, for every table of at most 10 000 rows
    (the engine's has `Gen.pvRows = 88`) -/
theorem evalFinite_of_blendBounded {env : Env} (hb : BlendBounded env.blend pstMaxAbs) {D : Nat}
    (hD : D ≤ 10000) : EvalFinite env (fun _ p => G p) D := by
  intro d p hd hg a b x hx
  have hlt := evalB_lt
  have hB := eval_bound hg.1 hb
  have key : x = Gen.LostScore + (d : Int) ∨ x.natAbs ≤ evalB ∨ x = (Gen.DrawScore : Int) := by
    rcases hx with h | h | h
    · exact (hB.2.1 d a b x h).elim .inl (fun h => .inr (.inl h))
    · exact (hB.2.2 d x h).elim .inl (fun h => .inr (.inl h))
    · rw [LegalCount.terminalNodeScore_spec hg.1] at h
      have := Except.ok.inj h
      split at this
      · exact .inl this.symm
      · exact .inr (.inr this.symm)
  simp only [Gen.LostScore, Gen.ScoreCloseToMate, Gen.MinusInfinityScore, Gen.InfinityScore, Gen.DrawScore] at *
  omega

theorem genLink_G : GenLink G :=
  genLink_of_countOk
    (fun _ hg => (Total.generateMoves_total hg Props.C18.killers_empty_size).imp fun _ h => h.1)
    (fun _ hg => (Props.C06Spec.countOk_of_inv hg.1 hg.2).1)
    (fun _ hg => (Props.C06Spec.countOk_of_inv hg.1 hg.2).2.1)

theorem chk_G : ∀ p, G p → ∃ c, isCurrentKingUnderCheck p = .ok c :=
  fun _ hg => ⟨_, LegalCount.inCheck_spec hg.1⟩

theorem lazyOn_of_not_lazy {env : Env} (h : env.lazy = false) (G' : Position → Prop) : LazyOn env G' :=
  fun h' => by rw [h] at h'; cases h'

theorem legal_of_gen {p q : Position} {m : Move} (hg : G p) (h : GenFull p m ∨ GenTac p m)
    (hmk : makeMove p m = .ok (q, true)) :
    Spec.legal (abs p) (absMove m) = true ∧ abs q = Spec.apply (abs p) (absMove m) ∧ G q := by
  have hG := mmGenerated_of_gen hg h
  have hv := Replay.verdict_spec hg.1 hg.2 hG hmk
  have hps := Spec.pseudo_of_pseudo' (GenPseudo.generated_pseudo hg.1 hG)
  refine ⟨?_, LegalMoves.makeMove_abs' hg.1 hg.2 hG hmk, Total.G_child hg hG hmk⟩
  unfold Spec.legal
  rw [hps, ← hv]
  rfl

/-- **a legal line of the model is a game of the rules**, and ends in a good position denoting the rules' final
    position -/
theorem play_of_legalLine : ∀ (pv : List Move) {p : Position}, G p → LegalLine p pv →
    ∃ q, G q ∧ Spec.play (abs p) (pv.map absMove) = some (abs q)
  | [], p, hg, _ => ⟨p, hg, rfl⟩
  | m :: rest, p, hg, h => by
    obtain ⟨q, hgen, hmk, hrest⟩ := h
    obtain ⟨hleg, habs, hq⟩ := legal_of_gen hg hgen hmk
    obtain ⟨q', hq', hplay⟩ := play_of_legalLine rest hq hrest
    refine ⟨q', hq', ?_⟩
    rw [List.map_cons, Spec.play, if_pos hleg, ← habs]
    exact hplay

/-! ### a root with a legal move never answers `bestmove 0000` -/

local notation "INF" => (Gen.InfinityScore : Int)

/-- iteration 1 on a root with a generated move returns a non-empty best line — for every oracle: the first root
    move is searched with `α = −∞`, the value of its child is finite, so it improves on `−∞` and its line is written
    into row 0, which stays non-empty from then on -/
theorem startAlphaBeta_nonempty {env : Env} {G' : Nat → Position → Prop} {D : Nat} (H : PvHyps env G' D)
    {qfuel : Nat} {p : Position} {target curLen : Nat} {s : SS} {v : Int} {one : Bool} {len : Nat} {s' : SS}
    (h : startAlphaBeta env qfuel p target curLen s = .ok (v, one, len, s')) (hp : G' 0 p) (hD : s.rows.size ≤ D)
    (hint : s.interrupted = false)
    (hmoves : ∀ ms, generateMoves s.killers p = .ok ms → ms ≠ []) :
    rowPrefix s' 0 len ≠ [] := by
  obtain ⟨subLen, hsl, ms, hms, h⟩ := startAlphaBeta_ok.1 h
  rcases h with ⟨hemp, _⟩ | ⟨hemp, r, hr, _, _, rfl, rfl⟩
  · exact absurd (List.isEmpty_iff.1 hemp) (hmoves ms hms)
  rw [minusInf_eq] at hr
  -- `RootSim` at `L := (· ≠ [])`, with the table itself as the second table (`SameShape.refl`) and entered through
  -- its second case (moves to search, not interrupted, `α = −∞`: the last argument); `hg` is `Good L` of row 0
  obtain ⟨_, _, _, _, hg, _⟩ := rootLoop_sim (L := (· ≠ [])) H.closed (alphaBeta_sim H qfuel (target - 1)) p target hp
    (fun _ _ _ _ _ _ => List.cons_ne_nil _ _) _ (fun mv hmv => ⟨s.killers, ms, hms, sortedBonus_mem H.sort hmv⟩)
    _ _ curLen _ _ _ hr hD (rowLen_ok hsl).1 (by have := inf_pos; omega) _ (SameShape.refl _)
    (.inr ⟨sortedBonus_ne_nil H.sort _ _ _ hemp, hint, rfl⟩)
  exact hg.2

theorem any_gen_eq {p : Position} {ms : List RMove} (hg : G p) (hms : generateMoves Killers.empty p = .ok ms)
    (f : Spec.Move → Bool) :
    (ms.any fun rm => f (absMove rm.mov)) = (Spec.legalMoves (abs p)).any f := by
  rw [← (LegalMoves.legal_perm hg.1 hg.2 hms).any_eq, List.any_map]
  rfl

theorem all_gen_eq {p : Position} {ms : List RMove} (hg : G p) (hms : generateMoves Killers.empty p = .ok ms)
    (f : Spec.Move → Bool) :
    (ms.all fun rm => f (absMove rm.mov)) = (Spec.legalMoves (abs p)).all f := by
  rw [← (LegalMoves.legal_perm hg.1 hg.2 hms).all_eq, List.all_map]
  rfl

theorem gen_length {p : Position} {kt : Killers} {ms : List RMove} (hg : G p) (hms : generateMoves kt p = .ok ms) :
    ms.length = (Spec.legalMoves (abs p)).length :=
  LegalMoves.gen_length hg.1 hg.2 hms

theorem isEmpty_gen_eq {p : Position} {ms : List RMove} (hg : G p) (hms : generateMoves Killers.empty p = .ok ms) :
    ms.isEmpty = (Spec.legalMoves (abs p)).isEmpty := by
  rw [Bool.eq_iff_iff, List.isEmpty_iff_length_eq_zero, List.isEmpty_iff_length_eq_zero, gen_length hg hms]

theorem matedM_spec {p : Position} (hg : G p) : matedM p = .ok (Spec.isMated (abs p)) := by
  obtain ⟨ms, hms, _⟩ := Total.generateMoves_total hg Props.C18.killers_empty_size
  rw [matedM_of_moves hms, isEmpty_gen_eq hg hms, LegalCount.inCheck_spec hg.1]
  unfold Spec.isMated
  generalize (Spec.legalMoves (abs p)).isEmpty = e
  generalize Spec.inCheck (abs p).board (abs p).turn = c
  cases e <;> rfl

theorem childM_spec {p : Position} {ms : List RMove} (hg : G p) (hms : generateMoves Killers.empty p = .ok ms)
    {rm : RMove} (hrm : rm ∈ ms) (f : Position → M Bool) :
    ∃ q, G q ∧ abs q = Spec.apply (abs p) (absMove rm.mov) ∧ childM p rm.mov f = f q := by
  have hgen : GenFull p rm.mov := ⟨_, ms, hms, List.mem_map.2 ⟨rm, hrm, rfl⟩⟩
  obtain ⟨q, hq⟩ := accepted_of_gen (.inl hgen)
  obtain ⟨_, habs, hgq⟩ := legal_of_gen hg (.inl hgen) hq
  exact ⟨q, hgq, habs, childM_eq f hq⟩

/-- **the model-level forced-mate solver computes the rules' forced mate**, at every length, on every good
    position: no corner differs (`n = 0`, stalemate and "mated now" are treated identically by
    `Spec.MateM.winsInM / losesInM` and `Spec.winsIn / losesIn`) -/
theorem mateM_spec : ∀ (n : Nat) {p : Position}, G p →
    winsInM n p = .ok (Spec.winsIn (abs p) n) ∧ losesInM n p = .ok (Spec.losesIn (abs p) n)
  | 0, p, hg => by
    refine ⟨by rw [winsInM, Spec.winsIn]; rfl, ?_⟩
    rw [losesInM, Spec.losesIn]
    exact matedM_spec hg
  | n + 1, p, hg => by
    obtain ⟨ms, hms, _⟩ := Total.generateMoves_total hg Props.C18.killers_empty_size
    constructor
    · rw [winsInM_succ_of_moves n hms, Spec.winsIn, ← any_gen_eq hg hms]
      refine Atk.anyM'_ok _ _ _ fun rm hrm => ?_
      obtain ⟨q, hq, habs, hc⟩ := childM_spec hg hms hrm (losesInM n)
      rw [hc, (mateM_spec n hq).2, habs]
    · rw [Spec.losesIn]
      by_cases hne : ms = []
      · subst hne
        have he : (Spec.legalMoves (abs p)).isEmpty = true := by rw [← isEmpty_gen_eq hg hms]; rfl
        rw [losesInM, matedM_spec hg]
        simp only [bind, Except.bind, hms, List.isEmpty_nil, if_true, he, Bool.not_true, Bool.false_and,
          Bool.or_false]
        cases Spec.isMated (abs p) <;> rfl
      · have he : (Spec.legalMoves (abs p)).isEmpty = false := by
          rw [← isEmpty_gen_eq hg hms]
          cases ms with
          | nil => exact absurd rfl hne
          | cons _ _ => rfl
        have hm : Spec.isMated (abs p) = false := by unfold Spec.isMated; rw [he]; rfl
        rw [losesInM_succ_of_moves n hms hne, hm, he, ← all_gen_eq hg hms]
        simp only [Bool.false_or, Bool.not_false, Bool.true_and]
        refine allM'_of_ok fun rm hrm => ?_
        obtain ⟨q, hq, habs, hc⟩ := childM_spec hg hms hrm (winsInM n)
        rw [hc, (mateM_spec n hq).1, habs]

open Magog.Spec.Minimax in
theorem foldMax_total {cv : Move → M Int} : ∀ (l : List Move) (acc : Int), (∀ m ∈ l, ∃ v, cv m = .ok v) →
    ∃ w, foldMax cv l acc = .ok w
  | [], acc, _ => ⟨acc, rfl⟩
  | m :: ms, acc, h => by
    obtain ⟨v, hv⟩ := h m List.mem_cons_self
    obtain ⟨w, hw⟩ := foldMax_total ms (max acc v) (fun x hx => h x (List.mem_cons_of_mem _ hx))
    exact ⟨w, by simp only [foldMax, hv, bind, Except.bind]; exact hw⟩

open Magog.Spec.Minimax in
theorem childVal_total {f : Position → M Int} {p q : Position} {m : Move} (hmk : makeMove p m = .ok (q, true))
    (hf : ∃ v, f q = .ok v) : ∃ v, childVal f p m = .ok v := by
  obtain ⟨v, hv⟩ := hf
  exact ⟨-v, by simp only [childVal, hmk, bind, Except.bind, Bool.not_true, Bool.false_eq_true, if_false, hv]; rfl⟩

open Magog.Spec.Minimax in
/-- the quiescence value is defined as soon as the fuel exceeds the measure `mu` (every tactical move lowers it) -/
theorem QV_total (blend : Blend) : ∀ (fuel : Nat) (p : Position) (depth : Nat), G p → TotalMeasure.mu p < fuel →
    ∃ w, QV blend fuel p depth = .ok w
  | 0, _, _, _, h => absurd h (Nat.not_lt_zero _)
  | f + 1, p, depth, hg, hf => by
    obtain ⟨e, he⟩ := Total.evaluate_total hg blend depth
    obtain ⟨ts, hts, hall⟩ := Total.generateTacticalMoves_total hg
    have hkids : ∀ m ∈ ts.map (·.mov), ∃ v, childVal (fun q => QV blend f q (depth + 1)) p m = .ok v := by
      intro m hm
      obtain ⟨rm, hrm, rfl⟩ := List.mem_map.1 hm
      obtain ⟨hG, q, hq⟩ := hall rm hrm
      have hdec := TotalMeasure.tactical_decreases hg.1 hg.2 hts hrm hq
      exact childVal_total hq (QV_total blend f q (depth + 1) (Total.G_child hg hG hq) (by omega))
    obtain ⟨w, hw⟩ := foldMax_total (ts.map (·.mov)) e hkids
    exact ⟨w, by simp only [QV, he, hts, bind, Except.bind]; exact hw⟩

open Magog.Spec.Minimax in
theorem V_total (blend : Blend) {qfuel : Nat} (hq : Gen.maxQuiescenceDepth < qfuel) :
    ∀ (rem : Nat) (p : Position) (depth : Nat), G p → ∃ w, V blend qfuel rem p depth = .ok w
  | 0, p, depth, hg => by
    rw [V]
    exact QV_total blend qfuel p depth hg (Nat.lt_of_le_of_lt (TotalMeasure.mu_le hg.1) hq)
  | rem + 1, p, depth, hg => by
    obtain ⟨ms, hms, hall⟩ := Total.generateMoves_total hg Props.C18.killers_empty_size
    have hkids : ∀ m ∈ ms.map (·.mov), ∃ v, childVal (fun q => V blend qfuel rem q (depth + 1)) p m = .ok v := by
      intro m hm
      obtain ⟨rm, hrm, rfl⟩ := List.mem_map.1 hm
      obtain ⟨hG, q, hq'⟩ := hall rm hrm
      exact childVal_total hq' (V_total blend hq rem q (depth + 1) (Total.G_child hg hG hq'))
    rw [V]
    simp only [hms, bind, Except.bind]
    cases hl : ms.map (·.mov) with
    | nil => exact Total.terminalNodeScore_total hg depth
    | cons m rest =>
      rw [hl] at hkids
      obtain ⟨v, hv⟩ := hkids m List.mem_cons_self
      obtain ⟨w, hw⟩ := foldMax_total rest v (fun x hx => hkids x (List.mem_cons_of_mem _ hx))
      exact ⟨w, by simp only [hv]; exact hw⟩

/-- the flag `oneLegalMove` returned by an iteration is the rules' "exactly one legal move" -/
theorem one_spec {env : Env} (hps : PermSort env) {qfuel : Nat} {p : Position} (hg : G p) {target curLen : Nat}
    {s : SS} {v : Int} {one : Bool} {len : Nat} {s' : SS}
    (h : startAlphaBeta env qfuel p target curLen s = .ok (v, one, len, s')) :
    one = true ↔ (Spec.legalMoves (abs p)).length = 1 := by
  obtain ⟨_, _, ms, hms, h⟩ := startAlphaBeta_ok.1 h
  have hlen := gen_length hg hms
  rcases h with ⟨hemp, _, _, _, rfl, _⟩ | ⟨_, _, _, _, rfl, _⟩
  · rw [List.isEmpty_iff.1 hemp] at hlen
    simp only [List.length_nil] at hlen
    simp only [Bool.false_eq_true, false_iff]
    omega
  · have h1 : (env.sortFn (applyPvBonus s.cand s.matched 0 ms).1).length = ms.length := by
      simpa using (sorted_bonus_perm hps s.cand s.matched 0 ms).length_eq.symm
    rw [beq_iff_eq, h1, hlen]

/-- lazy evaluation, a sort that really reorders (reverse), and a clock, a stop channel and a print gate that fire
    at arbitrary consultations -/
def noisyEnv : Env :=
  { demoEnvLazy with timeUp := fun n => n % 7 == 3, stopAt := fun n => n % 5 == 1, gateOpen := fun n => n % 2 == 0 }

theorem start_has_moves : Spec.legalMoves (abs startPosition) ≠ [] := fun h => by
  have := (Props.C01.legalMoves_spec (abs startPosition)).2 ⟨12, 28, none⟩
  rw [h] at this
  exact absurd (this.2 GenExamples.start_e2e4_legal) (by simp)

/-- `m1Pos` (White Kb6, Pc7 against Ka8, White to move) is a good position -/
theorem m1_good : G m1Pos := ofFen_good _

theorem start_legal_count : (Spec.legalMoves (abs startPosition)).length = 20 := by
  obtain ⟨ms, hms, _⟩ := Total.generateMoves_total Total.G_start Props.C18.killers_empty_size
  have h := Witness.start_generate.1
  rw [hms] at h
  rw [← gen_length Total.G_start hms]
  exact Option.some.inj h

theorem foolsMate_good : G foolsMate := ⟨LegalWitness.inv_foolsMate, LegalWitness.oppSafe_foolsMate⟩

end Magog.Capstone
