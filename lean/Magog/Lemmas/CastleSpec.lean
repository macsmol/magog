import Magog.Lemmas.KingStep

/-! Castling never leaves the king in check (statements and proofs speak of `Spec` only; the engine model is in the
import closure through `KingStep`).

If the movement rules allow a castling move (`Spec.pseudo`: right still held, squares between king and
rook empty, the king's square, the square it crosses and its destination not attacked on the CURRENT
board), then after the move the king is not attacked on the NEW board. Geometry: the new board differs
from the old one in four squares (king origin `e` and rook origin `h` emptied, rook destination `f` and
king destination `g` filled with own men). An enemy man attacks `g` on the new board only if it did on the
old board, unless its line to `g` runs through an emptied square — and a line to `g` through `e` also runs
through `f` (now occupied), while no line to `g` runs through `h` (kernel-checked over the 64 squares). -/

set_option autoImplicit false

namespace Magog.CastleSpec
open Magog Magog.Model Magog.KingStep

structure Quad (e f g h : Nat) : Prop where
  e_lt : e < 64
  f_lt : f < 64
  g_lt : g < 64
  h_lt : h < 64
  ef : e ≠ f
  eg : e ≠ g
  eh : e ≠ h
  fg : f ≠ g
  fh : f ≠ h
  gh : g ≠ h
  through_e : ∀ a < 64, (Spec.between a g).contains e = true → (Spec.between a g).contains f = true
  not_h : ∀ a < 64, (Spec.between a g).contains h = false

def castled (B : Array (Option Spec.Man)) (c : Spec.Color) (e f g h : Nat) : Array (Option Spec.Man) :=
  (((B.setIfInBounds e none).setIfInBounds g (some ⟨c, .king⟩)).setIfInBounds h none).setIfInBounds f
    (some ⟨c, .rook⟩)

theorem castled_getD {B : Array (Option Spec.Man)} (hsz : B.size = 64) (c : Spec.Color) {e f g h : Nat}
    (q : Quad e f g h) (s : Nat) :
    (castled B c e f g h).getD s none =
      if f = s then some ⟨c, .rook⟩ else if h = s then none else if g = s then some ⟨c, .king⟩
      else if e = s then none else B.getD s none := by
  unfold castled
  rw [getD_set _ _ _ _ (by simp only [Array.size_setIfInBounds, hsz]; exact q.f_lt),
    getD_set _ _ _ _ (by simp only [Array.size_setIfInBounds, hsz]; exact q.h_lt),
    getD_set _ _ _ _ (by simp only [Array.size_setIfInBounds, hsz]; exact q.g_lt),
    getD_set _ _ _ _ (by rw [hsz]; exact q.e_lt)]

theorem attacked_castled {B : Array (Option Spec.Man)} (hsz : B.size = 64) {c : Spec.Color} {e f g h : Nat}
    (q : Quad e f g h) (hatt : Spec.attacked B c.other g = false) :
    Spec.attacked (castled B c e f g h) c.other g = false := by
  rw [Bool.eq_false_iff]
  intro hA
  rw [attacked_mono (fun a ha64 man hman hcol hatk => ?_) hA] at hatt
  · cases hatt
  rw [castled_getD hsz c q] at hman
  by_cases h1 : f = a
  · rw [if_pos h1] at hman; cases hman; exact absurd hcol.symm (other_ne c)
  by_cases h2 : h = a
  · rw [if_neg h1, if_pos h2] at hman; cases hman
  by_cases h3 : g = a
  · rw [if_neg h1, if_neg h2, if_pos h3] at hman; cases hman; exact absurd hcol.symm (other_ne c)
  by_cases h4 : e = a
  · rw [if_neg h1, if_neg h2, if_neg h3, if_pos h4] at hman; cases hman
  rw [if_neg h1, if_neg h2, if_neg h3, if_neg h4] at hman
  refine ⟨hman, fun _ hc => ?_⟩
  simp only [Spec.clear, List.all_eq_true] at hc ⊢
  intro s hs
  have hs' := hc s hs
  rw [castled_getD hsz c q] at hs'
  -- the rook stands on `f` and the king on `g` now: a clear line passes through neither
  by_cases k1 : f = s
  · rw [if_pos k1] at hs'; cases hs'
  by_cases k2 : h = s
  · have := q.not_h a ha64
    rw [k2] at this
    simp only [List.contains_eq_mem, decide_eq_false_iff_not] at this
    exact absurd hs this
  by_cases k3 : g = s
  · rw [if_neg k1, if_neg k2, if_pos k3] at hs'; cases hs'
  by_cases k4 : e = s
  · have hfm : f ∈ Spec.between a g := by simpa using q.through_e a ha64 (by rw [k4]; simpa using hs)
    have := hc f hfm
    rw [castled_getD hsz c q, if_pos rfl] at this
    cases this
  rw [if_neg k1, if_neg k2, if_neg k3, if_neg k4] at hs'
  exact hs'

theorem inCheck_castled {B : Array (Option Spec.Man)} (hsz : B.size = 64) {c : Spec.Color} {e f g h : Nat}
    (q : Quad e f g h) (huniq : ∀ s < 64, B.getD s none = some ⟨c, .king⟩ → s = e)
    (hatt : Spec.attacked B c.other g = false) :
    Spec.inCheck (castled B c e f g h) c = false := by
  have hks : Spec.kingSq (castled B c e f g h) c = some g := by
    refine Atk.kingSq_of_unique q.g_lt
      (by rw [castled_getD hsz c q, if_neg q.fg, if_neg (Ne.symm q.gh), if_pos rfl]) fun y hy hpy => ?_
    rw [castled_getD hsz c q] at hpy
    by_cases k1 : f = y
    · rw [if_pos k1] at hpy; simp at hpy
    rw [if_neg k1] at hpy
    by_cases k2 : h = y
    · rw [if_pos k2] at hpy; cases hpy
    rw [if_neg k2] at hpy
    by_cases k3 : g = y
    · exact k3.symm
    rw [if_neg k3] at hpy
    by_cases k4 : e = y
    · rw [if_pos k4] at hpy; cases hpy
    rw [if_neg k4] at hpy
    exact absurd (huniq y hy hpy).symm k4
  rw [Spec.inCheck, hks]
  exact attacked_castled hsz q hatt

theorem apply_castle {P : Spec.Pos} {m : Spec.Move} {r tf rf rt : Nat}
    (hat : P.at m.frm = some ⟨P.turn, .king⟩) (hfrm : m.frm = Spec.mkSq 4 r) (hto : m.to = Spec.mkSq tf r)
    (hpr : m.promo = none) (hside : (tf = 6 ∧ rf = 7 ∧ rt = 5) ∨ (tf = 2 ∧ rf = 0 ∧ rt = 3)) :
    (Spec.apply P m).board =
      castled P.board P.turn (Spec.mkSq 4 r) (Spec.mkSq rt r) (Spec.mkSq tf r) (Spec.mkSq rf r) := by
  have h1 : Spec.fileOf (Spec.mkSq 4 r) = 4 := by simp only [Spec.fileOf, Spec.mkSq]; omega
  have h2 : Spec.fileOf (Spec.mkSq tf r) = tf := by simp only [Spec.fileOf, Spec.mkSq]; omega
  have h3 : Spec.rankOf (Spec.mkSq 4 r) = r := by simp only [Spec.rankOf, Spec.mkSq]; omega
  have hat' := hat
  rw [hfrm] at hat'
  have hc : Spec.isCastle P m = true := by
    simp only [Spec.isCastle, hfrm, hat', hto, h1, h2]
    rcases hside with ⟨rfl, _⟩ | ⟨rfl, _⟩ <;> decide
  have he : Spec.isEnPassant P m = false := by simp only [Spec.isEnPassant, hat]
  simp only [Spec.apply, hat, hc, he, hpr, if_true, Bool.false_eq_true, if_false]
  rw [hto, h2, hfrm, h3]
  rcases hside with ⟨rfl, rfl, rfl⟩ | ⟨rfl, rfl, rfl⟩
  · simp only [beq_self_eq_true, if_true, castled]
  · simp only [show ((2 : Nat) == 6) = false from rfl, Bool.false_eq_true, if_false, castled]

theorem quadK (c : Spec.Color) : Quad (Spec.mkSq 4 (Spec.homeRank c)) (Spec.mkSq 5 (Spec.homeRank c))
    (Spec.mkSq 6 (Spec.homeRank c)) (Spec.mkSq 7 (Spec.homeRank c)) := by
  cases c <;> exact
    ⟨by decide, by decide, by decide, by decide, by decide, by decide, by decide, by decide, by decide, by decide,
     by decide +kernel, by decide +kernel⟩

theorem quadQ (c : Spec.Color) : Quad (Spec.mkSq 4 (Spec.homeRank c)) (Spec.mkSq 3 (Spec.homeRank c))
    (Spec.mkSq 2 (Spec.homeRank c)) (Spec.mkSq 0 (Spec.homeRank c)) := by
  cases c <;> exact
    ⟨by decide, by decide, by decide, by decide, by decide, by decide, by decide, by decide, by decide, by decide,
     by decide +kernel, by decide +kernel⟩

theorem castle_not_inCheck {P : Spec.Pos} {m : Spec.Move} (hsz : P.board.size = 64)
    (hat : P.at m.frm = some ⟨P.turn, .king⟩)
    (huniq : ∀ s < 64, P.at s = some ⟨P.turn, .king⟩ → s = m.frm)
    (hp : Spec.pseudo P m = true) (hc : Spec.isCastle P m = true) :
    Spec.inCheck (Spec.apply P m).board P.turn = false := by
  have hp' := hp
  unfold Spec.pseudo at hp'
  simp only [hat, Bool.and_eq_true, Bool.or_eq_true, beq_iff_eq, Bool.not_eq_true'] at hp'
  obtain ⟨_, hpr, hcl⟩ := hp'
  simp only [Spec.isCastle, hat, beq_iff_eq] at hc
  rcases hcl with (hcl | hcl) | hcl
  · -- a king step is not a castling move
    simp only [Spec.manAttacks, Bool.and_eq_true, decide_eq_true_eq] at hcl
    omega
  · obtain ⟨⟨⟨⟨⟨⟨⟨⟨_, hfrm⟩, hto⟩, _⟩, _⟩, _⟩, _⟩, _⟩, hatt⟩ := hcl
    rw [apply_castle hat hfrm hto hpr (.inl ⟨rfl, rfl, rfl⟩)]
    exact inCheck_castled hsz (quadK _) (fun s hs h => hfrm ▸ huniq s hs h) hatt
  · obtain ⟨⟨⟨⟨⟨⟨⟨⟨⟨_, hfrm⟩, hto⟩, _⟩, _⟩, _⟩, _⟩, _⟩, _⟩, hatt⟩ := hcl
    rw [apply_castle hat hfrm hto hpr (.inr ⟨rfl, rfl, rfl⟩)]
    exact inCheck_castled hsz (quadQ _) (fun s hs h => hfrm ▸ huniq s hs h) hatt

end Magog.CastleSpec
