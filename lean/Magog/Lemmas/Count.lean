import Magog.Model.MoveGen
import Magog.Model.Start
import Magog.Lemmas.PositionEq
import Magog.Lemmas.MBasic

/-! What the proofs about the four hand-copied move loops (property C06) and about their totality share:
    `IsOk`, `okTrue`, `okVal` for runs in `M = Except Panic` (what most files read this one for); the legality filter
    `filterM'` (a filter that does not panic is the pure filter, and conversely), its pure predicate `legalB`, and what
    a listed move of the legal generators is (`generateMoves_mem`); the named side conditions of the C06 theorems
    (`CountInv` derives each from `Inv` and `OppSafe`); the model-level path counts `pathsM` / `tpathsM` / `tpathsF`;
    the witness positions of the non-vacuity examples, `c06Witness` played out by `afterMoves`. A few small facts about
    `M` and the model that the same files need sit here too (`error_bind`, `andM_true`, `rankOf_mod`,
    `isLegal_ok_iff`). -/

namespace Magog.Count
open Magog Magog.Model

@[simp] theorem error_bind {α β} (e : Panic) (f : α → M β) :
    ((Except.error e : M α) >>= f : M β) = .error e := rfl

@[simp] theorem andM_true (b : M Bool) : andM true b = b := rfl
@[simp] theorem andM_false (b : M Bool) : andM false b = .ok false := rfl

theorem rankOf_mod (x : Nat) : rankOf x = rankOf (x % 256) := by
  unfold rankOf
  have h1 : x &&& 0xF0 = (x &&& 0xF0) % 2^8 := by
    rw [Nat.mod_eq_of_lt]
    exact Nat.lt_of_le_of_lt Nat.and_le_right (by decide)
  rw [h1, Nat.and_mod_two_pow]

theorem fileOf_mod (x : Nat) : fileOf x = fileOf (x % 256) := by
  unfold fileOf
  have h1 : x &&& 0x0F = (x &&& 0x0F) % 2^8 := by
    rw [Nat.mod_eq_of_lt]
    exact Nat.lt_of_le_of_lt Nat.and_le_right (by decide)
  rw [h1, Nat.and_mod_two_pow]

theorem addb_mod (x d : Nat) : addb x d = addb (x % 256) d := by
  unfold addb; omega

def IsOk {α} (x : M α) : Prop := ∃ a, x = .ok a

theorem guard_total {α} {b : Bool} {x : M α} {z : α} (h : b = true → IsOk x) : IsOk (if b then x else pure z) := by
  cases b
  · exact ⟨z, rfl⟩
  · exact h rfl

theorem map_total {α β} {x : M α} (f : α → β) (h : ∃ a, x = .ok a) :
    ∃ b, (do let a ← x; pure (f a) : M β) = .ok b := by
  obtain ⟨a, ha⟩ := h
  exact ⟨f a, by rw [ha]; rfl⟩

/-- the value of a Boolean computation, `false` on panic (only ever used next to an `IsOk` fact) -/
def okTrue (x : M Bool) : Bool :=
  match x with
  | .ok true => true
  | _ => false

@[simp] theorem okTrue_ok (b : Bool) : okTrue (.ok b) = b := by cases b <;> rfl

/-- a test that does not panic returns "whether it returned `true`" -/
theorem ok_okTrue {x : M Bool} (h : ∃ b, x = .ok b) : x = .ok (okTrue x) ∧ (okTrue x = true ↔ x = .ok true) := by
  obtain ⟨b, rfl⟩ := h
  exact ⟨by rw [okTrue_ok], by rw [okTrue_ok, Except.ok.injEq]⟩

theorem okTrue_eq_true {x : M Bool} (h : okTrue x = true) : x = .ok true := by
  unfold okTrue at h
  split at h
  · rfl
  · cases h

/-- the value of a computation as an `Option` (decidable equality, for kernel-evaluated examples) -/
def okVal {α} (x : M α) : Option α :=
  match x with
  | .ok a => some a
  | .error _ => none

theorem okVal_eq_some {α} {x : M α} {a : α} (h : okVal x = some a) : x = .ok a := by
  unfold okVal at h
  split at h
  · cases h; rfl
  · cases h

theorem okVal_map_eq_some {α β} {x : M α} {f : α → β} {b : β} (h : okVal (x.map f) = some b) :
    ∃ a, x = .ok a ∧ f a = b :=
  map_ok.1 (okVal_eq_some h)

theorem filterM'_ok {α} {f : α → M Bool} {l r : List α} (h : filterM' f l = .ok r) :
    (∀ x ∈ l, IsOk (f x)) ∧ r = l.filter (fun x => okTrue (f x)) := by
  induction l generalizing r with
  | nil =>
    simp only [filterM', pure_eq_ok, Except.ok.injEq] at h
    subst h; simp
  | cons x xs ih =>
    simp only [filterM', bind_ok, pure_eq_ok, Except.ok.injEq] at h
    obtain ⟨b, hb, r', hr', rfl⟩ := h
    obtain ⟨h1, h2⟩ := ih hr'
    refine ⟨?_, ?_⟩
    · intro y hy
      rcases List.mem_cons.mp hy with rfl | hy
      · exact ⟨b, hb⟩
      · exact h1 y hy
    · simp only [List.filter_cons, hb, okTrue_ok, h2]

theorem sum_sum_eq {α} {g h : α → M Nat} {l : List α} {n m : Nat}
    (hn : sumM' g l = .ok n) (hm : sumM' h l = .ok m)
    (hel : ∀ x ∈ l, ∀ a b, g x = .ok a → h x = .ok b → a = b) : n = m := by
  induction l generalizing n m with
  | nil =>
    simp only [sumM', pure_eq_ok, Except.ok.injEq] at hn hm
    omega
  | cons x xs ih =>
    simp only [sumM', bind_ok, pure_eq_ok, Except.ok.injEq] at hn hm
    obtain ⟨a, ha, t', ht', rfl⟩ := hn
    obtain ⟨b, hb, f', hf', rfl⟩ := hm
    have h1 := hel x List.mem_cons_self a b ha hb
    have h2 := ih ht' hf' (fun y hy => hel y (List.mem_cons_of_mem _ hy))
    omega

theorem filterM'_of_ok {α} {f : α → M Bool} {g : α → Bool} {l : List α} (h : ∀ x ∈ l, f x = .ok (g x)) :
    filterM' f l = .ok (l.filter g) := by
  induction l with
  | nil => rfl
  | cons x xs ih =>
    simp only [filterM', h x List.mem_cons_self, ok_bind, ih (fun y hy => h y (List.mem_cons_of_mem _ hy)),
      pure_eq_ok, List.filter_cons]

theorem filterM'_total {α} {f : α → M Bool} {l : List α} (h : ∀ x ∈ l, IsOk (f x)) :
    filterM' f l = .ok (l.filter fun x => okTrue (f x)) :=
  filterM'_of_ok fun x hx => (ok_okTrue (h x hx)).1

theorem isLegal_ok_iff {p : Position} {m : Move} {b : Bool} :
    isLegal p m = .ok b ↔ ∃ q, makeMove p m = .ok (q, b) := by
  simp only [isLegal, bind_ok, pure_eq_ok, Except.ok.injEq]
  constructor
  · rintro ⟨⟨q, b⟩, h, rfl⟩
    exact ⟨q, h⟩
  · rintro ⟨q, h⟩
    exact ⟨(q, b), h, rfl⟩

def legalB (p : Position) (m : Move) : Bool := okTrue (isLegal p m)

theorem legalB_of_ok {p : Position} {m : Move} {b : Bool} (h : isLegal p m = .ok b) :
    legalB p m = b := by
  simp [legalB, h]

theorem legalFilter_ok {p : Position} {ps ms : List RMove}
    (h : filterM' (fun rm => isLegal p rm.mov) ps = .ok ms) :
    (∀ rm ∈ ps, IsOk (isLegal p rm.mov)) ∧ ms = ps.filter (fun rm => legalB p rm.mov) :=
  filterM'_ok h

/-- a move the legality filter lets through was in the list and is accepted by `makeMove` -/
theorem legalFilter_mem {p : Position} {ps ms : List RMove}
    (h : filterM' (fun rm => isLegal p rm.mov) ps = .ok ms) {rm : RMove} (hrm : rm ∈ ms) :
    rm ∈ ps ∧ ∃ q, makeMove p rm.mov = .ok (q, true) := by
  obtain ⟨_, rfl⟩ := legalFilter_ok h
  obtain ⟨hm, ht⟩ := List.mem_filter.1 hrm
  exact ⟨hm, isLegal_ok_iff.1 (okTrue_eq_true ht)⟩

/-- what a listed move of the legal generator is, whatever the position: one of the pseudo-legal list that
    `makeMove` accepts -/
theorem generateMoves_mem {kt : Killers} {p : Position} {ms : List RMove} (h : generateMoves kt p = .ok ms)
    {rm : RMove} (hrm : rm ∈ ms) :
    (∃ ps, genPseudo kt p = .ok ps ∧ rm ∈ ps) ∧ ∃ q, makeMove p rm.mov = .ok (q, true) := by
  simp only [generateMoves, bind_ok] at h
  obtain ⟨ps, hps, hf⟩ := h
  exact ⟨⟨ps, hps, (legalFilter_mem hf hrm).1⟩, (legalFilter_mem hf hrm).2⟩

theorem generateTacticalMoves_mem {p : Position} {ts : List RMove} (h : generateTacticalMoves p = .ok ts)
    {rm : RMove} (hrm : rm ∈ ts) :
    (∃ ps, genPseudoTactical p = .ok ps ∧ rm ∈ ps) ∧ ∃ q, makeMove p rm.mov = .ok (q, true) := by
  simp only [generateTacticalMoves, bind_ok] at h
  obtain ⟨ps, hps, hf⟩ := h
  exact ⟨⟨ps, hps, (legalFilter_mem hf hrm).1⟩, (legalFilter_mem hf hrm).2⟩

/-- A board cell carries a colour bit iff it carries a piece kind, and never both colour bits.
    Needed by `tactical_is_filter`: the full generator classifies a target as a capture by
    `cell &&& Colorless != 0` (after `cell &&& own == 0`), the tactical generator by
    `cell &&& enemy != 0`; on a cell like `64` (black bit, no kind) or `1` (kind, no colour) the two
    tests differ and the two generators really produce different lists. -/
def CellOk (x : Nat) : Prop :=
  (x &&& WhiteBit ≠ 0 → x &&& BlackBit = 0 ∧ x &&& Colorless ≠ 0) ∧
  (x &&& BlackBit ≠ 0 → x &&& WhiteBit = 0 ∧ x &&& Colorless ≠ 0) ∧
  (x &&& WhiteBit = 0 → x &&& BlackBit = 0 → x &&& Colorless = 0)

instance (x : Nat) : Decidable (CellOk x) := by unfold CellOk; infer_instance

def CellsOk (p : Position) : Prop := ∀ x ∈ p.board.toList, CellOk x

instance (p : Position) : Decidable (CellsOk p) := by unfold CellsOk; infer_instance

/-- the board is the 128-slot 0x88 array. Needed by the counting theorems: with `p.ep = InvalidSq`
    (= 0x88 = 136) a pawn whose capture target wraps to byte 136 makes the generators emit a pseudo
    "en-passant" move to square 136 (their `to == enPassSquare` test is not guarded by square
    validity), which only the index panic of `board[136]` in MakeMove keeps from mattering; the
    counters test validity first on the queen side and never count it. On an array longer than 136
    slots the two would differ. -/
def BoardSize (p : Position) : Prop := p.board.size = 128

instance (p : Position) : Decidable (BoardSize p) := by unfold BoardSize; infer_instance

/-- the en-passant square, if any, is on the rank a double push of the side not to move skips: never the promotion
    rank (`ep_not_promoRank`), and out of reach of a pawn on its start rank, so the guard `rankOf frm != startRank`
    of `pawnCount` never decides (`pawnHyp_full`) -/
def EpRankOk (p : Position) : Prop :=
  p.ep = InvalidSq ∨ (isValid p.ep = true ∧ rankOf p.ep = (if whiteTurn p then Gen.Rank6 else Gen.Rank3))

instance (p : Position) : Decidable (EpRankOk p) := by unfold EpRankOk; infer_instance

/-- a listed pawn of the mover stands on the board as one: `promo_legal_uniform` asks it of the origin cell -/
def PawnsOk (p : Position) : Prop :=
  ∀ f ∈ p.ctx.cur.pawns, p.board[f]? = some (Pawn ||| p.ctx.curBit)

instance (p : Position) : Decidable (PawnsOk p) := by unfold PawnsOk; infer_instance

/-- the enemy piece list is duplicate-free and each entry's board cell is something MakeMove's
    capture bookkeeping removes from that list (non-empty, not the enemy king, not an enemy pawn).
    Consequence: after MakeMove's `kill`, the destination square is not in the enemy piece list. -/
def CaptureOk (p : Position) : Prop :=
  p.ctx.en.pieces.Nodup ∧
  ∀ a ∈ p.ctx.en.pieces,
    p.board[a]? ≠ some 0 ∧ p.board[a]? ≠ some (King ||| p.ctx.enBit) ∧
    p.board[a]? ≠ some (Pawn ||| p.ctx.enBit)

instance (p : Position) : Decidable (CaptureOk p) := by unfold CaptureOk; infer_instance

/-- the destination of the queenside / kingside castling move as the generator writes it -/
def castleQTo (c : Ctx) : Nat := toByte (add8 (int8 c.cur.king) (-2))
def castleKTo (c : Ctx) : Nat := toByte (add8 (int8 c.cur.king) 2)

/-- Once the castling path test passes (squares empty, king square and the two squares it crosses
    not attacked) and the right is still set, the castling move passes the generator's `isLegal`
    filter. The counter counts the move on the path test alone. (Chess geometry: after castling the
    king stands on the tested, unattacked square and the rook move cannot open a line onto it:
    `LegalMoves.castleSafe_of_inv` proves it from `Inv` and `OppSafe`; it is a hypothesis here.) -/
def CastleSafe (p : Position) : Prop :=
  (p.ctx.qOk = true → castleQOk p p.ctx = .ok true →
      isLegal p ⟨p.ctx.cur.king, castleQTo p.ctx, 0, InvalidSq⟩ = .ok true) ∧
  (p.ctx.kOk = true → castleKOk p p.ctx = .ok true →
      isLegal p ⟨p.ctx.cur.king, castleKTo p.ctx, 0, InvalidSq⟩ = .ok true)

/-- A king step onto a square that is attacked in the current position is not legal. The generators
    (`kingGen`, `kingGenTactical`) drop such a step before the `isLegal` filter by asking
    `isUnderCheck` on the *current* board; the counters (`kingCount`, `kingCountTactical`) only ask
    `isLegal`. They agree iff the pre-test never removes a legal move. This is proved from the
    structural condition `KingsOk` in `Lemmas/CountKing.lean` (`kingStepSafe_of_kingsOk`: the move
    only vacates the king's square and a captured piece does not attack its own square, so every
    attack on the target persists). It does fail on positions with adjacent kings (`c06AdjKings`). -/
def KingStepSafe (p : Position) : Prop :=
  ∀ d ∈ kingDirs, isUnderCheck p.board p.ctx.en (addb p.ctx.cur.king d) = .ok true →
    isLegal p ⟨p.ctx.cur.king, addb p.ctx.cur.king d, 0, InvalidSq⟩ ≠ .ok true

theorem CastleSafe.of_check {p : Position}
    (h : ((!(p.ctx.qOk && okTrue (castleQOk p p.ctx))) ||
            okTrue (isLegal p ⟨p.ctx.cur.king, castleQTo p.ctx, 0, InvalidSq⟩)) = true ∧
         ((!(p.ctx.kOk && okTrue (castleKOk p p.ctx))) ||
            okTrue (isLegal p ⟨p.ctx.cur.king, castleKTo p.ctx, 0, InvalidSq⟩)) = true) :
    CastleSafe p := by
  refine ⟨fun h1 h2 => ?_, fun h1 h2 => ?_⟩
  · have := h.1
    simp only [h1, h2, okTrue_ok, Bool.and_self, Bool.not_true, Bool.false_or] at this
    exact okTrue_eq_true this
  · have := h.2
    simp only [h1, h2, okTrue_ok, Bool.and_self, Bool.not_true, Bool.false_or] at this
    exact okTrue_eq_true this

theorem KingStepSafe.of_check {p : Position}
    (h : ∀ d ∈ kingDirs, (okTrue (isUnderCheck p.board p.ctx.en (addb p.ctx.cur.king d)) &&
        okTrue (isLegal p ⟨p.ctx.cur.king, addb p.ctx.cur.king d, 0, InvalidSq⟩)) = false) :
    KingStepSafe p := by
  intro d hd h1 h2
  have := h d hd
  simp [h1, h2] at this

/-- the side conditions of `countTactical_length`, bundled (for the perft invariant); from `Inv` and `OppSafe` by
    `CountInv.tcountOk_of_inv` -/
structure TCountOk (p : Position) : Prop where
  size : BoardSize p
  ep : EpRankOk p
  pawns : PawnsOk p
  capture : CaptureOk p
  king : KingStepSafe p

/-- the side conditions of `countMoves_length`, bundled (for the perft invariant); from `Inv` and `OppSafe` by
    `CountInv.countOk_of_inv` -/
structure CountOk (p : Position) : Prop extends TCountOk p where
  castle : CastleSafe p

def pathsM (kt : Killers) : Nat → Position → M Nat
  | 0, _ => pure 1
  | d + 1, p => do
    let ms ← generateMoves kt p
    sumM' (fun rm => do
      let r ← makeMove p rm.mov
      pathsM kt d r.1) ms

/-- number of paths of `d` legal moves followed by one tactical legal move (tactical generator at
    the leaves) -/
def tpathsM (kt : Killers) : Nat → Position → M Nat
  | 0, p => do
    let ts ← generateTacticalMoves p
    pure ts.length
  | d + 1, p => do
    let ms ← generateMoves kt p
    sumM' (fun rm => do
      let r ← makeMove p rm.mov
      tpathsM kt d r.1) ms

/-- the same with the leaves counted as the tactical-flagged moves of the full generator -/
def tpathsF (kt : Killers) : Nat → Position → M Nat
  | 0, p => do
    let ms ← generateMoves kt p
    pure (ms.filter (·.tactical)).length
  | d + 1, p => do
    let ms ← generateMoves kt p
    sumM' (fun rm => do
      let r ← makeMove p rm.mov
      tpathsF kt d r.1) ms

def afterMoves (p : Position) : List Move → M Position
  | [] => pure p
  | m :: ms => do
    let r ← makeMove p m
    afterMoves r.1 ms

/-- 1.e4 e5 2.Nf3 Nc6 3.Bc4 Bc5 4.a4 a6 5.a5 b5 -/
def c06WitnessMoves : List Move :=
  [⟨Gen.E2, Gen.E4, 0, Gen.E3⟩, ⟨Gen.E7, Gen.E5, 0, Gen.E6⟩, ⟨Gen.G1, Gen.F3, 0, InvalidSq⟩,
   ⟨Gen.B8, Gen.C6, 0, InvalidSq⟩, ⟨Gen.F1, Gen.C4, 0, InvalidSq⟩, ⟨Gen.F8, Gen.C5, 0, InvalidSq⟩,
   ⟨Gen.A2, Gen.A4, 0, Gen.A3⟩, ⟨Gen.A7, Gen.A6, 0, InvalidSq⟩, ⟨Gen.A4, Gen.A5, 0, InvalidSq⟩,
   ⟨Gen.B7, Gen.B5, 0, Gen.B6⟩]

/-- White to move with an en-passant capture (a5xb6), three ordinary captures (Bxf7+, Bxb5, Nxe5)
    and kingside castling available: 35 legal moves, 4 of them tactical. (The `startPosition` fallback
    is never taken; the examples in `Props/C06.lean` pin the en-passant square to b6.) -/
def c06Witness : Position :=
  match afterMoves startPosition c06WitnessMoves with
  | .ok p => p
  | .error _ => startPosition

/-- White Ke1, Pa7; black Kh6, Rb8; White to move: a7-a8 and a7xb8, each with four promotions, plus
    five king steps: 13 legal moves, 8 tactical. Exercises `promo_legal_uniform` inside the counting
    theorems. -/
def c06PromoWitness : Position :=
  { board := ((((Array.replicate 128 0).setIfInBounds Gen.E1 Gen.WKing).setIfInBounds Gen.H6 Gen.BKing).setIfInBounds
      Gen.A7 Gen.WPawn).setIfInBounds Gen.B8 Gen.BRook,
    blackPieces := [Gen.B8], whitePieces := [], blackPawns := [], whitePawns := [Gen.A7],
    blackKing := Gen.H6, whiteKing := Gen.E1, flags := Gen.FlagWhiteTurn, ep := InvalidSq, ply := 0 }

/-- `startPosition` with a colourless pawn code on a3, listed as a black piece: the full generator
    flags Nb1xa3 tactical (`cell &&& Colorless != 0`), the tactical generator does not see it
    (`cell &&& enemy == 0`). Shows that `CellsOk` cannot be dropped from `tactical_is_filter`. -/
def c06BadCell : Position :=
  { startPosition with board := startPosition.board.setIfInBounds Gen.A3 1,
                       blackPieces := startPosition.blackPieces ++ [Gen.A3] }

/-- White Ke1, black Ke2 protected by a black pawn on d3, White to move: the generators drop K×e2 by
    their pre-test (e2 is attacked by the d3 pawn), while `isLegal` accepts it (after the capture the
    cell on the recorded black-king square is white, so `isUnderCheck` consults the white pawn-attack
    table). Both counters return 1, both generators return no move. Shows that `KingStepSafe`
    cannot be dropped from the counting theorems. -/
def c06AdjKings : Position :=
  { board := (((Array.replicate 128 0).setIfInBounds Gen.E1 Gen.WKing).setIfInBounds Gen.E2 Gen.BKing).setIfInBounds
      Gen.D3 Gen.BPawn,
    blackPieces := [], whitePieces := [], blackPawns := [Gen.D3], whitePawns := [],
    blackKing := Gen.E2, whiteKing := Gen.E1, flags := Gen.FlagWhiteTurn, ep := InvalidSq, ply := 0 }


/-! normal forms of the two witnesses that are computed from `startPosition` -/

theorem c06Witness_eq : c06Witness =
    { board := #[136, 130, 132, 144, 160, 0, 0, 136, 0, 0, 0, 0, 0, 0, 0, 0, 0, 129, 129, 129, 0, 129, 129, 129,
      0, 0, 0, 0, 0, 0, 0, 0, 0, 0, 0, 0, 0, 130, 0, 0, 0, 0, 0, 0, 0, 0, 0, 0, 0, 0, 132, 0, 129, 0, 0, 0, 0, 0,
      0, 0, 0, 0, 0, 0, 129, 65, 68, 0, 65, 0, 0, 0, 0, 0, 0, 0, 0, 0, 0, 0, 65, 0, 66, 0, 0, 0, 0, 0, 0, 0, 0, 0,
      0, 0, 0, 0, 0, 0, 65, 65, 0, 65, 65, 65, 0, 0, 0, 0, 0, 0, 0, 0, 72, 0, 68, 80, 96, 0, 66, 72, 0, 0, 0, 0,
      0, 0, 0, 0], blackPieces := [112, 82, 114, 115, 66, 118, 119], whitePieces := [0, 1, 2, 3, 50, 37, 7],
      blackPawns := [80, 65, 98, 99, 68, 101, 102, 103], whitePawns := [64, 17, 18, 19, 52, 21, 22, 23], blackKing
      := 116, whiteKing := 4, flags := 31, ep := 81, ply := 10 } := by
  unfold c06Witness; rw [startPosition_eq]; decide +kernel

theorem c06BadCell_eq : c06BadCell =
    { board := #[136, 130, 132, 144, 160, 132, 130, 136, 0, 0, 0, 0, 0, 0, 0, 0, 129, 129, 129, 129, 129, 129,
      129, 129, 0, 0, 0, 0, 0, 0, 0, 0, 1, 0, 0, 0, 0, 0, 0, 0, 0, 0, 0, 0, 0, 0, 0, 0, 0, 0, 0, 0, 0, 0, 0, 0, 0,
      0, 0, 0, 0, 0, 0, 0, 0, 0, 0, 0, 0, 0, 0, 0, 0, 0, 0, 0, 0, 0, 0, 0, 0, 0, 0, 0, 0, 0, 0, 0, 0, 0, 0, 0, 0,
      0, 0, 0, 65, 65, 65, 65, 65, 65, 65, 65, 0, 0, 0, 0, 0, 0, 0, 0, 72, 66, 68, 80, 96, 68, 66, 72, 0, 0, 0, 0,
      0, 0, 0, 0], blackPieces := [112, 113, 114, 115, 117, 118, 119, 32], whitePieces := [0, 1, 2, 3, 5, 6, 7],
      blackPawns := [96, 97, 98, 99, 100, 101, 102, 103], whitePawns := [16, 17, 18, 19, 20, 21, 22, 23],
      blackKing := 116, whiteKing := 4, flags := 31, ep := 136, ply := 0 } := by
  unfold c06BadCell; rw [startPosition_eq]; decide +kernel

end Magog.Count
