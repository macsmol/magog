import Magog.Lemmas.CountTac
import Magog.Lemmas.CountPromo
/-! C06, items 2 and 3: the counters against the generators. `CntOk` (count = number of legal moves of the list,
    provided `isLegal` runs on each of them) at each site of a counter's and a generator's walk (one pawn, one
    knight / king target, one square of a ray, the castling block), lifted by `Resp.walk`. -/

namespace Magog.Count
open Magog Magog.Model Magog.Walk

/-- `pawnCntQG`, `pawnCntKG`, `pawnCntPush`, `pawnTCntPush`: the parts of the model's per-pawn counters (`pawnCount_eq`,
    `pawnCountTactical_eq`). `g` is the guard a counter puts on its en-passant test beside `to == p.ep`:
    `rankOf frm != c.startRank` in `pawnCount`, `true` in `pawnCountTactical`; the generators have no such guard
    (`PawnHyp.ep`: where the test `to == p.ep` fires on a move that passes `isLegal`, `g` holds). -/
def pawnCntQG (g : Bool) (p : Position) (c : Ctx) (frm : Nat) : M Nat := do
  let toQ := addb (addb frm c.adv) 0xFF
  let hitQ ← andM (isValid toQ) (do
    let x ← bget p.board toQ
    pure (x &&& c.enBit != 0 || (toQ == p.ep && g)))
  if hitQ then countPawnMoves p frm toQ c.promoRank else pure 0

def pawnCntKG (g : Bool) (p : Position) (c : Ctx) (frm : Nat) : M Nat := do
  let toK := addb (addb frm c.adv) 1
  let x ← bget p.board toK
  if x &&& c.enBit != 0 || (toK == p.ep && g) then countPawnMoves p frm toK c.promoRank else pure 0

def pawnCntPush (p : Position) (c : Ctx) (frm : Nat) : M Nat := do
  let to1 := addb frm c.adv
  let y ← bget p.board to1
  if y == 0 then do
    let single ← countPawnMoves p frm to1 c.promoRank
    let to2 := addb to1 c.adv
    let dbl ← andM (rankOf frm == c.startRank) (do let z ← bget p.board to2; pure (z == 0))
    if dbl then do
      let ok ← isLegal p ⟨frm, to2, 0, to1⟩
      pure (single + b2n ok)
    else pure single
  else pure 0

def pawnTCntPush (p : Position) (c : Ctx) (frm : Nat) : M Nat := do
  let to1 := addb frm c.adv
  let y ← bget p.board to1
  if y == 0 && rankOf to1 == c.promoRank then countPawnMoves p frm to1 c.promoRank else pure 0

theorem pawnCount_eq (p c frm) : pawnCount p c frm = (do
    let a ← pawnCntQG (rankOf frm != c.startRank) p c frm
    let b ← pawnCntKG (rankOf frm != c.startRank) p c frm
    let d ← pawnCntPush p c frm
    pure (a + b + d)) := by
  unfold pawnCntQG pawnCntKG pawnCntPush
  simp only [bind_assoc, M.ite_bind]
  rfl

theorem pawnCountTactical_eq (p c frm) : pawnCountTactical p c frm = (do
    let a ← pawnCntQG true p c frm
    let b ← pawnCntKG true p c frm
    let d ← pawnTCntPush p c frm
    pure (a + b + d)) := by
  unfold pawnCntQG pawnCntKG pawnTCntPush
  simp only [bind_assoc, M.ite_bind, Bool.and_true]
  rfl

def CntRel (p : Position) (n : Nat) (a : List RMove) : Prop :=
  n = ((a.map (·.mov)).filter (legalB p)).length

theorem CntRel.nil {p : Position} : CntRel p 0 [] := rfl

theorem CntRel.append {p : Position} {n m : Nat} {a b : List RMove} (h1 : CntRel p n a) (h2 : CntRel p m b) :
    CntRel p (n + m) (a ++ b) := by
  unfold CntRel at *
  simp only [List.map_append, List.filter_append, List.length_append, h1, h2]

theorem CntRel.single {p : Position} {m : Move} {l : Bool} {rm : RMove} (hl : isLegal p m = .ok l)
    (hm : rm.mov = m) : CntRel p (b2n l) [rm] := by
  unfold CntRel
  simp only [List.map_cons, List.map_nil, hm, List.filter_cons, legalB_of_ok hl]
  cases l <;> rfl

/-- `CntRel` for a part of the generated list all of whose moves pass through `isLegal` without panic: the
    legality filter of the generator guarantees that for the whole list, and so for every part -/
def CntOk (p : Position) (n : Nat) (a : List RMove) : Prop := (∀ rm ∈ a, IsOk (isLegal p rm.mov)) → CntRel p n a

theorem CntOk.append {p : Position} {n m : Nat} {a b : List RMove} (h1 : CntOk p n a) (h2 : CntOk p m b) :
    CntOk p (n + m) (a ++ b) := fun hok =>
  CntRel.append (h1 fun rm h => hok rm (List.mem_append_left _ h)) (h2 fun rm h => hok rm (List.mem_append_right _ h))

theorem cntResp (kt : Killers) (p : Position) (c : Ctx) : Resp (cntE p c) (genE kt p c) (CntOk p) :=
  ⟨fun _ => CntRel.nil, CntOk.append⟩

theorem tcntResp (p : Position) (c : Ctx) : Resp (tcntE p c) (tacE p c) (CntOk p) :=
  ⟨fun _ => CntRel.nil, CntOk.append⟩

theorem isLegal_to_lt {p : Position} {m : Move} (h : IsOk (isLegal p m)) : m.to < p.board.size := by
  obtain ⟨b, h⟩ := h
  obtain ⟨q, h⟩ := isLegal_ok_iff.1 h
  obtain ⟨_, tp, _, htp, _⟩ := (MM.makeMove_ok_iff_closed rfl).mp h
  exact (Array.getElem?_eq_some_iff.mp htp).1

theorem emit_cnt {p : Position} {m : Move} {emit : M (List RMove)} {P : RMove → Prop}
    (hm : ∀ a, emit = .ok a → ∃ rm, a = [rm] ∧ rm.mov = m ∧ P rm) : Rel2 (CntOk p) (legalN p m) emit := by
  refine Rel2.of fun n a hn ha _ => ?_
  obtain ⟨l, hl, hn⟩ := bind_ok.1 hn
  cases hn
  obtain ⟨rm, rfl, hrm, _⟩ := hm a ha
  exact CntRel.single hl hrm

theorem step_cnt {p : Position} {m : Move} {B : Array Nat} {test : Nat → M Bool} {emit : M (List RMove)} {t : Nat}
    {P : RMove → Prop} (hm : ∀ a, emit = .ok a → ∃ rm, a = [rm] ∧ rm.mov = m ∧ P rm) :
    Rel2 (CntOk p) (stepBody B test (legalN p m) 0 t) (stepBody B test emit [] t) :=
  RelT.step (emit_cnt hm) fun _ => CntRel.nil

theorem here_cnt {kt : Killers} {p : Position} {c : Ctx} {frm pc to x : Nat} :
    Rel2 (CntOk p) ((cntE p c).here frm pc to x) ((genE kt p c).here frm pc to x) :=
  emit_cnt fun _ h => let ⟨mv, hmv, e⟩ := bind_ok.1 h
    ⟨mv, (Except.ok.inj e).symm, moveOrCapture_mov hmv, trivial⟩

theorem here_tcnt {p : Position} {c : Ctx} {frm pc to x : Nat} :
    Rel2 (CntOk p) ((tcntE p c).here frm pc to x) ((tacE p c).here frm pc to x) :=
  RelT.ite (fun _ => emit_cnt fun _ h => let ⟨_, _, h⟩ := bind_ok.1 h; let ⟨mv, hmv, e⟩ := bind_ok.1 h
    ⟨mv, (Except.ok.inj e).symm, (captureRM_shape hmv).1, trivial⟩) fun _ => RelT.pure fun _ => CntRel.nil

theorem notAttacked_false {B : Array Nat} {en : Side} {sq : Nat}
    (h : (do let chk ← isUnderCheck B en sq; pure (!chk) : M Bool) = .ok false) : isUnderCheck B en sq = .ok true := by
  simp only [bind_ok, pure_eq_ok, Except.ok.injEq, Bool.not_eq_false'] at h
  obtain ⟨chk, h, rfl⟩ := h
  exact h

/-- a counting step against a generating step whose guard carries a pre-test `N` that only removes illegal moves -/
theorem preTest_cnt {p : Position} {m : Move} {g N : M Bool} {emit : M (List RMove)} {n : Nat} {a : List RMove}
    {P : RMove → Prop} (hsafe : N = .ok false → isLegal p m ≠ .ok true)
    (hm : ∀ a, emit = .ok a → ∃ rm, a = [rm] ∧ rm.mov = m ∧ P rm)
    (hn : (do let ok ← g; if ok then (do let l ← isLegal p m; pure (b2n l)) else pure 0) = .ok n)
    (ha : (do let ok ← (do let ok ← g; andM ok N); if ok then emit else pure []) = .ok a) : CntRel p n a := by
  simp only [bind_ok] at hn ha
  obtain ⟨ok, h1, hn⟩ := hn
  obtain ⟨ok2, ⟨ok', h2, h3⟩, ha⟩ := ha
  rw [h1] at h2; cases h2
  cases ok
  · cases h3; cases hn; cases ha; exact CntRel.nil
  · simp only [if_true, bind_ok, pure_eq_ok, Except.ok.injEq] at hn
    obtain ⟨l, hl, rfl⟩ := hn
    cases ok2
    · cases ha
      cases l
      · exact CntRel.nil
      · exact absurd hl (hsafe h3)
    · obtain ⟨rm, rfl, hrm, _⟩ := hm a ha
      exact CntRel.single hl hrm

/-- a king step: the generators ask `isUnderCheck` on the target before emitting, the counters do not -/
theorem kgStep_cnt {p : Position} (hks : KingStepSafe p) {d : Nat} (hd : d ∈ kingDirs) {g : Nat → Bool}
    {emit : M (List RMove)} {P : RMove → Prop} (hm : ∀ a, emit = .ok a →
      ∃ rm, a = [rm] ∧ rm.mov = ⟨p.ctx.cur.king, addb p.ctx.cur.king d, 0, InvalidSq⟩ ∧ P rm) :
    Rel2 (CntOk p)
      (stepBody p.board (fun x => pure (g x)) (legalN p ⟨p.ctx.cur.king, addb p.ctx.cur.king d, 0, InvalidSq⟩) 0
        (addb p.ctx.cur.king d))
      (stepBody p.board (fun x => andM (g x) (do
          let chk ← isUnderCheck p.board p.ctx.en (addb p.ctx.cur.king d)
          pure (!chk))) emit [] (addb p.ctx.cur.king d)) := by
  refine Rel2.of fun n a hn ha _ => ?_
  unfold stepBody at ha
  rw [andM_andM] at ha
  exact preTest_cnt (fun h => hks d hd (notAttacked_false h)) hm hn ha

def pawnMovs (frm to pr : Nat) : List Move :=
  if rankOf to == pr then
    [⟨frm, to, Queen, InvalidSq⟩, ⟨frm, to, Rook, InvalidSq⟩, ⟨frm, to, Bishop, InvalidSq⟩,
     ⟨frm, to, Knight, InvalidSq⟩]
  else [⟨frm, to, 0, InvalidSq⟩]

/-- what the per-pawn counting lemmas need; `g` is the counter's extra en-passant guard -/
structure PawnHyp (g : Bool) (p : Position) (c : Ctx) (frm : Nat) : Prop where
  uniform : ∀ to k b0 b1, k ∈ [Queen, Rook, Bishop, Knight] → (rankOf to == c.promoRank) = true →
    isLegal p ⟨frm, to, 0, InvalidSq⟩ = .ok b0 → isLegal p ⟨frm, to, k, InvalidSq⟩ = .ok b1 → b0 = b1
  ep : ∀ to, to = addb (addb frm c.adv) 0xFF ∨ to = addb (addb frm c.adv) 1 → to = p.ep →
    to < p.board.size → isValid to = true ∧ g = true

/-- `countPawnMoves` asks `isLegal` once, with promotion code 0, and answers 4 on the promotion rank; the generator
    emits the four promotion moves and filters each. `PawnHyp.uniform` gives all four the verdict of code 0. -/
theorem countPawn_rel {g : Bool} {p : Position} {c : Ctx} {frm to n : Nat} {a : List RMove}
    (hh : PawnHyp g p c frm) (hn : countPawnMoves p frm to c.promoRank = .ok n)
    (hmov : a.map (·.mov) = pawnMovs frm to c.promoRank)
    (hok : ∀ rm ∈ a, IsOk (isLegal p rm.mov)) : CntRel p n a := by
  have hok' : ∀ m ∈ a.map (·.mov), IsOk (isLegal p m) := by
    intro m hm
    obtain ⟨rm, hrm, rfl⟩ := List.mem_map.mp hm
    exact hok rm hrm
  rw [hmov] at hok'
  unfold CntRel
  rw [hmov]
  simp only [countPawnMoves, bind_ok] at hn
  obtain ⟨l0, hl0, hn⟩ := hn
  unfold pawnMovs at hok' ⊢
  cases hr : (rankOf to == c.promoRank)
  · simp only [hr, Bool.false_eq_true, if_false, pure_eq_ok] at hn ⊢
    simp only [List.filter_cons, legalB_of_ok hl0]
    cases l0
    · simp at hn; subst hn; rfl
    · simp at hn; subst hn; rfl
  · simp only [hr, if_true, pure_eq_ok] at hn hok' ⊢
    obtain ⟨bq, hbq⟩ := hok' ⟨frm, to, Queen, InvalidSq⟩ (by simp)
    obtain ⟨br, hbr⟩ := hok' ⟨frm, to, Rook, InvalidSq⟩ (by simp)
    obtain ⟨bb, hbb⟩ := hok' ⟨frm, to, Bishop, InvalidSq⟩ (by simp)
    obtain ⟨bn, hbn⟩ := hok' ⟨frm, to, Knight, InvalidSq⟩ (by simp)
    have eq := hh.uniform to Queen l0 bq (by simp) hr hl0 hbq
    have er := hh.uniform to Rook l0 br (by simp) hr hl0 hbr
    have eb := hh.uniform to Bishop l0 bb (by simp) hr hl0 hbb
    have en := hh.uniform to Knight l0 bn (by simp) hr hl0 hbn
    subst eq; subst er; subst eb; subst en
    simp only [List.filter_cons, legalB_of_ok hbq, legalB_of_ok hbr, legalB_of_ok hbb, legalB_of_ok hbn]
    cases l0
    · simp at hn; subst hn; rfl
    · simp at hn; subst hn; rfl

theorem pawnCaptures_movs {frm to pr cap a} (h : pawnCaptures frm to pr cap = .ok a) :
    a.map (·.mov) = pawnMovs frm to pr := (pawnCaptures_shape h).2

theorem pawnMovs_mem (frm to pr : Nat) : ∃ m ∈ pawnMovs frm to pr, m.to = to := by
  unfold pawnMovs
  split
  · exact ⟨_, List.mem_cons_self, rfl⟩
  · exact ⟨_, List.mem_cons_self, rfl⟩

theorem movs_to_lt {p : Position} {frm to pr : Nat} {a : List RMove}
    (hmov : a.map (·.mov) = pawnMovs frm to pr) (hok : ∀ rm ∈ a, IsOk (isLegal p rm.mov)) :
    to < p.board.size := by
  obtain ⟨m, hm, hto⟩ := pawnMovs_mem frm to pr
  rw [← hmov] at hm
  obtain ⟨rm, hrm, rfl⟩ := List.mem_map.mp hm
  rw [← hto]
  exact isLegal_to_lt (hok rm hrm)

/-- one capture side of a pawn once the target cell `x` has been read: the counter's single condition against the
    generator's two branches (ordinary capture, en passant) -/
theorem pawnCap_cnt {g : Bool} {p : Position} {c : Ctx} {frm to x n : Nat} {a : List RMove}
    (hh : PawnHyp g p c frm) (hto : to = addb (addb frm c.adv) 0xFF ∨ to = addb (addb frm c.adv) 1)
    (hn : (if x &&& c.enBit != 0 || (to == p.ep && g) then countPawnMoves p frm to c.promoRank else pure 0) = .ok n)
    (ha : (if x &&& c.enBit != 0 then pawnCaptures frm to c.promoRank (x &&& Colorless)
      else if to == p.ep then pawnCaptures frm to c.promoRank Pawn else pure []) = .ok a)
    (hok : ∀ rm ∈ a, IsOk (isLegal p rm.mov)) : CntRel p n a := by
  cases he : (x &&& c.enBit != 0)
  · simp only [he, Bool.false_or, Bool.false_eq_true, if_false] at hn ha
    cases hq : (to == p.ep)
    · simp only [hq, Bool.false_and, Bool.false_eq_true, if_false] at hn ha
      cases hn; cases ha; exact CntRel.nil
    · simp only [hq, if_true, Bool.true_and] at hn ha
      have hlt := movs_to_lt (pawnCaptures_movs ha) hok
      have hg := (hh.ep _ hto (by simpa using hq) hlt).2
      simp only [hg, if_true] at hn
      exact countPawn_rel hh hn (pawnCaptures_movs ha) hok
  · simp only [he, Bool.true_or, if_true] at hn ha
    exact countPawn_rel hh hn (pawnCaptures_movs ha) hok

theorem pawnQ_cnt {g : Bool} {p : Position} {c : Ctx} {frm : Nat} (hh : PawnHyp g p c frm) :
    Rel2 (CntOk p) (pawnCntQG g p c frm) (pawnCapQ p c frm) := by
  refine Rel2.of fun n a hn ha hok => ?_
  unfold pawnCntQG at hn
  unfold pawnCapQ at ha
  dsimp only at hn ha
  cases hv : isValid (addb (addb frm c.adv) 255)
  · simp only [hv, andM_false, ok_bind, Bool.false_eq_true, if_false, pure_eq_ok, Except.ok.injEq] at hn ha
    subst hn
    cases hq : (addb (addb frm c.adv) 255 == p.ep)
    · simp only [hq, Bool.false_eq_true, if_false, Except.ok.injEq] at ha
      subst ha; exact CntRel.nil
    · simp only [hq, if_true] at ha
      have hlt := movs_to_lt (pawnCaptures_movs ha) hok
      have := (hh.ep _ (.inl rfl) (by simpa using hq) hlt).1
      rw [hv] at this; cases this
  · cases hx : bget p.board (addb (addb frm c.adv) 255) with
    | error e => simp [hv, hx] at hn
    | ok x =>
      simp only [hv, hx, andM_true, ok_bind, pure_bind] at hn ha
      refine pawnCap_cnt hh (.inl rfl) hn ?_ hok
      cases he : (x &&& c.enBit != 0)
      · simpa only [he, Bool.false_eq_true, if_false] using ha
      · simpa only [he, if_true] using ha

theorem pawnK_cnt {g : Bool} {p : Position} {c : Ctx} {frm : Nat} (hh : PawnHyp g p c frm) :
    Rel2 (CntOk p) (pawnCntKG g p c frm) (pawnCapK p c frm) :=
  RelT.bind_same fun _ _ => Rel2.of fun _ _ hn ha => pawnCap_cnt hh (.inr rfl) hn ha

theorem pawnPushes_movs {kt ply frm to pr a} (h : pawnPushes kt ply frm to pr = .ok a) :
    a.map (·.mov) = pawnMovs frm to pr := by
  have hs := pawnPushes_shape h
  unfold pawnMovs
  split at hs
  · rename_i hr; rw [if_pos hr, hs]; rfl
  · rename_i hr; rw [if_neg hr]
    obtain ⟨q, rfl, hq, _⟩ := hs
    simp [hq]

theorem pawnPush_cnt {g : Bool} {p : Position} {c : Ctx} {kt : Killers} {frm : Nat} (hh : PawnHyp g p c frm) :
    Rel2 (CntOk p) (pawnCntPush p c frm) (pawnPushGen p c kt frm) := by
  refine Rel2.of fun n a hn ha hok => ?_
  simp only [pawnCntPush, pawnPushGen, bind_ok] at hn ha
  obtain ⟨y, hy, hn⟩ := hn
  obtain ⟨y', hy', ha⟩ := ha
  rw [hy] at hy'; cases hy'
  cases h0 : (y == 0)
  · simp only [h0, Bool.false_eq_true, if_false, pure_eq_ok, Except.ok.injEq] at hn ha
    subst hn; subst ha; exact CntRel.nil
  · simp only [h0, if_true, bind_ok, pure_eq_ok] at hn ha
    obtain ⟨sn, hsn, dbl, hdbl, hn⟩ := hn
    obtain ⟨sa, hsa, dbl', hdbl', ha⟩ := ha
    rw [hdbl] at hdbl'; cases hdbl'
    cases dbl
    · simp only [Bool.false_eq_true, if_false, Except.ok.injEq] at hn ha
      subst hn; subst ha
      exact countPawn_rel hh hsn (pawnPushes_movs hsa) hok
    · simp only [if_true, bind_ok, Except.ok.injEq] at hn ha
      obtain ⟨l, hl, rfl⟩ := hn
      subst ha
      exact CntOk.append (countPawn_rel hh hsn (pawnPushes_movs hsa)) (fun _ => CntRel.single hl rfl) hok

theorem pawnPush_tcnt {g : Bool} {p : Position} {c : Ctx} {frm : Nat} (hh : PawnHyp g p c frm) :
    Rel2 (CntOk p) (pawnTCntPush p c frm) (pawnPushTac p c frm) := by
  refine Rel2.of fun n a hn ha hok => ?_
  simp only [pawnTCntPush, pawnPushTac, bind_ok] at hn ha
  obtain ⟨y, hy, hn⟩ := hn
  obtain ⟨y', hy', ha⟩ := ha
  rw [hy] at hy'; cases hy'
  simp only [pure_eq_ok, Except.ok.injEq] at ha
  cases h0 : (y == 0 && rankOf (addb frm c.adv) == c.promoRank)
  · simp only [h0, Bool.false_eq_true, if_false, pure_eq_ok, Except.ok.injEq] at hn ha
    subst hn; subst ha; exact CntRel.nil
  · simp only [h0, if_true] at hn ha
    subst ha
    have hr : (rankOf (addb frm c.adv) == c.promoRank) = true := by
      simp only [Bool.and_eq_true] at h0; exact h0.2
    refine countPawn_rel hh hn ?_ hok
    unfold pawnMovs
    rw [if_pos hr]; rfl

theorem pawn_cnt {p : Position} {c : Ctx} {kt : Killers} {frm : Nat}
    (hh : PawnHyp (rankOf frm != c.startRank) p c frm) : Rel2 (CntOk p) (pawnCount p c frm) (pawnGen p c kt frm) := by
  rw [pawnCount_eq, pawnGen_eq]
  exact RelT.bind (pawnQ_cnt hh) fun _ _ h1 => RelT.bind (pawnK_cnt hh) fun _ _ h2 =>
    RelT.bind (pawnPush_cnt hh) fun _ _ h3 => RelT.pure ((h1.append h2).append h3)

theorem pawn_tcnt {p : Position} {c : Ctx} {frm : Nat} (hh : PawnHyp true p c frm) :
    Rel2 (CntOk p) (pawnCountTactical p c frm) (pawnGenTactical p c frm) := by
  rw [pawnCountTactical_eq, pawnGenTactical_eq]
  exact RelT.bind (pawnQ_cnt hh) fun _ _ h1 => RelT.bind (pawnK_cnt hh) fun _ _ h2 =>
    RelT.bind (pawnPush_tcnt hh) fun _ _ h3 => RelT.pure ((h1.append h2).append h3)

/-- one side of the castling block, counter against generator (`ha` is `castlePart_shape` of `castleQPart` / `castleKPart`) -/
theorem castle_cnt {p : Position} {m : Move} {flag : Bool} {okM : M Bool} {n : Nat} {a : List RMove}
    (hsafe : flag = true → okM = .ok true → isLegal p m = .ok true)
    (hn : (if flag then do let ok ← okM; pure (b2n ok) else pure 0) = .ok n)
    (ha : (a = [] ∧ (flag = false ∨ okM = .ok false)) ∨
      ∃ mv, a = [mv] ∧ mv.mov = m ∧ mv.tactical = false ∧ flag = true ∧ okM = .ok true) : CntRel p n a := by
  rcases ha with ⟨rfl, hq | hq⟩ | ⟨mv, rfl, hm, _, hq, hok⟩
  · rw [hq] at hn; cases hn; exact CntRel.nil
  · cases flag
    · cases hn; exact CntRel.nil
    · rw [if_pos rfl, hq] at hn; cases hn; exact CntRel.nil
  · rw [hq, if_pos rfl, hok] at hn; cases hn
    exact CntRel.single (hsafe hq hok) hm

theorem castles_cnt {kt : Killers} {p : Position} (hcs : CastleSafe p) :
    Rel2 (CntOk p) (cntE p p.ctx).castle (genE kt p p.ctx).castle := by
  refine Rel2.of fun k a hk ha _ => ?_
  simp only [cntE, genE, castleGen_eq, bind_ok, pure_eq_ok, Except.ok.injEq] at hk ha
  obtain ⟨nq, hnq, nks, hnks, rfl⟩ := hk
  obtain ⟨q, hq, ks, hks', rfl⟩ := ha
  exact CntRel.append (castle_cnt hcs.1 hnq (castlePart_shape hq)) (castle_cnt hcs.2 hnks (castlePart_shape hks'))

set_option maxRecDepth 100000 in
theorem ep_rank_fin : ∀ w : Bool, ∀ f < 256,
    (rankOf (addb (addb f (if w then Gen.DirN else Gen.DirS)) 255) = (if w then Gen.Rank6 else Gen.Rank3) ∨
      rankOf (addb (addb f (if w then Gen.DirN else Gen.DirS)) 1) = (if w then Gen.Rank6 else Gen.Rank3)) →
    rankOf f ≠ (if w then Gen.Rank2 else Gen.Rank7) := by decide +kernel

/-- a pawn on its start rank cannot capture onto the en-passant rank -/
theorem ep_rank (w : Bool) (f : Nat)
    (h : rankOf (addb (addb f (if w then Gen.DirN else Gen.DirS)) 255) = (if w then Gen.Rank6 else Gen.Rank3) ∨
      rankOf (addb (addb f (if w then Gen.DirN else Gen.DirS)) 1) = (if w then Gen.Rank6 else Gen.Rank3)) :
    rankOf f ≠ (if w then Gen.Rank2 else Gen.Rank7) := by
  rw [rankOf_mod]
  rw [addb_mod f] at h
  exact ep_rank_fin w (f % 256) (Nat.mod_lt _ (by decide)) h

theorem ep_not_promoRank {p : Position} (hep : EpRankOk p) : rankOf p.ep ≠ p.ctx.promoRank := by
  unfold Position.ctx
  rcases hep with h | ⟨_, h⟩
  · rw [h]; split <;> (dsimp only; decide)
  · rw [h]; split <;> (dsimp only; decide)

theorem ep_lt_valid {p : Position} (hsz : BoardSize p) (hep : EpRankOk p) (h : p.ep < p.board.size) :
    isValid p.ep = true := by
  rcases hep with h' | ⟨h', _⟩
  · rw [hsz, h'] at h; exact absurd h (by decide)
  · exact h'

theorem pawnHyp_uniform {p : Position} (hep : EpRankOk p) (hpw : PawnsOk p) (hcap : CaptureOk p)
    {frm : Nat} (hfrm : frm ∈ p.ctx.cur.pawns) :
    ∀ to k b0 b1, k ∈ [Queen, Rook, Bishop, Knight] → (rankOf to == p.ctx.promoRank) = true →
      isLegal p ⟨frm, to, 0, InvalidSq⟩ = .ok b0 → isLegal p ⟨frm, to, k, InvalidSq⟩ = .ok b1 → b0 = b1 := by
  intro to k b0 b1 hk hr h0 h1
  obtain ⟨q0, h0⟩ := isLegal_ok_iff.1 h0
  obtain ⟨q1, h1⟩ := isLegal_ok_iff.1 h1
  have hto : to ≠ p.ep := by
    intro hh
    have := ep_not_promoRank hep
    rw [← hh] at this
    exact this (by simpa using hr)
  have hkb : k &&& BlackBit = 0 := by
    simp only [List.mem_cons, List.not_mem_nil, or_false] at hk
    rcases hk with rfl | rfl | rfl | rfl <;> decide
  exact promo_legal_uniform hcap (hpw frm hfrm) hto hkb h0 h1

theorem pawnHyp_tactical {p : Position} (hsz : BoardSize p) (hep : EpRankOk p) (hpw : PawnsOk p)
    (hcap : CaptureOk p) {frm : Nat} (hfrm : frm ∈ p.ctx.cur.pawns) : PawnHyp true p p.ctx frm where
  uniform := pawnHyp_uniform hep hpw hcap hfrm
  ep := by
    intro to _ hto hlt
    subst hto
    exact ⟨ep_lt_valid hsz hep hlt, rfl⟩

theorem pawnHyp_full {p : Position} (hsz : BoardSize p) (hep : EpRankOk p) (hpw : PawnsOk p)
    (hcap : CaptureOk p) {frm : Nat} (hfrm : frm ∈ p.ctx.cur.pawns) :
    PawnHyp (rankOf frm != p.ctx.startRank) p p.ctx frm where
  uniform := pawnHyp_uniform hep hpw hcap hfrm
  ep := by
    intro to hsq hto hlt
    subst hto
    have hv := ep_lt_valid hsz hep hlt
    refine ⟨hv, ?_⟩
    rcases hep with h' | ⟨_, hr⟩
    · rw [h'] at hv; exact absurd hv (by decide)
    · simp only [bne_iff_ne, ne_eq]
      rw [MM.ctx_eq] at hsq ⊢
      refine ep_rank (whiteTurn p) frm ?_
      rcases hsq with h | h
      · exact .inl (h ▸ hr)
      · exact .inr (h ▸ hr)

/-! ### C06 items 2 and 3: the counters return the lengths of the generated lists -/

theorem length_of_cntRel {p : Position} {n : Nat} {ps : List RMove} (h : CntRel p n ps) :
    n = (ps.filter (fun rm => legalB p rm.mov)).length := by
  unfold CntRel at h
  rw [h, List.filter_map, List.length_map]
  rfl

theorem countTactical_length {p : Position} {n : Nat} {ts : List RMove} (hsz : BoardSize p)
    (hep : EpRankOk p) (hpw : PawnsOk p) (hcap : CaptureOk p) (hks : KingStepSafe p)
    (hn : countTacticalMoves p = .ok n) (ht : generateTacticalMoves p = .ok ts) : n = ts.length := by
  simp only [generateTacticalMoves, bind_ok] at ht
  obtain ⟨ps, hps, ht⟩ := ht
  obtain ⟨hokall, rfl⟩ := legalFilter_ok ht
  rw [countTacticalMoves_eq] at hn
  rw [genPseudoTactical_eq] at hps
  exact length_of_cntRel (((tcntResp p p.ctx).walk
    (fun _ hfrm => pawn_tcnt (pawnHyp_tactical hsz hep hpw hcap hfrm))
    (fun _ _ _ => step_cnt fun _ => captureEmit_shape) (fun _ _ _ _ _ _ _ => here_tcnt)
    (fun d hd => kgStep_cnt hks hd fun _ => captureEmit_shape)
    (RelT.pure fun _ => CntRel.nil)).out hn hps hokall)

theorem countMoves_length {kt : Killers} {p : Position} {n : Nat} {ms : List RMove} (hsz : BoardSize p)
    (hep : EpRankOk p) (hpw : PawnsOk p) (hcap : CaptureOk p) (hks : KingStepSafe p) (hcs : CastleSafe p)
    (hf : generateMoves kt p = .ok ms) (hn : countMoves p = .ok n) : n = ms.length := by
  simp only [generateMoves, bind_ok] at hf
  obtain ⟨ps, hps, hf⟩ := hf
  obtain ⟨hokall, rfl⟩ := legalFilter_ok hf
  rw [countMoves_eq_walk] at hn
  rw [genPseudo_eq] at hps
  exact length_of_cntRel (((cntResp kt p p.ctx).walk
    (fun _ hfrm => pawn_cnt (pawnHyp_full hsz hep hpw hcap hfrm))
    (fun _ _ _ => step_cnt fun _ => moveEmit_shape) (fun _ _ _ _ _ _ _ => here_cnt)
    (fun d hd => kgStep_cnt hks hd fun _ => moveEmit_shape)
    (castles_cnt hcs)).out hn hps hokall)

end Magog.Count
