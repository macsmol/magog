import Magog.Lemmas.LegalMoves
import Magog.Lemmas.CountKing

/-! The side conditions of the C06 counting theorems (`Count.CellsOk`, `BoardSize`, `EpRankOk`, `PawnsOk`,
    `CaptureOk`, `KingsOk` / `KingStepSafe`, `CastleSafe`) all follow from the shared invariant `Inv`
    together with `OppSafe` ("the side not to move is not in check"; needed for "the kings are not
    adjacent" and for `CastleSafe`). -/

set_option autoImplicit false

namespace Magog.CountInv
open Magog Magog.Model Magog.Atk Magog.Geo Magog.Count Magog.MM Magog.LegalMoves

variable {p : Position}

theorem cellOk_codes : ∀ v ∈ 0 :: pieceCodes, CellOk v := by decide

theorem cellsOk_of_inv (hI : Inv p) : CellsOk p := by
  intro x hx
  obtain ⟨i, hi, rfl⟩ := List.mem_iff_getElem.1 hx
  have hi' : i < p.board.size := by simpa using hi
  have hi128 : i < 128 := by rw [← hI.board.size]; exact hi'
  have hget : p.board[i]? = some (p.board.toList[i]) := by
    rw [Array.getElem?_eq_getElem hi']; simp
  cases hv : isValid i
  · have := hI.offBoard i hi128 hv
    rw [hget] at this
    rw [Option.some.inj this]
    exact cellOk_codes 0 (by simp)
  · obtain ⟨v, h1, h2⟩ := hI.board.codes i hi128 hv
    rw [hget] at h1
    rw [Option.some.inj h1]
    exact cellOk_codes v (List.mem_cons.2 h2)

theorem boardSize_of_inv (hI : Inv p) : BoardSize p := hI.board.size

theorem epRankOk_of_inv (hI : Inv p) : EpRankOk p := by
  rcases hI.ep with h | h
  · exact .inl h
  · refine .inr ⟨h.2.1, ?_⟩
    have := h.2.2.2
    split at this
    · rename_i hw; rw [if_pos hw]; exact this.1
    · rename_i hw; rw [if_neg hw]; exact this.1

theorem pawnsOk_of_inv (hI : Inv p) : PawnsOk p := by
  simp only [PawnsOk, ctx_eq, ctxW, pawn_code]
  exact fun f hf => ((hI.sideInv _).ok.pawn_cell hf).2

theorem captureOk_of_inv (hI : Inv p) : CaptureOk p := by
  simp only [CaptureOk, ctx_eq, ctxW]
  refine ⟨(hI.sideInv _).ndPieces, fun a ha => ?_⟩
  obtain ⟨_, v, hv, hcell⟩ := (hI.sideInv _).ok.piece_cell ha
  rw [hcell, king_code, pawn_code]
  refine ⟨fun e => officer_ne_zero hv (Option.some.inj e), fun e => ?_, fun e => ?_⟩
  · rw [Option.some.inj e] at hv; exact kingOf_not_officer _ _ hv
  · rw [Option.some.inj e] at hv; exact pawnOf_not_officer _ _ hv

theorem kingsOk_of_inv (hI : Inv p) (hS : OppSafe p) : KingsOk p := by
  have hcur := (hI.sideInv (whiteTurn p)).ok
  have hen := (hI.sideInv (!whiteTurn p)).ok
  have hsafe := safe_of_oppSafe hI rfl hS
  obtain ⟨hk88, hkc⟩ := hcur.king_cell
  simp only [KingsOk, ctx_eq, ctxW, king_code]
  refine ⟨hkc, fun hm => ?_, fun e => ?_, fun d hd e => ?_⟩
  · obtain ⟨_, v, hv, hcell⟩ := hen.piece_cell hm
    rw [hkc] at hcell
    rw [← Option.some.inj hcell] at hv
    exact kingOf_not_officer _ _ hv
  · have := hen.king_cell.2
    rw [← e, hkc] at this
    exact kingOf_ne_not _ (Option.some.inj this)
  · have h88 : addb (p.side (whiteTurn p)).king d ∈ sq88 := e ▸ hen.king_cell.1
    have h0 := hsafe.king
    rw [← e] at h0
    exact GenGeo.king_geo hk88 hd h88 h0

theorem tcountOk_of_inv (hI : Inv p) (hS : OppSafe p) : TCountOk p :=
  ⟨boardSize_of_inv hI, epRankOk_of_inv hI, pawnsOk_of_inv hI, captureOk_of_inv hI,
   kingStepSafe_of_kingsOk (kingsOk_of_inv hI hS)⟩

theorem countOk_of_inv (hI : Inv p) (hS : OppSafe p) : CountOk p :=
  { toTCountOk := tcountOk_of_inv hI hS, castle := castleSafe_of_inv hI hS }

end Magog.CountInv
