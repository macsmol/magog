import Magog.Lemmas.CountPromo

/-! C06: `KingStepSafe` discharged from structural conditions on the two kings (`KingsOk`):
    a king step onto a square that is attacked in the current position is never legal, because
    every attack on the target persists after the move (`isUnderCheck_mono`). -/

namespace Magog.Count
open Magog Magog.Model

/-- The mover's king stands on its recorded square, that square is not in the enemy piece list, and
    the enemy king is neither on it nor adjacent to it. (Adjacent kings are the one situation in which
    the engine's pre-test and `isLegal` really disagree: after K×k the cell on the "enemy king square"
    has the mover's colour and `isUnderCheck` picks the wrong pawn-attack table.) From `Inv` and `OppSafe` by
    `CountInv.kingsOk_of_inv`. -/
def KingsOk (p : Position) : Prop :=
  p.board[p.ctx.cur.king]? = some (King ||| p.ctx.curBit) ∧
  p.ctx.cur.king ∉ p.ctx.en.pieces ∧
  p.ctx.cur.king ≠ p.ctx.en.king ∧
  ∀ d ∈ kingDirs, addb p.ctx.cur.king d ≠ p.ctx.en.king

instance (p : Position) : Decidable (KingsOk p) := by unfold KingsOk; infer_instance

theorem enCaptured_mem {w : Bool} {en en' : Side} {tp : Nat} {m : Move} (h : MM.enCaptured w en tp m = .ok en') :
    en'.king = en.king ∧ (∀ x ∈ en.pawns, x ≠ m.to → x ∈ en'.pawns) ∧
      (∀ x ∈ en.pieces, x ≠ m.to → x ∈ en'.pieces) := by
  unfold MM.enCaptured at h
  split at h
  · cases h
    exact ⟨rfl, fun x hx _ => hx, fun x hx _ => hx⟩
  · split at h <;> obtain ⟨l, hk, rfl⟩ := map_ok.mp h
    · exact ⟨rfl, fun x hx hne => kill_mem hx hne hk, fun x hx _ => hx⟩
    · exact ⟨rfl, fun x hx _ => hx, fun x hx hne => kill_mem hx hne hk⟩

set_option maxRecDepth 100000 in
theorem king_step_not_castle_fin : ∀ k < 256, ∀ d ∈ kingDirs, fileOf k = Gen.E →
    fileOf (addb k d) ≠ Gen.C ∧ fileOf (addb k d) ≠ Gen.G := by decide +kernel

/-- a one-square king step from the e-file never lands on the c- or g-file (so MakeMove's castling
    rook shuffle is not triggered by it) -/
theorem king_step_not_castle (k : Nat) {d : Nat} (hd : d ∈ kingDirs) (hk : fileOf k = Gen.E) :
    fileOf (addb k d) ≠ Gen.C ∧ fileOf (addb k d) ≠ Gen.G := by
  rw [fileOf_mod] at hk
  rw [addb_mod k]
  exact king_step_not_castle_fin (k % 256) (Nat.mod_lt _ (by decide)) d hd hk

/-- **A king step onto a square attacked in the current position is not legal** (so the generators'
    pre-test never removes a move the counters count), under `KingsOk`. -/
theorem kingStepSafe_of_kingsOk {p : Position} (h : KingsOk p) : KingStepSafe p := by
  simp only [KingsOk, KingStepSafe, MM.ctx_eq, MM.ctxW] at h ⊢
  generalize hw : whiteTurn p = w at h ⊢
  obtain ⟨hkc, hnp, hnk, hadj⟩ := h
  intro d hd hpre hleg
  obtain ⟨q, hmm⟩ := isLegal_ok_iff.1 hleg
  obtain ⟨fp, tp, cur, en', hfp, -, -, hc, he, hu, -⟩ := MM.makeMove_ok_closed hw hmm
  cases hkc.symm.trans hfp
  have hK : MM.KingMoves w (p.side w).king (King ||| MM.colorBit w)
      ⟨(p.side w).king, addb (p.side w).king d, 0, InvalidSq⟩ :=
    ⟨by cases w <;> decide, rfl⟩
  have hE : ¬ MM.IsEp w (King ||| MM.colorBit w) p.ep ⟨(p.side w).king, addb (p.side w).king d, 0, InvalidSq⟩ :=
    fun h => hK.1 h.2.2
  have hh := (MM.hop_king hK).trans (MM.rookHop_none
    (fun h => h.2.elim (king_step_not_castle _ hd h.1).1 (king_step_not_castle _ hd h.1).2) _)
  rw [MM.curAfter_king hc, if_pos hK, MM.boardAfter_noHop hh, if_neg hE, MM.placed, if_pos rfl] at hu
  rw [MM.enAfter_noEp hE] at he
  obtain ⟨hek, hpw, hpc⟩ := enCaptured_mem he
  generalize (p.side w).king = k at *
  have hto := hadj d hd
  -- board cells away from the two touched squares are unchanged
  have hB : ∀ i : Nat, i ≠ k → i ≠ addb k d →
      ((p.board.setIfInBounds (addb k d) (King ||| MM.colorBit w)).setIfInBounds
        k 0)[i]? = p.board[i]? := by
    intro i h1 h2
    simp only [Array.getElem?_setIfInBounds, Array.size_setIfInBounds]
    rw [if_neg (fun hh => h1 hh.symm), if_neg (fun hh => h2 hh.symm)]
  -- every attack on the target persists: the move only vacates `k`, and what it captures stood on the target
  refine Bool.noConfusion (isUnderCheck_mono hek (by rw [hB _ (fun hh => hnk hh.symm) (fun hh => hto hh.symm)]) hpw
    (fun a ha hne => ⟨hpc a ha hne, (hB a (fun hh => hnp (hh ▸ ha)) hne).symm⟩) (fun i hi h0 => ?_) hpre hu)
  by_cases hik : i = k
  · subst hik
    have hlt := (Array.getElem?_eq_some_iff.mp hkc).1
    simp [hlt]
  · rw [hB i hik hi]; exact h0

end Magog.Count
