import Magog.Lemmas.CountInv
import Magog.Lemmas.GenPure
import Magog.Lemmas.TotalCount

/-! The tactical generator never panics on a well-formed position. Every board read of
    `genPseudoTactical` is in range and every captured cell carries a piece kind (`GenPure.Env`): the site facts
    that `Total.walk_total` asks for; the moves it emits are among those of the full generator (`genPseudo_rel`),
    for which `isLegal` is total. -/

set_option autoImplicit false

namespace Magog.CountNoPanic
open Magog Magog.Model Magog.MM Magog.Count Magog.GenPure Magog.GenGeoO Magog.Atk Magog.Geo Magog.Walk

theorem captureRM_ok (mv : Move) {att x : Nat} (ha : att ∈ kinds) (hx : x ∈ kinds) :
    ∃ rm, captureRM mv att x = .ok rm := by
  obtain ⟨s1, hs1⟩ := pieceToScore_ok hx
  obtain ⟨s2, hs2⟩ := pieceToScore_ok ha
  exact ⟨_, by simp only [captureRM, hs1, hs2, ok_bind, pure_eq_ok]; rfl⟩

theorem pawnGenTactical_ok {p : Position} {c : Ctx} {w : Bool} {kt : Killers} (env : Env p c w kt) {frm : Nat}
    (hf : frm ∈ c.cur.pawns) : ∃ a, pawnGenTactical p c frm = .ok a := by
  obtain ⟨a, ha, _⟩ := pawnCapQ_view env hf
  obtain ⟨b, hb, _⟩ := pawnCapK_view env hf
  obtain ⟨_, _, hg⟩ := pawn_mem env hf
  have hlt1 : addb frm c.adv < p.board.size := by rw [env.adv]; exact lt_size env.board hg.to1_mem
  exact ⟨_, by simp only [pawnGenTactical_eq, ha, hb, pawnPushTac, bget_cell hlt1, ok_bind, pure_eq_ok]; rfl⟩

theorem capture_ok {p : Position} {c : Ctx} {w : Bool} {kt : Killers} (env : Env p c w kt) (mv : Move) {k t : Nat}
    (hk : k ∈ kinds) (ht : t ∈ sq88) (he : (cell p.board t &&& c.enBit != 0) = true) :
    IsOk (do let x ← bget p.board t; let m ← captureRM mv k (x &&& Colorless); pure [m]) := by
  obtain ⟨rm, hrm⟩ := captureRM_ok mv hk (enemy_kind env ht he)
  exact ⟨[rm], by simp only [bget_cell (lt_size env.board ht), ok_bind, hrm, pure_eq_ok]⟩

theorem knStepTac_ok {p : Position} {c : Ctx} {w : Bool} {kt : Killers} (env : Env p c w kt) (frm d : Nat) :
    IsOk (stepBody p.board (tacE p c).knTest ((tacE p c).knEmit frm (addb frm d)) [] (addb frm d)) :=
  stepBody_total fun hv => ⟨_, some_cell (lt_size env.board (addb_mem hv)), ⟨_, rfl⟩, fun he =>
    capture_ok env _ (by decide) (addb_mem hv) (Except.ok.inj he)⟩

theorem kgStepTac_ok {p : Position} {c : Ctx} {w : Bool} {kt : Killers} (env : Env p c w kt) (d : Nat) :
    IsOk (stepBody p.board ((tacE p c).kgTest (addb c.cur.king d)) ((tacE p c).kgEmit (addb c.cur.king d)) []
      (addb c.cur.king d)) := by
  refine stepBody_total fun hv => ⟨_, some_cell (lt_size env.board (addb_mem hv)), ?_, fun he =>
    capture_ok env _ (by decide) (addb_mem hv) (andM_ok_true he).1⟩
  show IsOk (andM (cell p.board (addb c.cur.king d) &&& c.enBit != 0) _)
  cases cell p.board (addb c.cur.king d) &&& c.enBit != 0
  · exact ⟨false, rfl⟩
  · exact ⟨_, by rw [andM_true, isUnderCheck_eq env.board env.en (addb_mem hv)]; rfl⟩

theorem hereTac_ok {p : Position} {c : Ctx} {w : Bool} {kt : Killers} (env : Env p c w kt) {frm v t x : Nat}
    (ho : v ∈ officersOf w) (hv : p.board[frm]? = some v) (ht : t ∈ sq88) (hx : p.board[t]? = some x) :
    IsOk ((tacE p c).here frm v t x) := by
  obtain rfl := cell_of_some hx
  refine guard_total fun hen => ?_
  obtain ⟨rm, hrm⟩ := captureRM_ok ⟨frm, t, 0, InvalidSq⟩ (officer_kind ho) (enemy_kind env ht hen)
  exact ⟨[rm], by simp only [bget_ok_iff.2 hv, ok_bind, hrm, pure_eq_ok]⟩

theorem genPseudoTactical_total {p : Position} (hI : Inv p) : ∃ ts, genPseudoTactical p = .ok ts := by
  have env := env_of_inv hI Props.C18.killers_empty_size
  rw [genPseudoTactical_eq]
  exact Total.walk_total _ List.append_nil env.board (fun _ => env.cur.piece_cell) (fun _ => pawnGenTactical_ok env)
    (fun frm _ _ _ _ d => knStepTac_ok env frm d)
    (fun frm v _ ho hv t x ht hx _ _ => hereTac_ok env ho hv ht hx)
    (fun d _ => kgStepTac_ok env d) ⟨[], rfl⟩

open Magog.CountInv in
theorem tactical_in_genList {p : Position} (hI : Inv p) {tps : List RMove} (h : genPseudoTactical p = .ok tps)
    {rm : RMove} (hrm : rm ∈ tps) : (rm.mov, true) ∈ genList p := by
  obtain ⟨fs, hfs, hv⟩ := genPseudo_genList hI Props.C18.killers_empty_size
  have hm : rm.mov ∈ tps.map (·.mov) := List.mem_map_of_mem hrm
  rw [show tps.map (·.mov) = _ from genPseudo_rel (cellsOk_of_inv hI) h hfs] at hm
  obtain ⟨rm2, h2, e2⟩ := List.mem_map.1 hm
  obtain ⟨h2, hflag⟩ := List.mem_filter.1 h2
  rw [← hv, ← e2, ← hflag]
  exact List.mem_map_of_mem (f := view) h2

open Magog.GenPure Magog.LegalMoves Magog.CountInv in
theorem generateTacticalMoves_ok {p : Position} (hI : Inv p) (hS : OppSafe p) :
    ∃ ts, generateTacticalMoves p = .ok ts := by
  obtain ⟨tps, htps⟩ := genPseudoTactical_total hI
  exact ⟨_, by rw [generateTacticalMoves, htps, ok_bind]; exact filterM'_total fun rm hrm =>
    ⟨_, isLegal_spec hI hS (generated_of_genList hI (tactical_in_genList hI htps hrm))⟩⟩

end Magog.CountNoPanic
