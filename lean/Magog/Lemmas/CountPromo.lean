import Magog.Lemmas.Count
import Magog.Lemmas.MMList
import Magog.Lemmas.MMClosed

/-! What `isUnderCheck` reads of the board, and that an attack it found persists while only the rest changes
    (`isUnderCheck_mono`). C06's key lemma is that statement twice: the king-safety verdict of `makeMove` for a pawn
    move does not depend on the promotion piece (`promo_legal_uniform`); `CountKing` uses it for the board after a
    king step. Also here, and read by `CountKing`, `MirrorMake` and `MirrorAttack` as well: what `kill` and `MM.enAfter`
    leave of the enemy's lists (`kill_mem`, `enAfter_frame`, `enAfter_to_not_mem`) and `anyM'_congr`. -/

namespace Magog.Count
open Magog Magog.Model

theorem anyM'_congr {α} {f g : α → M Bool} {l : List α} (h : ∀ x ∈ l, f x = g x) :
    anyM' f l = anyM' g l := by
  induction l with
  | nil => rfl
  | cons x xs ih =>
    simp only [anyM']
    rw [h x List.mem_cons_self, ih (fun y hy => h y (List.mem_cons_of_mem _ hy))]

theorem anyM'_false {α} {f : α → M Bool} {l : List α} (h : anyM' f l = .ok false) :
    ∀ x ∈ l, f x = .ok false := by
  induction l with
  | nil => intro x hx; cases hx
  | cons y ys ih =>
    simp only [anyM', bind_ok] at h
    obtain ⟨b, hb, h⟩ := h
    cases b
    · simp only [Bool.false_eq_true, if_false] at h
      intro x hx
      rcases List.mem_cons.mp hx with rfl | hx
      · exact hb
      · exact ih h x hx
    · simp [pure_eq_ok] at h

theorem anyM'_true {α} {f : α → M Bool} {l : List α} (h : anyM' f l = .ok true) :
    ∃ x ∈ l, f x = .ok true := by
  induction l with
  | nil => simp [anyM', pure_eq_ok] at h
  | cons y ys ih =>
    simp only [anyM', bind_ok] at h
    obtain ⟨b, hb, h⟩ := h
    cases b
    · simp only [Bool.false_eq_true, if_false] at h
      obtain ⟨x, hx, hfx⟩ := ih h
      exact ⟨x, List.mem_cons_of_mem _ hx, hfx⟩
    · exact ⟨y, List.mem_cons_self, hb⟩

def pawnFlagOf (kpc : Nat) : Nat := if kpc &&& BlackBit == 0 then Gen.WPawnAttacks else Gen.BPawnAttacks

theorem isUnderCheck_false {B : Array Nat} {en : Side} {dest : Nat} (h : isUnderCheck B en dest = .ok false) :
    ∃ kpc, bget B en.king = .ok kpc ∧
      (∀ x ∈ en.pawns, pawnAttacks (pawnFlagOf kpc) dest x = .ok false) ∧
      (∀ a ∈ en.pieces, pieceAttacks B dest a = .ok false) ∧
      ∃ t, tget attackTable "attackTable" (moveIndex en.king dest) = .ok t ∧ t &&& Gen.KingAttacks = 0 := by
  simp only [isUnderCheck, bind_ok] at h
  obtain ⟨kpc, hk, bp, hbp, h⟩ := h
  cases bp
  · simp only [Bool.false_eq_true, if_false, bind_ok] at h
    obtain ⟨bq, hbq, h⟩ := h
    cases bq
    · simp only [Bool.false_eq_true, if_false, bind_ok, pure_eq_ok, Except.ok.injEq] at h
      obtain ⟨t, ht, h⟩ := h
      exact ⟨kpc, hk, anyM'_false hbp, anyM'_false hbq, t, ht, by simpa using h⟩
    · simp [pure_eq_ok] at h
  · simp [pure_eq_ok] at h

theorem isUnderCheck_true {B : Array Nat} {en : Side} {dest : Nat} (h : isUnderCheck B en dest = .ok true) :
    ∃ kpc, bget B en.king = .ok kpc ∧
      ((∃ x ∈ en.pawns, pawnAttacks (pawnFlagOf kpc) dest x = .ok true) ∨
       (∃ a ∈ en.pieces, pieceAttacks B dest a = .ok true) ∨
       ∃ t, tget attackTable "attackTable" (moveIndex en.king dest) = .ok t ∧ t &&& Gen.KingAttacks ≠ 0) := by
  simp only [isUnderCheck, bind_ok] at h
  obtain ⟨kpc, hk, bp, hbp, h⟩ := h
  refine ⟨kpc, hk, ?_⟩
  cases bp
  · simp only [Bool.false_eq_true, if_false, bind_ok] at h
    obtain ⟨bq, hbq, h⟩ := h
    cases bq
    · simp only [Bool.false_eq_true, if_false, bind_ok, pure_eq_ok, Except.ok.injEq] at h
      obtain ⟨t, ht, h⟩ := h
      exact .inr (.inr ⟨t, ht, by simpa using h⟩)
    · exact .inr (.inl (anyM'_true hbq))
  · exact .inl (anyM'_true hbp)

theorem moveIndex_self (a : Nat) : moveIndex a a = (Gen.lastValidSquare : Int) := by
  unfold moveIndex; omega

theorem attackTable_self : tget attackTable "attackTable" (Gen.lastValidSquare : Int) = .ok 0 := by
  apply okVal_eq_some
  decide +kernel

theorem pawnAttacks_self (flag a : Nat) : pawnAttacks flag a a = .ok false := by
  simp only [pawnAttacks, moveIndex_self, attackTable_self, ok_bind, pure_eq_ok, Nat.zero_and]
  rfl

theorem pieceAttacks_self_ne_true (B : Array Nat) (a : Nat) : pieceAttacks B a a ≠ .ok true := by
  intro h
  simp only [pieceAttacks, moveIndex_self, attackTable_self, bind_ok, ok_bind, Nat.zero_and,
    beq_self_eq_true, if_true, pure_eq_ok] at h
  obtain ⟨_, _, h⟩ := h
  cases h

theorem sliderWalk_mono {B B' : Array Nat} (dir dest : Nat)
    (hemp : ∀ i : Nat, i ≠ dest → B[i]? = some 0 → B'[i]? = some 0) :
    ∀ fuel sq, sliderWalk B dir dest fuel sq = .ok true → sliderWalk B' dir dest fuel sq = .ok true := by
  intro fuel
  induction fuel with
  | zero => intro sq h; simp [sliderWalk, throw_eq_error] at h
  | succ fuel ih =>
    intro sq h
    unfold sliderWalk at h ⊢
    split
    · rfl
    · rename_i hsq
      rw [if_neg hsq] at h
      rw [bget_eq] at h ⊢
      cases hb : B[sq]? with
      | none => simp [hb] at h
      | some c =>
        simp only [hb, ok_bind] at h
        by_cases hc : c = 0
        · subst hc
          have := hemp sq (by simpa using hsq) hb
          simp only [this, ok_bind, bne_self_eq_false, Bool.false_eq_true, if_false] at h ⊢
          exact ih _ h
        · have : (c != 0) = true := by simpa using hc
          simp [this, pure_eq_ok] at h

theorem pieceAttacks_mono {B B' : Array Nat} (dest a : Nat)
    (hemp : ∀ i : Nat, i ≠ dest → B[i]? = some 0 → B'[i]? = some 0) (ha : B[a]? = B'[a]?)
    (h : pieceAttacks B dest a = .ok true) : pieceAttacks B' dest a = .ok true := by
  unfold pieceAttacks at h ⊢
  rw [bget_eq] at h ⊢
  rw [← ha]
  cases hb : B[a]? with
  | none => simp [hb] at h
  | some pc =>
    simp only [hb, ok_bind, bind_ok] at h ⊢
    obtain ⟨t, ht, h⟩ := h
    refine ⟨t, ht, ?_⟩
    split
    · rename_i h0; rw [if_pos h0] at h; exact h
    · rename_i h0; rw [if_neg h0] at h
      split
      · rfl
      · rename_i h1; rw [if_neg h1] at h
        simp only [bind_ok] at h ⊢
        obtain ⟨dir, hdir, h⟩ := h
        exact ⟨dir, hdir, sliderWalk_mono dir dest hemp _ _ h⟩

/-- **Attacks persist.** `isUnderCheck` sees the board only through (a) emptiness of squares, (b) the cells of the
    attacker list, (c) the colour bit of the cell on the attackers' king square. If between two runs squares other
    than `dest` only become empty, the attackers away from `dest` stay listed with their cells and (c) is the same,
    an attack found by the first run is found by the second. -/
theorem isUnderCheck_mono {B B' : Array Nat} {en en' : Side} {dest : Nat} {b : Bool} (hk : en'.king = en.king)
    (hkc : (B[en.king]?).map (· &&& BlackBit) = (B'[en.king]?).map (· &&& BlackBit))
    (hpw : ∀ x ∈ en.pawns, x ≠ dest → x ∈ en'.pawns)
    (hpc : ∀ a ∈ en.pieces, a ≠ dest → a ∈ en'.pieces ∧ B[a]? = B'[a]?)
    (hemp : ∀ i : Nat, i ≠ dest → B[i]? = some 0 → B'[i]? = some 0)
    (h : isUnderCheck B en dest = .ok true) (h' : isUnderCheck B' en' dest = .ok b) : b = true := by
  cases b
  · obtain ⟨kpc', hk', hp', hq', t', ht', hz'⟩ := isUnderCheck_false h'
    obtain ⟨kpc, hkk, hcases⟩ := isUnderCheck_true h
    rw [hk] at hk' ht'
    rw [bget_ok_iff] at hkk hk'
    rw [hkk, hk'] at hkc
    have hflag : pawnFlagOf kpc' = pawnFlagOf kpc := by
      unfold pawnFlagOf
      rw [show kpc &&& BlackBit = kpc' &&& BlackBit from Option.some.inj hkc]
    rcases hcases with ⟨x, hx, hax⟩ | ⟨a, ha, haa⟩ | ⟨t, ht, hz⟩
    · have hne : x ≠ dest := fun e => by rw [e, pawnAttacks_self] at hax; cases hax
      have := hp' x (hpw x hx hne)
      rw [hflag, hax] at this; cases this
    · have hne : a ≠ dest := fun e => pieceAttacks_self_ne_true B dest (e ▸ haa)
      have := pieceAttacks_mono dest a hemp (hpc a ha hne).2 haa
      rw [hq' a (hpc a ha hne).1] at this; cases this
    · rw [ht] at ht'; cases ht'; exact (hz hz').elim
  · rfl

/-- two boards that differ in the code written on `t` agree at every index, except that at `t` itself the one reads
    `a` where the other reads `a'` -/
theorem recode_cell (B : Array Nat) (t f a a' i : Nat) :
    ((B.setIfInBounds t a).setIfInBounds f 0)[i]? = ((B.setIfInBounds t a').setIfInBounds f 0)[i]? ∨
      (t = i ∧ ((B.setIfInBounds t a).setIfInBounds f 0)[i]? = some a ∧
        ((B.setIfInBounds t a').setIfInBounds f 0)[i]? = some a') := by
  simp only [Array.getElem?_setIfInBounds, Array.size_setIfInBounds]
  split
  · exact .inl rfl
  · split
    · split
      · exact .inr ⟨‹_›, rfl, rfl⟩
      · exact .inl rfl
    · exact .inl rfl

/-- the code standing on a square that is not a listed attacker is read only through its colour bit and its not
    being empty -/
theorem isUnderCheck_recode {B : Array Nat} {en : Side} {t f dest a a' : Nat} {c c' : Bool} (hnot : t ∉ en.pieces)
    (hbit : a &&& BlackBit = a' &&& BlackBit) (ha : a ≠ 0)
    (h : isUnderCheck ((B.setIfInBounds t a).setIfInBounds f 0) en dest = .ok c)
    (h' : isUnderCheck ((B.setIfInBounds t a').setIfInBounds f 0) en dest = .ok c') (hc : c = true) : c' = true := by
  subst hc
  refine isUnderCheck_mono rfl ?_ (fun _ h _ => h) (fun x hx _ => ⟨hx, ?_⟩) (fun i _ h0 => ?_) h h'
  · rcases recode_cell B t f a a' en.king with e | ⟨-, e1, e2⟩
    · rw [e]
    · rw [e1, e2, Option.map_some, Option.map_some, hbit]
  · exact (recode_cell B t f a a' x).resolve_right fun e => hnot (e.1 ▸ hx)
  · rcases recode_cell B t f a a' i with e | ⟨-, e1, -⟩
    · exact e ▸ h0
    · exact absurd (Option.some.inj (e1.symm.trans h0)) ha

/-- the stages of `makeMove`, named through `p.ctx` -/
theorem makeMove_ok {p : Position} {m : Move} {q : Position} {b : Bool} (h : makeMove p m = .ok (q, b)) :
    ∃ board flags cur en board' en' chk,
      mmMover p.board p.flags p.ctx.cur m p.ctx.curBit (if whiteTurn p then Gen.Rank1 else Gen.Rank8)
        (if whiteTurn p then FWK else FBK) (if whiteTurn p then FWQ else FBQ) = .ok (board, flags, cur) ∧
      mmCapture board p.ctx.en m p.ctx.enBit = .ok en ∧
      mmBoard board en m p.ep p.ctx.curBit = .ok (board', en') ∧
      isUnderCheck board' en' cur.king = .ok chk ∧ b = !chk := by
  obtain ⟨board, flags, cur, en, board', en', chk, h1, h2, h3, h4, _, h5⟩ := (MM.makeMove_ok_iff rfl).mp h
  rw [MM.ctx_eq]
  exact ⟨board, flags, cur, en, board', en', chk, h1, h2, h3, h4, h5⟩

theorem kill_not_mem {l l' : List Nat} {sq : Nat} {what : String} (hnd : l.Nodup)
    (h : kill l sq what = .ok l') : sq ∉ l' := fun hm =>
  (hnd.mem_erase_iff.mp ((MM.kill_perm h).2.mem_iff.mp hm)).1 rfl

theorem kill_mem {l l' : List Nat} {sq x : Nat} {what : String} (hx : x ∈ l) (hne : x ≠ sq)
    (h : kill l sq what = .ok l') : x ∈ l' :=
  (MM.kill_perm h).2.mem_iff.mpr ((List.mem_erase_of_ne hne).mpr hx)

theorem kill_subset {l l' : List Nat} {sq : Nat} {what : String} (h : kill l sq what = .ok l') : ∀ x ∈ l', x ∈ l :=
  fun _ hx => List.erase_subset ((MM.kill_perm h).2.subset hx)

theorem enAfter_frame {w : Bool} {en en2 : Side} {fp tp ep : Nat} {m : Move}
    (h : MM.enAfter w en fp tp ep m = .ok en2) :
    en2.king = en.king ∧ (∀ s ∈ en2.pawns, s ∈ en.pawns) ∧ (∀ s ∈ en2.pieces, s ∈ en.pieces) ∧
      (MM.IsEp w fp ep m → MM.epSq m ∈ en.pawns) := by
  obtain ⟨e, h1, h2⟩ := bind_ok.mp h
  have s1 : e.king = en.king ∧ (∀ s ∈ e.pawns, s ∈ en.pawns) ∧ (∀ s ∈ e.pieces, s ∈ en.pieces) := by
    unfold MM.enCaptured at h1
    split at h1
    · cases h1
      exact ⟨rfl, fun _ h => h, fun _ h => h⟩
    · split at h1 <;> obtain ⟨l, hl, rfl⟩ := map_ok.mp h1
      · exact ⟨rfl, kill_subset hl, fun _ h => h⟩
      · exact ⟨rfl, fun _ h => h, kill_subset hl⟩
  unfold MM.enEp at h2
  split at h2
  · obtain ⟨l, hl, rfl⟩ := map_ok.mp h2
    exact ⟨s1.1, fun s hs => s1.2.1 s (kill_subset hl s hs), s1.2.2, fun _ => s1.2.1 _ (MM.kill_perm hl).1⟩
  · cases h2
    exact ⟨s1.1, s1.2.1, s1.2.2, fun h => absurd h ‹_›⟩

theorem enAfter_to_not_mem {w : Bool} {en en2 : Side} {fp tp ep : Nat} {m : Move} (hnd : en.pieces.Nodup)
    (h0 : tp ≠ 0) (hK : tp ≠ King ||| MM.colorBit (!w)) (hP : tp ≠ Pawn ||| MM.colorBit (!w))
    (h : MM.enAfter w en fp tp ep m = .ok en2) : m.to ∉ en2.pieces := by
  obtain ⟨e, h1, h2⟩ := bind_ok.mp h
  have : m.to ∉ e.pieces := by
    unfold MM.enCaptured at h1
    rw [if_neg (fun h => h.elim h0 hK), if_neg hP] at h1
    obtain ⟨l, hl, rfl⟩ := map_ok.mp h1
    exact kill_not_mem hnd hl
  unfold MM.enEp at h2
  split at h2
  · obtain ⟨l, _, rfl⟩ := map_ok.mp h2
    exact this
  · cases h2
    exact this

theorem or_ne_zero_of_right {a b : Nat} (hb : b ≠ 0) : a ||| b ≠ 0 := by
  intro h
  exact hb (Nat.or_eq_zero_iff.mp h).2

/-- **The king-safety verdict of `makeMove` for a pawn move does not depend on the promotion piece.**
    Side conditions: the mover on `f` is a pawn of the side to move; the destination is not the
    en-passant square (otherwise only the `promo = 0` variant removes the passed pawn);
    `CaptureOk p` (the destination is not in the enemy piece list after the capture bookkeeping);
    the promotion code does not carry the black colour bit (only matters when the destination is
    the enemy king's square, whose cell's colour bit selects the pawn-attack table). -/
theorem promo_legal_uniform {p : Position} {f t k e : Nat} {q0 q1 : Position} {b0 b1 : Bool}
    (hcap : CaptureOk p) (hpawn : p.board[f]? = some (Pawn ||| p.ctx.curBit)) (hep : t ≠ p.ep)
    (hkb : k &&& BlackBit = 0)
    (h0 : makeMove p ⟨f, t, 0, e⟩ = .ok (q0, b0)) (h1 : makeMove p ⟨f, t, k, e⟩ = .ok (q1, b1)) :
    b0 = b1 := by
  by_cases hk : k = 0
  · subst hk; rw [h0] at h1; cases h1; rfl
  simp only [CaptureOk, MM.ctx_eq, MM.ctxW] at hpawn hcap
  have hne : ∀ k', ¬ MM.IsEp (whiteTurn p) (Pawn ||| MM.colorBit (whiteTurn p)) p.ep ⟨f, t, k', e⟩ :=
    fun k' h => hep h.2.1.symm
  obtain ⟨_, tp, c0, en0, hf0, htp, -, hc0, he0, hu0, -⟩ := MM.makeMove_ok_closed rfl h0
  obtain ⟨_, _, c1, en1, hf1, ht1, -, hc1, he1, hu1, -⟩ := MM.makeMove_ok_closed rfl h1
  cases hpawn.symm.trans hf0
  cases hpawn.symm.trans hf1
  cases htp.symm.trans ht1
  -- the other side's lists see the move only through its target, the mover's king stays
  cases ((MM.enAfter_noEp (hne 0)).symm.trans he0).symm.trans ((MM.enAfter_noEp (hne k)).symm.trans he1)
  rw [MM.curAfter_king hc0, if_neg fun h => h.1 rfl, MM.boardAfter_noHop MM.hop_pawn, if_neg (hne _),
    MM.placed, if_pos rfl] at hu0
  rw [MM.curAfter_king hc1, if_neg fun h => h.1 rfl, MM.boardAfter_noHop MM.hop_pawn, if_neg (hne _),
    MM.placed, if_neg hk] at hu1
  have hnot : t ∉ en0.pieces := fun ha => by
    obtain ⟨c0, cK, cP⟩ := hcap.2 t ((enAfter_frame he0).2.2.1 t ha)
    exact enAfter_to_not_mem hcap.1 (fun e => c0 (e ▸ htp)) (fun e => cK (e ▸ htp))
      (fun e => cP (e ▸ htp)) he0 ha
  have hcc : MM.colorBit (whiteTurn p) ≠ 0 := by
    unfold MM.colorBit
    split <;> decide
  have hcb : (Pawn ||| MM.colorBit (whiteTurn p)) &&& BlackBit = (k ||| MM.colorBit (whiteTurn p)) &&& BlackBit := by
    rw [Nat.and_or_distrib_right, Nat.and_or_distrib_right, hkb]
    rfl
  -- each run finds what the other finds
  have h01 := isUnderCheck_recode hnot hcb (or_ne_zero_of_right hcc) hu0 hu1
  have h10 := isUnderCheck_recode hnot hcb.symm (or_ne_zero_of_right hcc) hu1 hu0
  cases b0 <;> cases b1
  · rfl
  · cases h01 rfl
  · cases h10 rfl
  · rfl

end Magog.Count
