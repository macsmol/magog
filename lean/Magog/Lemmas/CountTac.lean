import Magog.Lemmas.Walk

/-! C06: the tactical generator is the tactical-flagged sub-list of the full generator
    (`tactical_is_filter`): the relation `TacRel` at each site of the two walks (one pawn, one knight / king target,
    one square of a ray, the castling block), lifted by `Resp.walk`. Also the decomposition of the pawn loops into
    their three parts and of the castling block into its two sides (`castlePart`), used by the counting and totality
    passes and by the pure-list view. -/

namespace Magog.Count
open Magog Magog.Model Magog.Walk

/-! ### the three parts of the per-pawn loop bodies -/

def pawnCapQ (p : Position) (c : Ctx) (frm : Nat) : M (List RMove) := do
  let toQ := addb (addb frm c.adv) 0xFF
  let hitQ ← andM (isValid toQ) (do let x ← bget p.board toQ; pure (x &&& c.enBit != 0))
  if hitQ then do
    let x ← bget p.board toQ
    pawnCaptures frm toQ c.promoRank (x &&& Colorless)
  else if toQ == p.ep then pawnCaptures frm toQ c.promoRank Pawn
  else pure []

def pawnCapK (p : Position) (c : Ctx) (frm : Nat) : M (List RMove) := do
  let toK := addb (addb frm c.adv) 1
  let x ← bget p.board toK
  if x &&& c.enBit != 0 then pawnCaptures frm toK c.promoRank (x &&& Colorless)
  else if toK == p.ep then pawnCaptures frm toK c.promoRank Pawn
  else pure []

def pawnPushGen (p : Position) (c : Ctx) (kt : Killers) (frm : Nat) : M (List RMove) := do
  let to1 := addb frm c.adv
  let y ← bget p.board to1
  if y == 0 then do
    let single ← pawnPushes kt p.ply frm to1 c.promoRank
    let to2 := addb to1 c.adv
    let dbl ← andM (rankOf frm == c.startRank) (do let z ← bget p.board to2; pure (z == 0))
    pure (if dbl then single ++ [⟨⟨frm, to2, 0, to1⟩, 0, false⟩] else single)
  else pure []

def pawnPushTac (p : Position) (c : Ctx) (frm : Nat) : M (List RMove) := do
  let to1 := addb frm c.adv
  let y ← bget p.board to1
  pure (if y == 0 && rankOf to1 == c.promoRank then
          promoRMoves frm to1 ((Gen.rankingBonusTactical : Int) - Gen.MaterialPawnScore)
        else [])

theorem pawnGen_eq (p c kt frm) : pawnGen p c kt frm = (do
    let a ← pawnCapQ p c frm
    let b ← pawnCapK p c frm
    let d ← pawnPushGen p c kt frm
    pure (a ++ b ++ d)) := by
  unfold pawnCapQ pawnCapK pawnPushGen
  simp only [bind_assoc, M.ite_bind]
  rfl

theorem pawnGenTactical_eq (p c frm) : pawnGenTactical p c frm = (do
    let a ← pawnCapQ p c frm
    let b ← pawnCapK p c frm
    let d ← pawnPushTac p c frm
    pure (a ++ b ++ d)) := by
  unfold pawnCapQ pawnCapK pawnPushTac
  simp only [bind_assoc, M.ite_bind]
  rfl

theorem quiet_shape {kt ply mov rm} (h : quiet kt ply mov = .ok rm) :
    rm.mov = mov ∧ rm.tactical = false := by
  simp only [quiet, bind_ok, pure_eq_ok, Except.ok.injEq] at h
  obtain ⟨r, _, rfl⟩ := h
  exact ⟨rfl, rfl⟩

theorem captureRM_shape {mov a b rm} (h : captureRM mov a b = .ok rm) :
    rm.mov = mov ∧ rm.tactical = true := by
  simp only [captureRM, bind_ok, pure_eq_ok, Except.ok.injEq] at h
  obtain ⟨_, _, _, _, rfl⟩ := h
  exact ⟨rfl, rfl⟩

theorem moveOrCapture_mov {kt ply frm to a x rm} (h : moveOrCapture kt ply frm to a x = .ok rm) :
    rm.mov = ⟨frm, to, 0, InvalidSq⟩ := by
  unfold moveOrCapture at h
  split at h
  · exact (quiet_shape h).1
  · exact (captureRM_shape h).1

theorem moveOrCapture_tactical {kt ply frm to a x rm} (h : moveOrCapture kt ply frm to a x = .ok rm) :
    rm.tactical = (x != 0) := by
  unfold moveOrCapture at h
  split at h
  · rename_i hx
    rw [(quiet_shape h).2]
    simp only [beq_iff_eq] at hx
    simp [hx]
  · rename_i hx
    rw [(captureRM_shape h).2]
    simp only [beq_iff_eq] at hx
    simp [hx]

theorem promoRMoves_tactical (frm to : Nat) (cm : Int) : ∀ rm ∈ promoRMoves frm to cm, rm.tactical = true := by
  intro rm h
  simp only [promoRMoves, List.mem_cons, List.not_mem_nil, or_false] at h
  rcases h with rfl | rfl | rfl | rfl <;> rfl

theorem pawnCaptures_shape {frm to pr cap a} (h : pawnCaptures frm to pr cap = .ok a) :
    (∀ rm ∈ a, rm.tactical = true) ∧
    a.map (·.mov) = (if rankOf to == pr then
        [⟨frm, to, Queen, InvalidSq⟩, ⟨frm, to, Rook, InvalidSq⟩, ⟨frm, to, Bishop, InvalidSq⟩,
         ⟨frm, to, Knight, InvalidSq⟩]
      else [⟨frm, to, 0, InvalidSq⟩]) := by
  simp only [pawnCaptures, bind_ok] at h
  obtain ⟨sc, _, h⟩ := h
  split at h
  · rename_i hr
    simp only [pure_eq_ok, Except.ok.injEq] at h
    subst h
    exact ⟨promoRMoves_tactical _ _ _, by simp only [hr, if_true]; rfl⟩
  · rename_i hr
    simp only [pure_eq_ok, Except.ok.injEq] at h
    subst h
    refine ⟨?_, by simp only [hr]; rfl⟩
    intro rm hrm
    simp only [List.mem_cons, List.not_mem_nil, or_false] at hrm
    subst hrm; rfl

def TacRel (t f : List RMove) : Prop := t.map (·.mov) = (f.filter (·.tactical)).map (·.mov)

theorem TacRel.nil : TacRel [] [] := rfl

theorem TacRel.append {a b c d : List RMove} (h1 : TacRel a b) (h2 : TacRel c d) :
    TacRel (a ++ c) (b ++ d) := by
  unfold TacRel at *
  simp only [List.map_append, List.filter_append, h1, h2]

theorem TacRel.of_all {a : List RMove} (h : ∀ rm ∈ a, rm.tactical = true) : TacRel a a := by
  unfold TacRel
  rw [List.filter_eq_self.mpr h]

theorem TacRel.of_none {a : List RMove} (h : ∀ rm ∈ a, rm.tactical = false) : TacRel [] a := by
  unfold TacRel
  have : a.filter (·.tactical) = [] := by
    rw [List.filter_eq_nil_iff]
    intro rm hrm; simp [h rm hrm]
  rw [this]

theorem TacRel.single {a b : RMove} (hm : a.mov = b.mov) (hb : b.tactical = true) : TacRel [a] [b] := by
  simp [TacRel, hb, hm]

def CellOkC (c : Ctx) (x : Nat) : Prop :=
  (x &&& c.enBit ≠ 0 → x &&& c.curBit = 0 ∧ x &&& Colorless ≠ 0) ∧
  (x &&& c.enBit = 0 → x &&& c.curBit = 0 → x &&& Colorless = 0)

theorem cellOkC_of_cellsOk {p : Position} (h : CellsOk p) {i x : Nat} (hx : p.board[i]? = some x) :
    CellOkC p.ctx x := by
  have hmem : x ∈ p.board.toList := Array.mem_toList_iff.mpr (Array.mem_of_getElem? hx)
  obtain ⟨h1, h2, h3⟩ := h x hmem
  unfold Position.ctx CellOkC
  split
  · exact ⟨h2, fun a b => h3 b a⟩
  · exact ⟨h1, fun a b => h3 a b⟩

theorem andM_pure_true (b : Bool) : andM b (pure true) = pure b := by cases b <;> rfl

theorem andM_ok_true {b : Bool} {N : M Bool} (h : andM b N = .ok true) : b = true ∧ N = .ok true := by
  cases b
  · cases h
  · exact ⟨rfl, h⟩

/-- the guard of a king step with the attack pre-test, as the plain guard followed by the pre-test -/
theorem andM_andM {α} (v : Bool) (X : M α) (t : α → Bool) (N : M Bool) :
    andM v (do let x ← X; andM (t x) N) = (do let ok ← andM v (do let x ← X; pure (t x)); andM ok N) := by
  cases v
  · rfl
  · cases X <;> rfl

theorem moveEmit_shape {B : Array Nat} {kt : Killers} {ply : Int} {frm to : Nat} {a : List RMove}
    (h : (do let x ← bget B to; let v ← bget B frm
             let mv ← moveOrCapture kt ply frm to (v &&& Colorless) (x &&& Colorless); pure [mv]) = .ok a) :
    ∃ rm, a = [rm] ∧ rm.mov = ⟨frm, to, 0, InvalidSq⟩ ∧ ∃ x, B[to]? = some x ∧ rm.tactical = (x &&& Colorless != 0) := by
  simp only [bind_ok, bget_ok_iff, pure_eq_ok, Except.ok.injEq] at h
  obtain ⟨x, hx, _, _, mv, hmv, rfl⟩ := h
  exact ⟨mv, rfl, moveOrCapture_mov hmv, x, hx, moveOrCapture_tactical hmv⟩

theorem captureEmit_shape {B : Array Nat} {m : Move} {k to : Nat} {a : List RMove}
    (h : (do let x ← bget B to; let mv ← captureRM m k (x &&& Colorless); pure [mv]) = .ok a) :
    ∃ rm, a = [rm] ∧ rm.mov = m ∧ rm.tactical = true := by
  simp only [bind_ok, pure_eq_ok, Except.ok.injEq] at h
  obtain ⟨_, _, mv, hmv, rfl⟩ := h
  exact ⟨mv, rfl, captureRM_shape hmv⟩

/-- a step of the tactical generator against the same step of the full generator: the guards differ in the
    colour test (enemy / not own), which `CellOkC` relates; `post` is the king's attack pre-test -/
theorem step_tac {c : Ctx} {B : Array Nat} {to : Nat} {m : Move} {post : M Bool} {emitT emitG : M (List RMove)}
    (hcell : ∀ x, B[to]? = some x → CellOkC c x)
    (hT : ∀ a, emitT = .ok a → ∃ rm, a = [rm] ∧ rm.mov = m ∧ rm.tactical = true)
    (hG : ∀ a, emitG = .ok a → ∃ rm, a = [rm] ∧ rm.mov = m ∧ ∃ x, B[to]? = some x ∧ rm.tactical = (x &&& Colorless != 0)) :
    Rel2 TacRel (stepBody B (fun x => andM (x &&& c.enBit != 0) post) emitT [] to)
      (stepBody B (fun x => andM (x &&& c.curBit == 0) post) emitG [] to) := by
  refine Rel2.of fun t f ht hf => ?_
  rcases stepBody_ok.1 ht with ⟨hv, rfl⟩ | ⟨x, hv, hx, ht⟩
  · rcases stepBody_ok.1 hf with ⟨_, rfl⟩ | ⟨_, hv', _⟩
    · exact TacRel.nil
    · rw [hv] at hv'; cases hv'
  · rcases stepBody_ok.1 hf with ⟨hv', _⟩ | ⟨x', _, hx', hf⟩
    · rw [hv] at hv'; cases hv'
    · rw [hx] at hx'; cases hx'
      obtain ⟨hc1, hc2⟩ := hcell x hx
      by_cases he : x &&& c.enBit = 0
      · have het : (x &&& c.enBit != 0) = false := by simpa using he
        rw [het, andM_false] at ht
        rcases ht with ⟨_, rfl⟩ | ⟨h, _⟩
        · rcases hf with ⟨_, rfl⟩ | ⟨hg, hf⟩
          · exact TacRel.nil
          · obtain ⟨rm, rfl, _, x', hx', htac⟩ := hG f hf
            rw [hx] at hx'; cases hx'
            have hcb : x &&& c.curBit = 0 := by simpa using (andM_ok_true hg).1
            rw [hc2 he hcb] at htac
            exact TacRel.of_none (by simp [htac])
        · cases h
      · obtain ⟨hcb, hk⟩ := hc1 he
        have het : (x &&& c.enBit != 0) = true := by simpa using he
        have hbt : (x &&& c.curBit == 0) = true := by simpa using hcb
        rw [het, andM_true] at ht
        rw [hbt, andM_true] at hf
        rcases ht with ⟨hp, rfl⟩ | ⟨hp, ht⟩
        · rcases hf with ⟨_, rfl⟩ | ⟨hp', _⟩
          · exact TacRel.nil
          · rw [hp] at hp'; cases hp'
        · rcases hf with ⟨hp', _⟩ | ⟨_, hf⟩
          · rw [hp] at hp'; cases hp'
          · obtain ⟨rt, rfl, hmt, _⟩ := hT t ht
            obtain ⟨rm, rfl, hmg, x', hx', htac⟩ := hG f hf
            rw [hx] at hx'; cases hx'
            exact TacRel.single (hmt.trans hmg.symm) (by rw [htac]; simpa using hk)

theorem step_tac_plain {c : Ctx} {B : Array Nat} {to : Nat} {m : Move} {emitT emitG : M (List RMove)}
    (hcell : ∀ x, B[to]? = some x → CellOkC c x)
    (hT : ∀ a, emitT = .ok a → ∃ rm, a = [rm] ∧ rm.mov = m ∧ rm.tactical = true)
    (hG : ∀ a, emitG = .ok a → ∃ rm, a = [rm] ∧ rm.mov = m ∧ ∃ x, B[to]? = some x ∧ rm.tactical = (x &&& Colorless != 0)) :
    Rel2 TacRel (stepBody B (fun x => pure (x &&& c.enBit != 0)) emitT [] to)
      (stepBody B (fun x => pure (x &&& c.curBit == 0)) emitG [] to) := Rel2.of fun _ _ ht hf =>
  (step_tac (post := pure true) hcell hT hG).out (by simpa only [andM_pure_true] using ht)
    (by simpa only [andM_pure_true] using hf)

theorem pawnCapQ_all_tactical {p c frm a} (h : pawnCapQ p c frm = .ok a) : ∀ rm ∈ a, rm.tactical = true := by
  simp only [pawnCapQ, bind_ok] at h
  obtain ⟨hit, _, h⟩ := h
  split at h
  · simp only [bind_ok] at h
    obtain ⟨x, _, h⟩ := h
    exact (pawnCaptures_shape h).1
  · split at h
    · exact (pawnCaptures_shape h).1
    · simp only [pure_eq_ok, Except.ok.injEq] at h
      subst h; intro rm hrm; cases hrm

theorem pawnCapK_all_tactical {p c frm a} (h : pawnCapK p c frm = .ok a) : ∀ rm ∈ a, rm.tactical = true := by
  simp only [pawnCapK, bind_ok] at h
  obtain ⟨x, _, h⟩ := h
  split at h
  · exact (pawnCaptures_shape h).1
  · split at h
    · exact (pawnCaptures_shape h).1
    · simp only [pure_eq_ok, Except.ok.injEq] at h
      subst h; intro rm hrm; cases hrm

theorem pawnPushes_shape {kt ply frm to pr a} (h : pawnPushes kt ply frm to pr = .ok a) :
    if rankOf to == pr then
      a = promoRMoves frm to ((Gen.rankingBonusTactical : Int) - Gen.MaterialPawnScore)
    else ∃ q, a = [q] ∧ q.mov = ⟨frm, to, 0, InvalidSq⟩ ∧ q.tactical = false := by
  unfold pawnPushes at h
  split
  · rename_i hr
    simp only [hr, if_true, pure_eq_ok, Except.ok.injEq] at h
    exact h.symm
  · rename_i hr
    rw [if_neg hr] at h
    simp only [bind_ok, pure_eq_ok, Except.ok.injEq] at h
    obtain ⟨q, hq, rfl⟩ := h
    exact ⟨q, rfl, quiet_shape hq⟩

theorem pawnPush_rel {p c kt frm} : Rel2 TacRel (pawnPushTac p c frm) (pawnPushGen p c kt frm) := by
  refine Rel2.of fun t f ht hf => ?_
  simp only [pawnPushTac, pawnPushGen, bind_ok] at ht hf
  obtain ⟨y, hy, ht⟩ := ht
  obtain ⟨y', hy', hf⟩ := hf
  rw [hy] at hy'; cases hy'
  simp only [pure_eq_ok, Except.ok.injEq] at ht
  subst ht
  cases h0 : (y == 0)
  · simp only [h0, pure_eq_ok, Except.ok.injEq, Bool.false_and, Bool.false_eq_true, if_false] at hf ⊢
    subst hf
    exact TacRel.nil
  · simp only [h0, if_true, bind_ok, pure_eq_ok, Except.ok.injEq, Bool.true_and] at hf ⊢
    obtain ⟨single, hs, dbl, _, rfl⟩ := hf
    have hsh := pawnPushes_shape hs
    have hsingle : TacRel (if (rankOf (addb frm c.adv) == c.promoRank) = true then
        promoRMoves frm (addb frm c.adv) ((Gen.rankingBonusTactical : Int) - Gen.MaterialPawnScore)
        else []) single := by
      cases hr : (rankOf (addb frm c.adv) == c.promoRank)
      · simp only [hr, Bool.false_eq_true, if_false] at hsh ⊢
        obtain ⟨q, rfl, _, hq⟩ := hsh
        exact TacRel.of_none (by simp [hq])
      · simp only [hr, if_true] at hsh ⊢
        rw [hsh]; exact TacRel.of_all (promoRMoves_tactical _ _ _)
    cases dbl
    · simpa using hsingle
    · have := TacRel.append hsingle (TacRel.of_none (a :=
        [(⟨⟨frm, addb (addb frm c.adv) c.adv, 0, addb frm c.adv⟩, 0, false⟩ : RMove)]) (by simp))
      simpa using this

theorem pawn_rel {p c kt frm} : Rel2 TacRel (pawnGenTactical p c frm) (pawnGen p c kt frm) := by
  rw [pawnGenTactical_eq, pawnGen_eq]
  exact RelT.bind_same fun _ ha => RelT.bind_same fun _ hb => RelT.bind pawnPush_rel fun _ _ hd => RelT.pure
    (((TacRel.of_all (pawnCapQ_all_tactical ha)).append (TacRel.of_all (pawnCapK_all_tactical hb))).append hd)

theorem bne_zero_true {x : Nat} : ((x != 0) = true) ↔ x ≠ 0 := by simp
theorem beq_zero_true {x : Nat} : ((x == 0) = true) ↔ x = 0 := by simp

/-- one side of the castling block: right still set, path test, then the move. `castleQPart` / `castleKPart` are this at
    `c.qOk` / `c.kOk`: `castlePart_shape` and `castlePart_MR` are applied to them directly (the definitions unfold
    in unification), and `GenPure.castlePart_view` writes the body out once more. -/
def castlePart (flag : Bool) (okM : M Bool) (mk : M RMove) : M (List RMove) :=
  if flag then do
    let ok ← okM
    if ok then do
      let mv ← mk
      pure [mv]
    else pure []
  else pure []

def castleQPart (p : Position) (c : Ctx) (kt : Killers) : M (List RMove) :=
  castlePart c.qOk (castleQOk p c) (quiet kt p.ply ⟨c.cur.king, castleQTo c, 0, InvalidSq⟩)

def castleKPart (p : Position) (c : Ctx) (kt : Killers) : M (List RMove) :=
  castlePart c.kOk (castleKOk p c) (quiet kt p.ply ⟨c.cur.king, castleKTo c, 0, InvalidSq⟩)

theorem castleGen_eq (p c kt) : castleGen p c kt = (do
    let q ← castleQPart p c kt
    let k ← castleKPart p c kt
    pure (q ++ k)) := by
  unfold castleQPart castleKPart castlePart
  simp only [bind_assoc, M.ite_bind]
  rfl

theorem castlePart_shape {flag : Bool} {okM : M Bool} {kt : Killers} {ply : Int} {m : Move} {q : List RMove}
    (h : castlePart flag okM (quiet kt ply m) = .ok q) :
    (q = [] ∧ (flag = false ∨ okM = .ok false)) ∨
      ∃ mv, q = [mv] ∧ mv.mov = m ∧ mv.tactical = false ∧ flag = true ∧ okM = .ok true := by
  unfold castlePart at h
  cases flag
  · cases h; exact .inl ⟨rfl, .inl rfl⟩
  · simp only [if_true, bind_ok] at h
    obtain ⟨ok, hok, h⟩ := h
    cases ok
    · cases h; exact .inl ⟨rfl, .inr hok⟩
    · simp only [if_true, bind_ok, pure_eq_ok, Except.ok.injEq] at h
      obtain ⟨mv, hmv, rfl⟩ := h
      exact .inr ⟨mv, rfl, (quiet_shape hmv).1, (quiet_shape hmv).2, rfl, hok⟩

theorem quiet_castle (p : Position) (c : Ctx) (kt : Killers) {cs} (h : castleGen p c kt = .ok cs) :
    ∀ rm ∈ cs, rm.tactical = false := by
  rw [castleGen_eq] at h
  simp only [bind_ok, pure_eq_ok, Except.ok.injEq] at h
  obtain ⟨q, hq, k, hk, rfl⟩ := h
  intro rm hrm
  rcases List.mem_append.mp hrm with h | h
  · rcases castlePart_shape hq with ⟨rfl, _⟩ | ⟨mv, rfl, _, ht, _⟩
    · cases h
    · simp only [List.mem_cons, List.not_mem_nil, or_false] at h
      subst h; exact ht
  · rcases castlePart_shape hk with ⟨rfl, _⟩ | ⟨mv, rfl, _, ht, _⟩
    · cases h
    · simp only [List.mem_cons, List.not_mem_nil, or_false] at h
      subst h; exact ht

theorem tacResp (kt : Killers) (p : Position) (c : Ctx) : Resp (tacE p c) (genE kt p c) TacRel :=
  ⟨TacRel.nil, TacRel.append⟩

theorem here_tac {kt : Killers} {p : Position} {c : Ctx} {frm pc to x : Nat} (hcell : CellOkC c x)
    (hown : x &&& c.curBit = 0) : Rel2 TacRel ((tacE p c).here frm pc to x) ((genE kt p c).here frm pc to x) := by
  refine Rel2.of fun t f ht hf => ?_
  obtain ⟨mv, hmv, rfl⟩ : ∃ mv, moveOrCapture kt p.ply frm to (pc &&& Colorless) (x &&& Colorless) = .ok mv ∧ [mv] = f := by
    simpa only [genE, bind_ok, pure_eq_ok, Except.ok.injEq] using hf
  by_cases he : x &&& c.enBit = 0
  · have : (x &&& c.enBit != 0) = false := by simpa using he
    simp only [tacE, this, Bool.false_eq_true, if_false, pure_eq_ok, Except.ok.injEq] at ht
    subst ht
    exact TacRel.of_none (by simp [moveOrCapture_tactical hmv, hcell.2 he hown])
  · have : (x &&& c.enBit != 0) = true := by simpa using he
    simp only [tacE, this, if_true, bind_ok, pure_eq_ok, Except.ok.injEq] at ht
    obtain ⟨a, _, mv', hmv', rfl⟩ := ht
    exact TacRel.single ((captureRM_shape hmv').1.trans (moveOrCapture_mov hmv).symm)
      (by rw [moveOrCapture_tactical hmv]; simpa using (hcell.1 he).2)

theorem castle_tac {kt : Killers} {p : Position} {c : Ctx} : Rel2 TacRel (tacE p c).castle (genE kt p c).castle := by
  refine Rel2.of fun t f ht hf => ?_
  cases ht
  exact TacRel.of_none (quiet_castle p c kt hf)

theorem genPseudo_rel {p : Position} {kt ts fs} (hcells : CellsOk p)
    (ht : genPseudoTactical p = .ok ts) (hf : genPseudo kt p = .ok fs) : TacRel ts fs := by
  have hcell : ∀ i x, p.board[i]? = some x → CellOkC p.ctx x := fun i x => cellOkC_of_cellsOk hcells
  rw [genPseudoTactical_eq] at ht
  rw [genPseudo_eq kt] at hf
  exact ((tacResp kt p p.ctx).walk (fun _ _ => pawn_rel)
    (fun _ _ _ => step_tac_plain (hcell _) (fun _ => captureEmit_shape) fun _ => moveEmit_shape)
    (fun _ _ _ _ x hx => here_tac (hcell _ x hx))
    (fun _ _ => step_tac (hcell _) (fun _ => captureEmit_shape) fun _ => moveEmit_shape)
    castle_tac).out ht hf

/-- C06 item 1 (`Props.C06.tactical_is_filter`): the legality filter keeps the relation of the pseudo-legal lists -/
theorem generate_tactical_rel {p : Position} {kt ts ms} (hcells : CellsOk p)
    (hf : generateMoves kt p = .ok ms) (ht : generateTacticalMoves p = .ok ts) : TacRel ts ms := by
  simp only [generateMoves, generateTacticalMoves, bind_ok] at hf ht
  obtain ⟨fs, hfs, hf⟩ := hf
  obtain ⟨tps, htps, ht⟩ := ht
  obtain ⟨_, rfl⟩ := legalFilter_ok hf
  obtain ⟨_, rfl⟩ := legalFilter_ok ht
  have h := genPseudo_rel hcells htps hfs
  unfold TacRel at h ⊢
  rw [List.filter_filter]
  have e1 : (tps.filter (fun rm => legalB p rm.mov)).map (·.mov) = (tps.map (·.mov)).filter (legalB p) := by
    rw [List.filter_map]; rfl
  have e2 : (fs.filter (fun a => (a.tactical && legalB p a.mov))).map (·.mov)
      = ((fs.filter (·.tactical)).map (·.mov)).filter (legalB p) := by
    rw [List.filter_map, List.filter_filter]
    congr 1
    apply List.filter_congr
    intro x _
    simp [Bool.and_comm]
  rw [e1, e2, h]

end Magog.Count
