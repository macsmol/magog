import Magog.Lemmas.SearchLocal

/-! The deadline is honoured (helpers for `Props/C13Deadline.lean`).

The clock of the search model is the oracle `env.timeUp : Nat → Bool` over the consultation counter `s.tick` (one tick
per consultation of ANY oracle: clock, stop channel, print gate). `ClockMono env`: once the clock has answered
`true` it answers `true` ever after. `Late env s`: as seen from the state `s`, the deadline has passed — every clock
consultation from now on answers `true`.

The search consults the clock in exactly five places, each time right after a callee has returned: `qLoop` after a
child, `abLoop` (`pollAfterMove`) after a child, `rootLoop` after a child, `deepenLoop` after `startAlphaBeta`,
`iterDeep` after the first `startAlphaBeta`. The lemmas below say: when the callee returns in a `Late` state the loop
returns without calling `child` again — the remaining siblings are dead code — and without evaluating a node
(for `deepenLoop` that lemma is `deepenLoop_discard` in `SearchIter`). -/

namespace Magog.Model
open Magog

def ClockMono (env : Env) : Prop := ∀ a b, a ≤ b → env.timeUp a = true → env.timeUp b = true

def Late (env : Env) (s : SS) : Prop := ∀ t, s.tick ≤ t → env.timeUp t = true

theorem late_of_timeUp {env : Env} (hm : ClockMono env) {t : Nat} (h : env.timeUp t = true) {s : SS}
    (ht : t ≤ s.tick) : Late env s :=
  fun u hu => hm t u (Nat.le_trans ht hu) h

theorem late_iff {env : Env} (hm : ClockMono env) (s : SS) : Late env s ↔ env.timeUp s.tick = true :=
  ⟨fun h => h _ (Nat.le_refl _), fun h => late_of_timeUp hm h (Nat.le_refl _)⟩

theorem Late.mono {env : Env} {s s' : SS} (h : Late env s) (ht : s.tick ≤ s'.tick) : Late env s' :=
  fun u hu => h u (Nat.le_trans ht hu)

theorem Late.now {env : Env} {s : SS} (h : Late env s) : env.timeUp s.tick = true := h _ (Nat.le_refl _)

theorem Late.consult {env : Env} {s : SS} (h : Late env s) : Late env s.consult := h.mono (Nat.le_succ _)

/-- the state after the break test `if interrupted || time.Now().After(end) { break }` when it breaks -/
def SS.afterBreak (s : SS) : SS := if s.interrupted then s else s.consult

@[simp] theorem SS.afterBreak_nodes (s : SS) : s.afterBreak.nodes = s.nodes := by
  unfold SS.afterBreak; split <;> rfl

theorem SS.afterBreak_tick (s : SS) : s.tick ≤ s.afterBreak.tick := by
  unfold SS.afterBreak; split
  · exact Nat.le_refl _
  · exact Nat.le_succ _

theorem Late.afterBreak {env : Env} {s : SS} (h : Late env s) : Late env s.afterBreak :=
  h.mono s.afterBreak_tick

theorem pollAfterMove_late {env : Env} {s : SS} (h : Late env s) : pollAfterMove env s = (true, s.afterBreak) := by
  rw [pollAfterMove_eq]
  unfold SS.afterBreak
  by_cases hi : s.interrupted = true
  · rw [if_pos hi, if_pos hi]
  · rw [if_neg hi, if_neg hi, if_pos h.now]

theorem rootImprove_tick {env target s subLen mv score alpha curLen a l s'}
    (h : rootImprove env target s subLen mv score alpha curLen = .ok (a, l, s')) :
    s.tick ≤ s'.tick ∧ s'.nodes = s.nodes := by
  rcases rootImprove_ok.1 h with ⟨-, -, s1, hu, hp⟩ | ⟨-, -, -, rfl⟩
  · obtain ⟨rows', rfl⟩ := updateBestLine_rows hu
    rcases rootPrint_ok.1 hp with ⟨-, -, rfl⟩ | ⟨-, rfl⟩ <;> exact ⟨Nat.le_succ _, rfl⟩
  · exact ⟨Nat.le_refl _, rfl⟩

/-- **no new sibling, `qLoop`**: when the child entered for the first move returns in a late state, the loop
    returns the window and line it was entered with and the child's state (plus one clock consultation, unless
    interrupted); `rest` is not looked at. Generic in `child`. -/
theorem qLoop_no_new_sibling {env : Env} {child : NodeFn} {p : Position} {idx depth : Nat} {beta : Int}
    {mv : RMove} {rest : List RMove} {alpha : Int} {curLen subLen : Nat} {s : SS} {q : Position}
    {v : Int} {sub' : Nat} {s1 : SS}
    (hcap : ¬ idx + 1 ≥ env.stackCap) (hmk : makeMove p mv.mov = .ok (q, true))
    (hch : child q (idx + 1) (depth + 1) (-beta) (-alpha) subLen s = .ok (v, sub', s1)) (hl : Late env s1) :
    qLoop env child p idx depth beta (mv :: rest) alpha curLen subLen s = .ok ⟨alpha, curLen, s1.afterBreak⟩ := by
  simp only [qLoop, hcap, if_false, hmk, hch, bind, Except.bind, Bool.not_true, Bool.false_eq_true]
  unfold SS.afterBreak
  by_cases hi : s1.interrupted = true
  · simp only [hi, if_true]; rfl
  · have : env.timeUp (s1.consult.tick - 1) = true := by
      simp only [SS.consult_tick, Nat.add_sub_cancel]; exact hl.now
    simp only [hi, this, if_true]; rfl

/-- the value an `abLoop` iteration returns when it does not go on to the next sibling: fail-hard cut-off (with
    the killer update) or the improved window after the break -/
def abAfterChild (p : Position) (depth : Nat) (beta : Int) (mv : RMove) (alpha : Int) (curLen : Nat)
    (x : Int × Nat × SS) : M LoopOut :=
  if -x.1 ≥ beta then
    (if !mv.tactical then do
       let kt ← updateKillers x.2.2.killers p.ply mv.mov
       pure ⟨beta, curLen, { x.2.2 with killers := kt }⟩
     else pure ⟨beta, curLen, x.2.2⟩)
  else do
    let y ← improve x.2.2 depth x.2.1 mv.mov (-x.1) alpha curLen
    pure ⟨y.1, y.2.1, y.2.2.afterBreak⟩

/-- **no new sibling, `abLoop`**: when the child entered for the first move returns in a late state, the loop
    returns what `abAfterChild` computes from the child's result — cut-off, or improved window and break —;
    `rest` is not looked at. Generic in `child`. -/
theorem abLoop_no_new_sibling {env : Env} {child : NodeFn} {p : Position} {idx depth : Nat} {beta : Int}
    {mv : RMove} {rest : List RMove} {alpha : Int} {curLen subLen : Nat} {s : SS} {q : Position}
    {x : Int × Nat × SS}
    (hni : s.interrupted = false) (hcap : ¬ idx + 1 ≥ env.stackCap) (hmk : makeMove p mv.mov = .ok (q, true))
    (hch : child q (idx + 1) (depth + 1) (-beta) (-alpha) subLen s = .ok x) (hl : Late env x.2.2) :
    abLoop env child p idx depth beta (mv :: rest) alpha curLen subLen s =
      abAfterChild p depth beta mv alpha curLen x := by
  rw [abLoop_cons_eq]
  simp only [hni, Bool.false_eq_true, if_false, hcap, hmk, hch, bind, Except.bind, Bool.not_true]
  unfold abAfterChild
  split
  · rfl
  · cases hi : improve x.2.2 depth x.2.1 mv.mov (-x.1) alpha curLen with
    | error e => rfl
    | ok y =>
      obtain ⟨a, l, s2⟩ := y
      obtain ⟨rows', rfl⟩ := improve_rows hi
      simp only [bind, Except.bind, pollAfterMove_late (s := { x.2.2 with rows := rows' }) hl, if_true]

theorem abAfterChild_ok {p : Position} {depth : Nat} {beta : Int} {mv : RMove} {alpha : Int} {curLen : Nat}
    {x : Int × Nat × SS} {r : LoopOut} (h : abAfterChild p depth beta mv alpha curLen x = .ok r) :
    r.st.nodes = x.2.2.nodes ∧ x.2.2.tick ≤ r.st.tick := by
  unfold abAfterChild at h
  split at h
  · split at h
    · obtain ⟨kt, _, h⟩ := bind_ok.1 h
      simp only [pure_ok] at h; subst h; exact ⟨rfl, Nat.le_refl _⟩
    · simp only [pure_ok] at h; subst h; exact ⟨rfl, Nat.le_refl _⟩
  · obtain ⟨⟨a, l, s2⟩, hi, h⟩ := bind_ok.1 h
    obtain ⟨rows', rfl⟩ := improve_rows hi
    simp only [pure_ok] at h; subst h
    exact ⟨SS.afterBreak_nodes _, SS.afterBreak_tick { x.2.2 with rows := rows' }⟩

/-- what a `rootLoop` iteration returns when it breaks after its child: the (possibly improved and printed) window
    and the state after the break test -/
def rootAfterChild (env : Env) (target : Nat) (mv : RMove) (alpha : Int) (curLen : Nat) (x : Int × Nat × SS) :
    M LoopOut := do
  let y ← rootImprove env target x.2.2 x.2.1 mv.mov (-x.1) alpha curLen
  pure ⟨y.1, y.2.1, y.2.2.afterBreak⟩

/-- **no new sibling, `rootLoop`**: when the child entered for the first root move returns in a late state, the root
    loop updates and prints the best line if the move improved it, and returns; `rest` is not looked at. -/
theorem rootLoop_no_new_sibling {env : Env} {child : NodeFn} {p : Position} {target : Nat}
    {mv : RMove} {rest : List RMove} {alpha : Int} {curLen subLen : Nat} {s : SS} {q : Position}
    {x : Int × Nat × SS}
    (hni : s.interrupted = false) (hcap : ¬ 1 ≥ env.stackCap) (hmk : makeMove p mv.mov = .ok (q, true))
    (hch : child q 1 1 (-(Gen.InfinityScore : Int)) (-alpha) subLen s = .ok x) (hl : Late env x.2.2) :
    rootLoop env child p target (mv :: rest) alpha curLen subLen s = rootAfterChild env target mv alpha curLen x := by
  rw [rootLoop_cons_eq]
  simp only [hni, Bool.false_eq_true, if_false, hcap, hmk, hch, bind, Except.bind, Bool.not_true]
  unfold rootAfterChild
  cases hi : rootImprove env target x.2.2 x.2.1 mv.mov (-x.1) alpha curLen with
  | error e => rfl
  | ok y =>
    obtain ⟨a, l, s2⟩ := y
    have ht := rootImprove_tick hi
    have hl2 : Late env s2 := hl.mono ht.1
    simp only [bind, Except.bind]
    unfold SS.afterBreak
    by_cases hint : s2.interrupted = true
    · simp only [hint, if_true]
    · have : env.timeUp (s2.consult.tick - 1) = true := by
        simp only [SS.consult_tick, Nat.add_sub_cancel]; exact hl2.now
      simp only [hint, this, if_true]; rfl

theorem rootAfterChild_ok {env : Env} {target : Nat} {mv : RMove} {alpha : Int} {curLen : Nat}
    {x : Int × Nat × SS} {r : LoopOut} (h : rootAfterChild env target mv alpha curLen x = .ok r) :
    r.st.nodes = x.2.2.nodes ∧ x.2.2.tick ≤ r.st.tick := by
  unfold rootAfterChild at h
  obtain ⟨⟨a, l, s2⟩, hi, h⟩ := bind_ok.1 h
  have ht := rootImprove_tick hi
  simp only [pure_ok] at h; subst h
  exact ⟨by simp [ht.2], Nat.le_trans ht.1 s2.afterBreak_tick⟩

/-- when the first iteration returns in a late state no second iteration is started -/
theorem deepenFrom_late {env : Env} {qfuel : Nat} {p : Position} {maxDepth : Nat} {score : Int} {one : Bool}
    {len0 : Nat} {s : SS} (hl : env.timeUp (s.tick - 1) = true) :
    deepenFrom env qfuel p maxDepth score one len0 s = .ok (score, 1, s) := by
  unfold deepenFrom
  simp only [hl, Bool.not_true, Bool.false_and, Bool.false_eq_true, if_false]
  rfl

def NodeLate (env : Env) (B : Nat) (f : NodeFn) : Prop :=
  ∀ p idx d a b l s v l' s', Late env s → f p idx d a b l s = .ok (v, l', s') → s'.nodes ≤ s.nodes + B ∧ Late env s'

theorem NodeLate.mono {env : Env} {B B' : Nat} {f : NodeFn} (h : NodeLate env B f) (hB : B ≤ B') : NodeLate env B' f :=
  fun p idx d a b l s v l' s' hl hr =>
    ⟨Nat.le_trans (h p idx d a b l s v l' s' hl hr).1 (Nat.add_le_add_left hB _), (h p idx d a b l s v l' s' hl hr).2⟩

theorem qLoop_late_nodes {env : Env} {B : Nat} {child : NodeFn} (hb : NodeLate env B child)
    {p : Position} {idx depth : Nat} {beta : Int} {ms : List RMove} {alpha : Int}
    {curLen subLen : Nat} {s : SS} {r : LoopOut} (hl : Late env s)
    (h : qLoop env child p idx depth beta ms alpha curLen subLen s = .ok r) : r.st.nodes ≤ s.nodes + B := by
  cases ms with
  | nil => simp only [qLoop, pure_ok] at h; subst h; exact Nat.le_add_right _ _
  | cons mv rest =>
    obtain ⟨hcap, q, _, hmk, rfl, v, l, s1, hch, -⟩ := qLoop_cons_ok.1 h
    obtain ⟨hn, hl1⟩ := hb _ _ _ _ _ _ _ _ _ _ hl hch
    rw [qLoop_no_new_sibling hcap hmk hch hl1] at h
    cases h
    simpa using hn

theorem abLoop_late_nodes {env : Env} {B : Nat} {child : NodeFn} (hb : NodeLate env B child)
    {p : Position} {idx depth : Nat} {beta : Int} {ms : List RMove} {alpha : Int}
    {curLen subLen : Nat} {s : SS} {r : LoopOut} (hl : Late env s)
    (h : abLoop env child p idx depth beta ms alpha curLen subLen s = .ok r) : r.st.nodes ≤ s.nodes + B := by
  cases ms with
  | nil => simp only [abLoop, pure_ok] at h; subst h; exact Nat.le_add_right _ _
  | cons mv rest =>
    rcases abLoop_cons_ok.1 h with ⟨-, rfl⟩ | ⟨hi, hcap, q, _, hmk, rfl, v, l, s1, hch, -⟩
    · exact Nat.le_add_right _ _
    · obtain ⟨hn, hl1⟩ := hb _ _ _ _ _ _ _ _ _ _ hl hch
      rw [abLoop_no_new_sibling (by simpa using hi) hcap hmk hch hl1] at h
      rw [(abAfterChild_ok h).1]
      exact hn

theorem rootLoop_late_nodes {env : Env} {B : Nat} {child : NodeFn} (hb : NodeLate env B child)
    {p : Position} {target : Nat} {ms : List RMove} {alpha : Int}
    {curLen subLen : Nat} {s : SS} {r : LoopOut} (hl : Late env s)
    (h : rootLoop env child p target ms alpha curLen subLen s = .ok r) : r.st.nodes ≤ s.nodes + B := by
  cases ms with
  | nil => simp only [rootLoop, pure_ok] at h; subst h; exact Nat.le_add_right _ _
  | cons mv rest =>
    rcases rootLoop_cons_ok.1 h with ⟨-, rfl⟩ | ⟨hi, hcap, q, _, hmk, rfl, v, l, s1, hch, -⟩
    · exact Nat.le_add_right _ _
    · obtain ⟨hn, hl1⟩ := hb _ _ _ _ _ _ _ _ _ _ hl hch
      rw [rootLoop_no_new_sibling (by simpa using hi) hcap hmk hch hl1] at h
      rw [(rootAfterChild_ok h).1]
      exact hn

/-- a quiescence node entered after the deadline evaluates itself and then at most its FIRST capture, recursively:
    at most `fuel` nodes (one per level of the leftmost line), and every loop on the way back breaks -/
theorem quiescence_nodeLate (env : Env) : ∀ fuel, NodeLate env fuel (quiescence env fuel)
  | 0 => fun _ _ _ _ _ _ _ _ _ _ _ h => by simp only [quiescence, throw_ok] at h
  | fuel + 1 => fun p idx depth alpha beta curLen s v l s' hl h => by
    refine ⟨?_, hl.mono (quiescence_searchFrame h).tick⟩
    obtain ⟨subLen, -, score, -, s1, hs1, h⟩ := quiescence_succ_ok.1 h
    obtain ⟨out', rfl, -⟩ := qLog_out hs1
    rcases h with ⟨-, -, -, rfl⟩ | ⟨-, ms, -, r, hr, -, -, rfl⟩
    · dsimp only; omega
    · have := qLoop_late_nodes (quiescence_nodeLate env fuel) (by exact hl) hr
      dsimp only at this ⊢; omega

/-- an alpha-beta node entered after the deadline: the first move of every level down to the leaf, the leaf's
    leftmost quiescence line — at most `max qfuel 1` evaluated nodes -/
theorem alphaBeta_nodeLate (env : Env) (qfuel : Nat) : ∀ rem, NodeLate env (max qfuel 1) (alphaBeta env qfuel rem)
  | 0 => fun p idx depth alpha beta curLen s v l s' hl h => by
    simp only [alphaBeta] at h
    obtain ⟨_, _, h⟩ := bind_ok.1 h
    exact (quiescence_nodeLate env qfuel).mono (Nat.le_max_left _ _) _ _ _ _ _ _ _ _ _ _ hl h
  | rem + 1 => fun p idx depth alpha beta curLen s v l s' hl h => by
    refine ⟨?_, hl.mono (alphaBeta_searchFrame h).tick⟩
    obtain ⟨subLen, -, ms, -, h⟩ := alphaBeta_succ_ok.1 h
    rcases h with ⟨-, tv, -, -, -, rfl⟩ | ⟨-, r, hr, -, -, rfl⟩
    · dsimp only; omega
    · have := abLoop_late_nodes (alphaBeta_nodeLate env qfuel rem) (by exact hl) hr
      exact this

/-- an iteration entered after the deadline searches its first root move only (down its leftmost line) -/
theorem startAlphaBeta_late {env : Env} {qfuel : Nat} {p : Position} {target curLen : Nat} {s : SS}
    {v : Int} {one : Bool} {l : Nat} {s' : SS} (hl : Late env s)
    (h : startAlphaBeta env qfuel p target curLen s = .ok (v, one, l, s')) :
    s'.nodes ≤ s.nodes + max qfuel 1 ∧ Late env s' := by
  refine ⟨?_, hl.mono (startAlphaBeta_searchFrame h).tick⟩
  obtain ⟨subLen, -, ms, -, h⟩ := startAlphaBeta_ok.1 h
  rcases h with ⟨-, tv, -, -, -, -, rfl⟩ | ⟨-, r, hr, -, -, -, rfl⟩
  · dsimp only; omega
  · have := rootLoop_late_nodes (alphaBeta_nodeLate env qfuel _) (by exact hl) hr
    exact this

/-- the deepening loop entered after the deadline: the iteration it starts is cut to one line and discarded, the
    result of the last completed depth stands -/
theorem deepenLoop_late {env : Env} {qfuel : Nat} {p : Position} {maxDepth n cur : Nat} {best : Int}
    {done len0 : Nat} {s : SS} {best' : Int} {done' : Nat} {s' : SS} (hl : Late env s)
    (h : deepenLoop env qfuel p maxDepth n cur best done len0 s = .ok (best', done', s')) :
    best' = best ∧ done' = done ∧ s'.nodes ≤ s.nodes + max qfuel 1 := by
  cases n with
  | zero =>
    simp only [deepenLoop, pure_ok, Prod.mk.injEq] at h
    obtain ⟨rfl, rfl, rfl⟩ := h
    exact ⟨rfl, rfl, by omega⟩
  | succ n =>
    rcases deepenLoop_succ_ok.1 h with ⟨-, rfl, rfl, rfl⟩ | ⟨-, score, one, l1, s1, hsab, h⟩
    · exact ⟨rfl, rfl, by omega⟩
    · obtain ⟨hn, hl1⟩ := startAlphaBeta_late hl hsab
      rcases h with ⟨-, rfl, rfl, rfl⟩ | ⟨ht, -⟩
      · exact ⟨rfl, rfl, hn⟩
      · exact absurd hl1.now ht

/-- **a search started after its deadline** (`ClockMono`, the clock answers `true` from the first consultation on):
    iteration 1 has no deadline test before its first root move, so that move is searched — down its leftmost line
    only, at most `max qfuel 1` evaluated nodes in all —, no second iteration is started, and the result of depth 1 is
    announced: `bestmove m` with `info … depth 1` (or `bestmove 0000` for a root without legal moves). -/
theorem iterDeep_late_start {env : Env} {qfuel : Nat} {p : Position} {maxDepth : Nat} {killers : Killers}
    {rows : Array (Array Move)} {len0 : Nat} {s : SS} (hm : ClockMono env) (h0 : env.timeUp 0 = true)
    (h : iterDeep env qfuel p maxDepth killers rows len0 = .ok s) :
    s.nodes ≤ max qfuel 1 ∧
    ((∃ score rest, s.out = .bestmoveNone :: .infoTerminal score :: rest) ∨
     (∃ m best pv rest, s.out = .bestmove m :: .infoPv best 1 s.nodes pv :: rest)) := by
  have hl0 : Late env (initSS rows killers) := late_of_timeUp hm h0 (Nat.zero_le _)
  obtain ⟨score, one, l, s1, hsab, hc⟩ := iterDeep_cases h
  obtain ⟨hn, hl1⟩ := startAlphaBeta_late hl0 hsab
  have hn1 : s1.nodes ≤ max qfuel 1 := by
    have : (initSS rows killers).nodes = 0 := rfl
    omega
  rcases hc with ⟨_, rfl⟩ | ⟨_, best, done, s2, m, tl, hd, hcand, rfl⟩
  · exact ⟨hn1, .inl ⟨score, _, rfl⟩⟩
  · have ht : env.timeUp ((copyBestLine s1 l).consult.tick - 1) = true := by
      show env.timeUp (s1.tick + 1 - 1) = true
      rw [Nat.add_sub_cancel]; exact hl1.now
    rw [deepenFrom_late ht] at hd
    simp only [Except.ok.injEq, Prod.mk.injEq] at hd
    obtain ⟨rfl, rfl, rfl⟩ := hd
    exact ⟨hn1, .inr ⟨m, score, _, _, rfl⟩⟩

end Magog.Model
