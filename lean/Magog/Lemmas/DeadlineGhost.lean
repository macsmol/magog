import Magog.Lemmas.Deadline

/-! The instrumented search: `Model/Search.lean` with a ghost `g : Option Nat` threaded through that records the
    node count at the moment the consultation counter first reaches a tick at which the clock answers `true`
    (`upd`, applied after EVERY consultation and to the initial state). The instrumented functions `…G` are copies of
    the model's functions (in the decomposed form of the `…_eq` lemmas of SearchBasic) and have no
    influence on the search state: `…_spec` proves that whenever the model's function returns `r`, the instrumented
    one returns the same `r` together with a ghost, and what that ghost satisfies.

    Used for `Props/C13Deadline.deadline_honoured`. -/

namespace Magog.Model
open Magog

abbrev Ghost := Option Nat

def upd (env : Env) (s : SS) : Ghost → Ghost
  | some n => some n
  | none => if env.timeUp s.tick then some s.nodes else none

abbrev NodeFnG := Position → Nat → Nat → Int → Int → Nat → SS → Ghost → M ((Int × Nat × SS) × Ghost)

def qLoopG (env : Env) (child : NodeFnG) (p : Position) (idx depth : Nat) (beta : Int) :
    List RMove → Int → Nat → Nat → SS → Ghost → M (LoopOut × Ghost)
  | [], alpha, curLen, _, s, g => pure (⟨alpha, curLen, s⟩, g)
  | mv :: rest, alpha, curLen, subLen, s, g => do
    if idx + 1 ≥ env.stackCap then throw (.index "posStack" (idx + 1)) else
    let r ← makeMove p mv.mov
    if !r.2 then throw (.explicit "Applying move resulted in illegal position") else
    let x ← child r.1 (idx + 1) (depth + 1) (-beta) (-alpha) subLen s g
    -- x = ((v, subLen, s), g)
    if x.1.2.2.interrupted then pure (⟨alpha, curLen, x.1.2.2⟩, x.2) else
    let s1 := x.1.2.2.consult
    let g1 := upd env s1 x.2
    if env.timeUp (s1.tick - 1) then pure (⟨alpha, curLen, s1⟩, g1) else
    if -x.1.1 ≥ beta then pure (⟨beta, curLen, s1⟩, g1) else
    if -x.1.1 > alpha then do
      let u ← updateBestLine s1 depth x.1.2.1 mv.mov
      qLoopG env child p idx depth beta rest (-x.1.1) u.2 x.1.2.1 u.1 g1
    else qLoopG env child p idx depth beta rest alpha curLen x.1.2.1 s1 g1

def GI (env : Env) (s : SS) : Ghost → Prop
  | none => env.timeUp s.tick = false
  | some _ => env.timeUp s.tick = true

/-- relation between the ghost before (`g`) and after (`g'`, in state `s'`) a piece of search code:
    the ghost stays what it is once set, and when it is set during the code, at most `L` nodes were evaluated
    since -/
structure GOut (env : Env) (L : Nat) (g : Ghost) (s' : SS) (g' : Ghost) : Prop where
  gi : GI env s' g'
  keep : ∀ n, g = some n → g' = some n
  bound : g = none → ∀ n, g' = some n → s'.nodes ≤ n + L

theorem upd_some (env : Env) (s : SS) (n : Nat) : upd env s (some n) = some n := rfl

theorem GI.late {env : Env} (hm : ClockMono env) {s : SS} {n : Nat} (h : GI env s (some n)) : Late env s :=
  late_of_timeUp hm h (Nat.le_refl _)

theorem GI.init (env : Env) (s : SS) : GI env s (upd env s none) := by
  unfold upd
  cases hc : env.timeUp s.tick with
  | true => simpa [GI] using hc
  | false => simpa [GI] using hc

theorem upd_GI {env : Env} (hm : ClockMono env) {s0 s : SS} {g : Ghost} (h : GI env s0 g) (ht : s0.tick ≤ s.tick) :
    GI env s (upd env s g) := by
  cases g with
  | some n => exact hm _ _ ht h
  | none => exact GI.init env s

theorem upd_none_eq {env : Env} {s : SS} {n : Nat} (h : upd env s none = some n) : n = s.nodes := by
  simp only [upd] at h
  split at h
  · cases h; rfl
  · cases h

theorem upd_upd_fresh {env : Env} {s1 s2 : SS} {n : Nat} (hn : s2.nodes = s1.nodes)
    (h : upd env s2 (upd env s1 none) = some n) : n = s1.nodes := by
  cases h1 : upd env s1 none with
  | none => rw [h1] at h; rw [upd_none_eq h, hn]
  | some m => rw [h1] at h; cases h; exact upd_none_eq h1

theorem GI.eq_none {env : Env} {s : SS} {g : Ghost} (h : GI env s g) (ht : env.timeUp s.tick = false) : g = none := by
  cases g with
  | none => rfl
  | some m => simp only [GI] at h; rw [h] at ht; cases ht

def NodeSpecG (env : Env) (L : Nat) (f : NodeFn) (fG : NodeFnG) : Prop :=
  ∀ p idx d a b l s g v l' s', GI env s g → f p idx d a b l s = .ok (v, l', s') →
    ∃ g', fG p idx d a b l s g = .ok ((v, l', s'), g') ∧ GOut env L g s' g'

theorem GOut.refl {env : Env} {L : Nat} {s : SS} {g : Ghost} (h : GI env s g) : GOut env L g s g :=
  ⟨h, fun _ h => h, fun h n hn => by rw [h] at hn; cases hn⟩

theorem GOut.late {env : Env} (hm : ClockMono env) {L : Nat} {g g' : Ghost} {s : SS} (o : GOut env L g s g') {n : Nat}
    (h : g' = some n) : Late env s :=
  GI.late hm (by have := o.gi; rw [h] at this; exact this)

/-- composition: first `g → g1` (ending in `s1`), then `g1 → g2` (ending in `s2`), where the second piece, when
    entered late, evaluates at most `L` nodes -/
theorem GOut.trans {env : Env} {L : Nat} {g g1 g2 : Ghost} {s1 s2 : SS}
    (h1 : GOut env L g s1 g1) (h2 : GOut env L g1 s2 g2)
    (hlate : ∀ n, g1 = some n → g = none → s2.nodes ≤ n + L) : GOut env L g s2 g2 where
  gi := h2.gi
  keep n hn := h2.keep n (h1.keep n hn)
  bound hg n hn := by
    cases hg1 : g1 with
    | none => exact h2.bound hg1 n hn
    | some m =>
      have := h2.keep m hg1
      rw [this] at hn
      cases hn
      exact hlate _ hg1 hg

theorem GI.of_tick {env : Env} {s s' : SS} {g : Ghost} (h : GI env s g) (ht : s'.tick = s.tick) : GI env s' g := by
  cases g <;> simpa [GI, ht] using h

theorem GOut.step {env : Env} (hm : ClockMono env) {L : Nat} {g g1 : Ghost} {s1 s2 : SS} (h : GOut env L g s1 g1)
    (ht : s1.tick ≤ s2.tick) (hn : s2.nodes = s1.nodes) : GOut env L g s2 (upd env s2 g1) where
  gi := upd_GI hm h.gi ht
  keep n hn' := by rw [h.keep n hn']; rfl
  bound hg n hn' := by
    cases hg1 : g1 with
    | some m =>
      rw [hg1] at hn'
      cases hn'
      rw [hn]; exact h.bound hg _ hg1
    | none =>
      rw [hg1] at hn'
      rw [upd_none_eq hn']; exact Nat.le_add_right _ _

theorem GOut.of_eq {env : Env} {L : Nat} {g g1 : Ghost} {s1 s2 : SS} (h : GOut env L g s1 g1)
    (ht : s2.tick = s1.tick) (hn : s2.nodes = s1.nodes) : GOut env L g s2 g1 :=
  ⟨h.gi.of_tick ht, h.keep, fun hg n hn' => by rw [hn]; exact h.bound hg n hn'⟩

theorem GOut.continue {env : Env} {L : Nat} {g g2 g' : Ghost} {s3 s' : SS}
    (h2 : GOut env L g s3 g2) (h3 : GOut env L g2 s' g')
    (hlate : ∀ n, g2 = some n → s'.nodes ≤ s3.nodes + L)
    (hfresh : g = none → ∀ n, g2 = some n → n = s3.nodes) : GOut env L g s' g' :=
  h2.trans h3 fun n hn hg => by
    have := hfresh hg n hn
    have := hlate n hn
    omega

theorem qLoopG_spec {env : Env} (hm : ClockMono env) {L : Nat} {child : NodeFn} {childG : NodeFnG}
    (hs : NodeSpecG env L child childG) (hb : NodeLate env L child)
    (p : Position) (idx depth : Nat) (beta : Int) :
    ∀ (ms : List RMove) (alpha : Int) (curLen subLen : Nat) (s : SS) (g : Ghost) (r : LoopOut), GI env s g →
      qLoop env child p idx depth beta ms alpha curLen subLen s = .ok r →
      ∃ g', qLoopG env childG p idx depth beta ms alpha curLen subLen s g = .ok (r, g') ∧ GOut env L g r.st g' := by
  intro ms
  induction ms with
  | nil =>
    intro alpha curLen subLen s g r hgi h
    simp only [qLoop, pure_ok] at h; subst h
    exact ⟨g, rfl, GOut.refl hgi⟩
  | cons mv rest ih =>
    intro alpha curLen subLen s g r hgi h
    obtain ⟨hcap, q, _, hmk, rfl, v, sl, s1, hch, h⟩ := qLoop_cons_ok.1 h
    obtain ⟨g1, hG, o1⟩ := hs _ _ _ _ _ _ _ _ _ _ _ hgi hch
    rw [qLoopG, if_neg hcap, hmk, ok_bind, if_neg (show ¬(!(q, true).2) = true from Bool.false_ne_true), hG, ok_bind]
    simp only [SS.consult_tick, Nat.add_sub_cancel]
    rcases h with ⟨hi, rfl⟩ | ⟨hi, h⟩
    · rw [if_pos hi]; exact ⟨g1, rfl, o1⟩
    rw [if_neg hi]
    have o2 : GOut env L g s1.consult (upd env s1.consult g1) := o1.step hm (Nat.le_succ _) rfl
    rcases h with ⟨hto, rfl⟩ | ⟨hto, h⟩
    · rw [if_pos hto]; exact ⟨_, rfl, o2⟩
    rw [if_neg hto]
    rcases h with ⟨hcut, rfl⟩ | ⟨hcut, h⟩
    · rw [if_pos hcut]; exact ⟨_, rfl, o2⟩
    rw [if_neg hcut]
    -- the loop goes on: the child did not return late, so the ghost was not set before this consultation
    have hg1 : g1 = none := o1.gi.eq_none (by simpa using hto)
    have hfresh : g = none → ∀ n, upd env s1.consult g1 = some n → n = s1.consult.nodes := by
      intro _ n hn; rw [hg1] at hn; exact upd_none_eq hn
    rcases h with ⟨himp, s3, cl, hu, h⟩ | ⟨himp, h⟩
    · rw [if_pos himp, hu, ok_bind]
      obtain ⟨rows', rfl⟩ := updateBestLine_rows hu
      have o3 := o2.of_eq (s2 := { s1.consult with rows := rows' }) rfl rfl
      obtain ⟨g', hG', o'⟩ := ih _ _ _ _ _ _ o3.gi h
      exact ⟨g', hG', o3.continue o' (fun n hn => qLoop_late_nodes hb (o3.late hm hn) h) hfresh⟩
    · rw [if_neg himp]
      obtain ⟨g', hG', o'⟩ := ih _ _ _ _ _ _ o2.gi h
      exact ⟨g', hG', o2.continue o' (fun n hn => qLoop_late_nodes hb (o2.late hm hn) h) hfresh⟩

/-- `quiescence` with the ghost (no consultation of its own; the node is counted on entry) -/
def quiescenceG (env : Env) : Nat → NodeFnG
  | 0 => fun _ _ _ _ _ _ _ _ => throw (.hang "quiescence")
  | fuel + 1 => fun p idx depth alpha beta curLen s g => do
    let subLen ← rowLen s (depth + 1)
    let score ← qEval env p depth alpha beta
    let s ← qLog env { s with nodes := s.nodes + 1 }
    if score ≥ beta then pure ((beta, curLen, s), g) else do
    let ms ← generateTacticalMoves p
    let r ← qLoopG env (quiescenceG env fuel) p idx depth beta (env.sortFn ms)
              (if score > alpha then (score, 0) else (alpha, curLen)).1
              (if score > alpha then (score, 0) else (alpha, curLen)).2 subLen s g
    pure ((r.1.score, r.1.curLen, r.1.st), r.2)

theorem quiescenceG_spec {env : Env} (hm : ClockMono env) {L : Nat} :
    ∀ fuel, fuel ≤ L → NodeSpecG env L (quiescence env fuel) (quiescenceG env fuel) := by
  intro fuel
  induction fuel with
  | zero => intro _ p idx d a b l s g v l' s' _ h; simp only [quiescence, throw_ok] at h
  | succ fuel ih =>
    intro hL p idx d a b l s g v l' s' hgi h
    obtain ⟨subLen, hsl, score, hsc, s1, hs1, h⟩ := quiescence_succ_ok.1 h
    simp only [quiescenceG]
    rw [hsl, ok_bind, hsc, ok_bind, hs1, ok_bind]
    obtain ⟨out', rfl, -⟩ := qLog_out hs1
    have hgi1 : GI env { s with nodes := s.nodes + 1, out := out' } g := hgi.of_tick rfl
    rcases h with ⟨hcut, rfl, rfl, rfl⟩ | ⟨hcut, ms, hms, r, hr, rfl, rfl, rfl⟩
    · rw [if_pos hcut]; exact ⟨g, rfl, GOut.refl hgi1⟩
    · obtain ⟨g', hG, o⟩ := qLoopG_spec hm (ih (by omega)) ((quiescence_nodeLate env fuel).mono (by omega))
        _ _ _ _ _ _ _ _ _ _ _ hgi1 hr
      rw [if_neg hcut, hms, ok_bind, hG, ok_bind]
      exact ⟨g', rfl, o⟩

def pollAfterMoveG (env : Env) (s : SS) (g : Ghost) : Bool × SS × Ghost :=
  if s.interrupted then (true, s, g) else
  let s := s.consult
  let g := upd env s g
  if env.timeUp (s.tick - 1) then (true, s, g) else
  let s := s.consult
  let g := upd env s g
  if env.stopAt (s.tick - 1) then (false, { s with interrupted := true }, g) else (false, s, g)

theorem pollAfterMoveG_eq (env : Env) (s : SS) (g : Ghost) : pollAfterMoveG env s g =
    if s.interrupted then (true, s, g) else
    if env.timeUp s.tick then (true, s.consult, upd env s.consult g) else
    if env.stopAt (s.tick + 1) then
      (false, { s.consult.consult with interrupted := true }, upd env s.consult.consult (upd env s.consult g))
    else (false, s.consult.consult, upd env s.consult.consult (upd env s.consult g)) := by
  unfold pollAfterMoveG
  simp only [SS.consult_tick, Nat.add_sub_cancel]

theorem pollAfterMoveG_spec {env : Env} (hm : ClockMono env) {L : Nat} {g0 g : Ghost} {s : SS}
    (o : GOut env L g0 s g) :
    (pollAfterMoveG env s g).1 = (pollAfterMove env s).1 ∧ (pollAfterMoveG env s g).2.1 = (pollAfterMove env s).2 ∧
    GOut env L g0 (pollAfterMove env s).2 (pollAfterMoveG env s g).2.2 ∧
    ((pollAfterMove env s).1 = false → g = none) ∧
    (g = none → ∀ n, (pollAfterMoveG env s g).2.2 = some n → n = s.nodes) ∧
    (pollAfterMove env s).2.nodes = s.nodes := by
  rw [pollAfterMoveG_eq, pollAfterMove_eq]
  by_cases hi : s.interrupted = true
  · rw [if_pos hi, if_pos hi]
    exact ⟨rfl, rfl, o, (fun h => by cases h), (fun hg n hn => by rw [hg] at hn; cases hn), rfl⟩
  rw [if_neg hi, if_neg hi]
  have o1 : GOut env L g0 s.consult (upd env s.consult g) := o.step hm (Nat.le_succ _) rfl
  by_cases hto : env.timeUp s.tick = true
  · rw [if_pos hto, if_pos hto]
    exact ⟨rfl, rfl, o1, (fun h => by cases h), fun hg n hn => by rw [hg] at hn; exact upd_none_eq (s := s.consult) hn, rfl⟩
  rw [if_neg hto, if_neg hto]
  have hg : g = none := o.gi.eq_none (by simpa using hto)
  have o2 : GOut env L g0 s.consult.consult (upd env s.consult.consult (upd env s.consult g)) :=
    o1.step hm (Nat.le_succ _) rfl
  have fresh : ∀ n, upd env s.consult.consult (upd env s.consult g) = some n → n = s.nodes := by
    intro n hn
    rw [hg] at hn
    exact upd_upd_fresh (s1 := s.consult) (s2 := s.consult.consult) rfl hn
  by_cases hst : env.stopAt (s.tick + 1) = true
  · rw [if_pos hst, if_pos hst]
    exact ⟨rfl, rfl, o2.of_eq rfl rfl, fun _ => hg, fun _ => fresh, rfl⟩
  · rw [if_neg hst, if_neg hst]
    exact ⟨rfl, rfl, o2, fun _ => hg, fun _ => fresh, rfl⟩

def abLoopG (env : Env) (child : NodeFnG) (p : Position) (idx depth : Nat) (beta : Int) :
    List RMove → Int → Nat → Nat → SS → Ghost → M (LoopOut × Ghost)
  | [], alpha, curLen, _, s, g => pure (⟨alpha, curLen, s⟩, g)
  | mv :: rest, alpha, curLen, subLen, s, g =>
    if s.interrupted then pure (⟨alpha, curLen, s⟩, g) else
    if idx + 1 ≥ env.stackCap then throw (.index "posStack" (idx + 1)) else do
    let r ← makeMove p mv.mov
    if !r.2 then throw (.explicit "Applying move resulted in illegal position") else do
    let x ← child r.1 (idx + 1) (depth + 1) (-beta) (-alpha) subLen s g
    if -x.1.1 ≥ beta then
      (if !mv.tactical then do
         let kt ← updateKillers x.1.2.2.killers p.ply mv.mov
         pure (⟨beta, curLen, { x.1.2.2 with killers := kt }⟩, x.2)
       else pure (⟨beta, curLen, x.1.2.2⟩, x.2))
    else do
      let y ← improve x.1.2.2 depth x.1.2.1 mv.mov (-x.1.1) alpha curLen
      if (pollAfterMoveG env y.2.2 x.2).1 then
        pure (⟨y.1, y.2.1, (pollAfterMoveG env y.2.2 x.2).2.1⟩, (pollAfterMoveG env y.2.2 x.2).2.2)
      else (abLoopG env child p idx depth beta rest y.1 y.2.1 x.1.2.1
        (pollAfterMoveG env y.2.2 x.2).2.1 (pollAfterMoveG env y.2.2 x.2).2.2)

theorem abLoopG_spec {env : Env} (hm : ClockMono env) {L : Nat} {child : NodeFn} {childG : NodeFnG}
    (hs : NodeSpecG env L child childG) (hb : NodeLate env L child)
    (p : Position) (idx depth : Nat) (beta : Int) :
    ∀ (ms : List RMove) (alpha : Int) (curLen subLen : Nat) (s : SS) (g : Ghost) (r : LoopOut), GI env s g →
      abLoop env child p idx depth beta ms alpha curLen subLen s = .ok r →
      ∃ g', abLoopG env childG p idx depth beta ms alpha curLen subLen s g = .ok (r, g') ∧ GOut env L g r.st g' := by
  intro ms
  induction ms with
  | nil =>
    intro alpha curLen subLen s g r hgi h
    simp only [abLoop, pure_ok] at h; subst h
    exact ⟨g, rfl, GOut.refl hgi⟩
  | cons mv rest ih =>
    intro alpha curLen subLen s g r hgi h
    rw [abLoopG]
    rcases abLoop_cons_ok.1 h with ⟨hi, rfl⟩ | ⟨hi, hcap, q, _, hmk, rfl, v, sl, s1, hch, h⟩
    · rw [if_pos hi]; exact ⟨g, rfl, GOut.refl hgi⟩
    obtain ⟨g1, hG, o1⟩ := hs _ _ _ _ _ _ _ _ _ _ _ hgi hch
    rw [if_neg hi, if_neg hcap, hmk, ok_bind, if_neg (show ¬(!(q, true).2) = true from Bool.false_ne_true), hG, ok_bind]
    dsimp only
    rcases h with ⟨hcut, ⟨htac, kt, hkt, rfl⟩ | ⟨htac, rfl⟩⟩ | ⟨hcut, a2, l2, s2, hi2, h⟩
    · rw [if_pos hcut, htac, if_pos (show (!false) = true from rfl), hkt, ok_bind]; exact ⟨g1, rfl, o1.of_eq rfl rfl⟩
    · rw [if_pos hcut, htac, if_neg (show ¬(!true) = true from Bool.false_ne_true)]; exact ⟨g1, rfl, o1⟩
    rw [if_neg hcut, hi2, ok_bind]
    obtain ⟨rows', rfl⟩ := improve_rows hi2
    dsimp only at h ⊢
    obtain ⟨p1, p2, p3, p4, p5, p6⟩ := pollAfterMoveG_spec hm (o1.of_eq (s2 := { s1 with rows := rows' }) rfl rfl)
    rw [p1, p2]
    rcases h with ⟨hbrk, rfl⟩ | ⟨hbrk, h⟩
    · rw [if_pos hbrk]; exact ⟨_, rfl, p3⟩
    rw [if_neg hbrk]
    have hg1 : g1 = none := p4 (by simpa using hbrk)
    obtain ⟨g', hG', o'⟩ := ih _ _ _ _ _ _ p3.gi h
    exact ⟨g', hG', p3.continue o' (fun n hn => abLoop_late_nodes hb (p3.late hm hn) h)
      (fun _ n hn => by rw [p6]; exact p5 hg1 n hn)⟩

def alphaBetaG (env : Env) (qfuel : Nat) : Nat → NodeFnG
  | 0 => fun p idx depth alpha beta curLen s g => do
    let _ ← rowLen s (depth + 1)
    quiescenceG env qfuel p idx depth alpha beta curLen s g
  | rem + 1 => fun p idx depth alpha beta curLen s g => do
    let subLen ← rowLen s (depth + 1)
    let ms ← generateMoves s.killers p
    if ms.isEmpty then do
      let v ← terminalNodeScore p depth
      pure ((v, 0, { s with nodes := s.nodes + 1 }), g)
    else do
      let r ← abLoopG env (alphaBetaG env qfuel rem) p idx depth beta
        (env.sortFn (applyPvBonus s.cand s.matched depth ms).1) alpha curLen subLen
        { s with matched := (applyPvBonus s.cand s.matched depth ms).2 } g
      pure ((r.1.score, r.1.curLen, r.1.st), r.2)

theorem alphaBetaG_spec {env : Env} (hm : ClockMono env) (qfuel : Nat) :
    ∀ rem, NodeSpecG env (max qfuel 1) (alphaBeta env qfuel rem) (alphaBetaG env qfuel rem) := by
  intro rem
  induction rem with
  | zero =>
    intro p idx d a b l s g v l' s' hgi h
    simp only [alphaBeta] at h
    obtain ⟨x, hx, h⟩ := bind_ok.1 h
    simp only [alphaBetaG]
    rw [hx, ok_bind]
    exact quiescenceG_spec hm qfuel (Nat.le_max_left _ _) _ _ _ _ _ _ _ _ _ _ _ hgi h
  | succ rem ih =>
    intro p idx d a b l s g v l' s' hgi h
    obtain ⟨subLen, hsl, ms, hms, h⟩ := alphaBeta_succ_ok.1 h
    simp only [alphaBetaG]
    rw [hsl, ok_bind, hms, ok_bind]
    rcases h with ⟨he, tv, htv, rfl, rfl, rfl⟩ | ⟨he, r, hr, rfl, rfl, rfl⟩
    · rw [if_pos he, htv, ok_bind]; exact ⟨g, rfl, GOut.refl (hgi.of_tick rfl)⟩
    · obtain ⟨g', hG, o⟩ := abLoopG_spec hm ih (alphaBeta_nodeLate env qfuel rem) _ _ _ _ _ _ _ _ _ _ _
        (GI.of_tick (s' := { s with matched := (applyPvBonus s.cand s.matched d ms).2 }) hgi rfl) hr
      rw [if_neg he, hG, ok_bind]
      exact ⟨g', rfl, o⟩

/-- `rootLoop` with the ghost (updated after the print-gate consultation inside `rootImprove`, after the clock
    consultation and after the stop-channel consultation in `rootStop`) -/
def rootLoopG (env : Env) (child : NodeFnG) (p : Position) (target : Nat) :
    List RMove → Int → Nat → Nat → SS → Ghost → M (LoopOut × Ghost)
  | [], alpha, curLen, _, s, g => pure (⟨alpha, curLen, s⟩, g)
  | mv :: rest, alpha, curLen, subLen, s, g =>
    if s.interrupted then pure (⟨alpha, curLen, s⟩, g) else
    if 1 ≥ env.stackCap then throw (.index "posStack" 1) else do
    let r ← makeMove p mv.mov
    if !r.2 then throw (.explicit "Applying move resulted in illegal position") else do
    let x ← child r.1 1 1 (-(Gen.InfinityScore : Int)) (-alpha) subLen s g
    let y ← rootImprove env target x.1.2.2 x.1.2.1 mv.mov (-x.1.1) alpha curLen
    if y.2.2.interrupted then pure (⟨y.1, y.2.1, y.2.2⟩, upd env y.2.2 x.2) else
    if env.timeUp (y.2.2.consult.tick - 1) then
      pure (⟨y.1, y.2.1, y.2.2.consult⟩, upd env y.2.2.consult (upd env y.2.2 x.2)) else
    if nextMoveWins (-x.1.1) then
      pure (⟨y.1, y.2.1, y.2.2.consult⟩, upd env y.2.2.consult (upd env y.2.2 x.2)) else
    (rootLoopG env child p target rest y.1 y.2.1 x.1.2.1 (rootStop env y.2.2.consult)
      (upd env (rootStop env y.2.2.consult) (upd env y.2.2.consult (upd env y.2.2 x.2))))

theorem rootLoopG_spec {env : Env} (hm : ClockMono env) {L : Nat} {child : NodeFn} {childG : NodeFnG}
    (hs : NodeSpecG env L child childG) (hb : NodeLate env L child)
    (p : Position) (target : Nat) :
    ∀ (ms : List RMove) (alpha : Int) (curLen subLen : Nat) (s : SS) (g : Ghost) (r : LoopOut), GI env s g →
      rootLoop env child p target ms alpha curLen subLen s = .ok r →
      ∃ g', rootLoopG env childG p target ms alpha curLen subLen s g = .ok (r, g') ∧ GOut env L g r.st g' := by
  intro ms
  induction ms with
  | nil =>
    intro alpha curLen subLen s g r hgi h
    simp only [rootLoop, pure_ok] at h; subst h
    exact ⟨g, rfl, GOut.refl hgi⟩
  | cons mv rest ih =>
    intro alpha curLen subLen s g r hgi h
    rw [rootLoopG]
    rcases rootLoop_cons_ok.1 h with ⟨hi, rfl⟩ |
      ⟨hi, hcap, q, _, hmk, rfl, v, sl, s1, hch, a2, l2, s2, hi2, h⟩
    · rw [if_pos hi]; exact ⟨g, rfl, GOut.refl hgi⟩
    obtain ⟨g1, hG, o1⟩ := hs _ _ _ _ _ _ _ _ _ _ _ hgi hch
    have e2 := rootImprove_tick hi2
    rw [if_neg hi, if_neg hcap, hmk, ok_bind, if_neg (show ¬(!(q, true).2) = true from Bool.false_ne_true), hG, ok_bind]
    dsimp only
    rw [hi2, ok_bind]
    simp only [SS.consult_tick, Nat.add_sub_cancel]
    have o2 : GOut env L g s2 (upd env s2 g1) := o1.step hm e2.1 e2.2
    rcases h with ⟨hint, rfl⟩ | ⟨hint, h⟩
    · rw [if_pos hint]; exact ⟨_, rfl, o2⟩
    rw [if_neg hint]
    have o3 : GOut env L g s2.consult (upd env s2.consult (upd env s2 g1)) := o2.step hm (Nat.le_succ _) rfl
    rcases h with ⟨hto, rfl⟩ | ⟨hto, h⟩
    · rw [if_pos hto]; exact ⟨_, rfl, o3⟩
    rw [if_neg hto]
    rcases h with ⟨hwin, rfl⟩ | ⟨hwin, h⟩
    · rw [if_pos hwin]; exact ⟨_, rfl, o3⟩
    rw [if_neg hwin]
    have e4 : (rootStop env s2.consult).nodes = s2.consult.nodes := by rw [rootStop_upd]
    have o4 : GOut env L g (rootStop env s2.consult)
        (upd env (rootStop env s2.consult) (upd env s2.consult (upd env s2 g1))) :=
      o3.step hm (by rw [rootStop_tick]; exact Nat.le_succ _) e4
    -- the loop goes on: the clock said no at tick `s2.tick`, so the ghost was not set up to there
    have hg2 : upd env s2 g1 = none := o2.gi.eq_none (by simpa using hto)
    obtain ⟨g', hG', o'⟩ := ih _ _ _ _ _ _ o4.gi h
    refine ⟨g', hG', o4.continue o' (fun n hn => rootLoop_late_nodes hb (o4.late hm hn) h) (fun _ n hn => ?_)⟩
    rw [hg2] at hn
    rw [e4]
    exact upd_upd_fresh (s1 := s2.consult) e4 hn

def startAlphaBetaG (env : Env) (qfuel : Nat) (p : Position) (target : Nat) (curLen : Nat) (s : SS) (g : Ghost) :
    M ((Int × Bool × Nat × SS) × Ghost) := do
  let subLen ← rowLen s 1
  let ms ← generateMoves s.killers p
  if ms.isEmpty then do
    let v ← terminalNodeScore p 0
    pure ((v, false, 0, { s with nodes := s.nodes + 1, rootMoves := [] }), g)
  else do
    let r ← rootLoopG env (alphaBetaG env qfuel (target - 1)) p target
      (env.sortFn (applyPvBonus s.cand s.matched 0 ms).1) (Gen.MinusInfinityScore) curLen subLen
      { s with matched := (applyPvBonus s.cand s.matched 0 ms).2,
               rootMoves := env.sortFn (applyPvBonus s.cand s.matched 0 ms).1, firstMoveIdx := 0 } g
    pure ((r.1.score, (env.sortFn (applyPvBonus s.cand s.matched 0 ms).1).length == 1, r.1.curLen, r.1.st), r.2)

theorem startAlphaBetaG_spec {env : Env} (hm : ClockMono env) {qfuel : Nat} {p : Position} {target curLen : Nat}
    {s : SS} {g : Ghost} {v : Int} {one : Bool} {l : Nat} {s' : SS} (hgi : GI env s g)
    (h : startAlphaBeta env qfuel p target curLen s = .ok (v, one, l, s')) :
    ∃ g', startAlphaBetaG env qfuel p target curLen s g = .ok ((v, one, l, s'), g') ∧
      GOut env (max qfuel 1) g s' g' := by
  obtain ⟨subLen, hsl, ms, hms, h⟩ := startAlphaBeta_ok.1 h
  simp only [startAlphaBetaG]
  rw [hsl, ok_bind, hms, ok_bind]
  rcases h with ⟨he, tv, htv, rfl, rfl, rfl, rfl⟩ | ⟨he, r, hr, rfl, rfl, rfl, rfl⟩
  · rw [if_pos he, htv, ok_bind]; exact ⟨g, rfl, GOut.refl (hgi.of_tick rfl)⟩
  · obtain ⟨g', hG, o⟩ := rootLoopG_spec hm (alphaBetaG_spec hm qfuel (target - 1))
      (alphaBeta_nodeLate env qfuel (target - 1)) _ _ _ _ _ _ _ _ _
      (GI.of_tick (s' := { s with matched := (applyPvBonus s.cand s.matched 0 ms).2,
                                  rootMoves := env.sortFn (applyPvBonus s.cand s.matched 0 ms).1,
                                  firstMoveIdx := 0 }) hgi rfl) hr
    rw [if_neg he, hG, ok_bind]
    exact ⟨g', rfl, o⟩

def deepenLoopG (env : Env) (qfuel : Nat) (p : Position) (maxDepth : Nat) :
    Nat → Nat → Int → Nat → Nat → SS → Ghost → M ((Int × Nat × SS) × Ghost)
  | 0, _, best, done, _, s, g => pure ((best, done, s), g)
  | n + 1, cur, best, done, len0, s, g =>
    if cur > maxDepth then pure ((best, done, s), g) else do
    let x ← startAlphaBetaG env qfuel p cur len0 s g
    if env.timeUp (x.1.2.2.2.consult.tick - 1) then
      pure ((best, done, x.1.2.2.2.consult), upd env x.1.2.2.2.consult x.2) else
    if x.1.2.2.2.consult.interrupted then
      pure ((best, done, x.1.2.2.2.consult), upd env x.1.2.2.2.consult x.2) else do
    let s3 ← printInfoAfterDepth (copyBestLine x.1.2.2.2.consult x.1.2.2.1) x.1.1 cur
    if pliesToMate x.1.1 == cur then pure ((x.1.1, cur, s3), upd env x.1.2.2.2.consult x.2) else
    if x.1.2.1 then pure ((x.1.1, cur, s3), upd env x.1.2.2.2.consult x.2) else
    deepenLoopG env qfuel p maxDepth n (cur + 1) x.1.1 cur x.1.2.2.1 s3 (upd env x.1.2.2.2.consult x.2)

theorem deepenLoopG_spec {env : Env} (hm : ClockMono env) {qfuel : Nat} {p : Position} {maxDepth : Nat} :
    ∀ (n cur : Nat) (best : Int) (done len0 : Nat) (s : SS) (g : Ghost) (best' : Int) (done' : Nat) (s' : SS),
      GI env s g → deepenLoop env qfuel p maxDepth n cur best done len0 s = .ok (best', done', s') →
      ∃ g', deepenLoopG env qfuel p maxDepth n cur best done len0 s g = .ok ((best', done', s'), g') ∧
        GOut env (max qfuel 1) g s' g' := by
  intro n
  induction n with
  | zero =>
    intro cur best done len0 s g best' done' s' hgi h
    simp only [deepenLoop, pure_ok, Prod.mk.injEq] at h
    obtain ⟨rfl, rfl, rfl⟩ := h
    exact ⟨g, rfl, GOut.refl hgi⟩
  | succ n ih =>
    intro cur best done len0 s g best' done' s' hgi h
    rw [deepenLoopG]
    rcases deepenLoop_succ_ok.1 h with ⟨hc, rfl, rfl, rfl⟩ | ⟨hc, v, one, l, s1, hsab, h⟩
    · rw [if_pos hc]; exact ⟨g, rfl, GOut.refl hgi⟩
    obtain ⟨g1, hG, o1⟩ := startAlphaBetaG_spec hm hgi hsab
    rw [if_neg hc, hG, ok_bind]
    simp only [SS.consult_tick, Nat.add_sub_cancel]
    have o2 : GOut env (max qfuel 1) g s1.consult (upd env s1.consult g1) := o1.step hm (Nat.le_succ _) rfl
    rcases h with ⟨hto, rfl, rfl, rfl⟩ | ⟨hto, ⟨hint, rfl, rfl, rfl⟩ | ⟨hint, s3, hp3, h⟩⟩
    · rw [if_pos hto]; exact ⟨_, rfl, o2⟩
    · rw [if_neg hto, if_pos hint]; exact ⟨_, rfl, o2⟩
    rw [if_neg hto, if_neg hint, hp3, ok_bind]
    obtain ⟨-, rfl⟩ := printInfoAfterDepth_ok hp3
    have o3 := o2.of_eq (s2 := { copyBestLine s1.consult l with
      out := .infoDepth cur v (copyBestLine s1.consult l).nodes (copyBestLine s1.consult l).cand ::
        (copyBestLine s1.consult l).out }) rfl rfl
    rcases h with ⟨hmate, rfl, rfl, rfl⟩ | ⟨hmate, ⟨hone, rfl, rfl, rfl⟩ | ⟨hone, h⟩⟩
    · rw [if_pos hmate]; exact ⟨_, rfl, o3⟩
    · rw [if_neg hmate, if_pos hone]; exact ⟨_, rfl, o3⟩
    rw [if_neg hmate, if_neg hone]
    have hg1 : g1 = none := o1.gi.eq_none (by simpa using hto)
    obtain ⟨g', hG', o'⟩ := ih _ _ _ _ _ _ _ _ _ o3.gi h
    refine ⟨g', hG', o3.continue o' (fun m hm' => (deepenLoop_late (o3.late hm hm') h).2.2) (fun _ m hm' => ?_)⟩
    rw [hg1] at hm'
    exact upd_none_eq (s := s1.consult) hm'

/-- `iterDeep` with the ghost: initialised on the fresh state (tick 0) -/
def iterDeepG (env : Env) (qfuel : Nat) (p : Position) (maxDepth : Nat) (killers : Killers)
    (rows : Array (Array Move)) (len0 : Nat) : M (SS × Ghost) := do
  let x ← startAlphaBetaG env qfuel p 1 len0 (initSS rows killers) (upd env (initSS rows killers) none)
  if (copyBestLine x.1.2.2.2 x.1.2.2.1).cand.isEmpty then
    pure ({ copyBestLine x.1.2.2.2 x.1.2.2.1 with out := .bestmoveNone :: .infoTerminal x.1.1 :: x.1.2.2.2.out }, x.2)
  else do
    let y ← (if !env.timeUp ((copyBestLine x.1.2.2.2 x.1.2.2.1).consult.tick - 1) &&
                !(copyBestLine x.1.2.2.2 x.1.2.2.1).consult.interrupted && !x.1.2.1 then
              deepenLoopG env qfuel p maxDepth maxDepth 2 x.1.1 1 x.1.2.2.1 (copyBestLine x.1.2.2.2 x.1.2.2.1).consult
                (upd env (copyBestLine x.1.2.2.2 x.1.2.2.1).consult x.2)
            else pure ((x.1.1, 1, (copyBestLine x.1.2.2.2 x.1.2.2.1).consult),
              upd env (copyBestLine x.1.2.2.2 x.1.2.2.1).consult x.2))
    let s2 ← announce y.1.2.2 y.1.1 y.1.2.1
    pure (s2, y.2)

/-- **The instrumented search follows the model, and its ghost bounds the work after the deadline.**
    Whenever `iterDeep` returns `s`, `iterDeepG` returns the same `s` and a ghost `g`:
    * `g = some n₀`: the consultation counter reached a late tick during the run, `n₀` nodes had been evaluated at
      that moment, and at most `max qfuel 1` were evaluated afterwards;
    * `g = none`: it never did (the clock would still answer `false` at the final tick). -/
theorem iterDeepG_spec {env : Env} (hm : ClockMono env) {qfuel : Nat} {p : Position} {maxDepth : Nat}
    {killers : Killers} {rows : Array (Array Move)} {len0 : Nat} {s : SS}
    (h : iterDeep env qfuel p maxDepth killers rows len0 = .ok s) :
    ∃ g, iterDeepG env qfuel p maxDepth killers rows len0 = .ok (s, g) ∧
      (∀ n₀, g = some n₀ → s.nodes ≤ n₀ + max qfuel 1) ∧ (g = none → env.timeUp s.tick = false) := by
  have h00 := h
  rw [iterDeep_eq] at h
  obtain ⟨⟨v, one, l, s1⟩, hsab, h⟩ := bind_ok.1 h
  have hgi0 := GI.init env (initSS rows killers)
  obtain ⟨g1, hG, o1⟩ := startAlphaBetaG_spec hm hgi0 hsab
  -- the bound for the whole run from the `GOut` of its pieces: either the ghost was set at tick 0 (the search
  -- started after its deadline) or `GOut.bound` applies
  have final : ∀ (sf : SS) (gf : Ghost), GOut env (max qfuel 1) (upd env (initSS rows killers) none) sf gf →
      sf.nodes = s.nodes → sf.tick = s.tick →
      (∀ n₀, gf = some n₀ → s.nodes ≤ n₀ + max qfuel 1) ∧ (gf = none → env.timeUp s.tick = false) := by
    intro sf gf o en et
    refine ⟨fun n₀ hn => ?_, fun hn => ?_⟩
    · cases h0 : upd env (initSS rows killers) none with
      | none => rw [← en]; exact o.bound h0 n₀ hn
      | some m =>
        have hk := o.keep m h0
        rw [hk] at hn; cases hn
        have ht0 : env.timeUp 0 = true := by
          have := hgi0; rw [h0] at this; exact this
        have := (iterDeep_late_start hm ht0 h00).1
        omega
    · have := o.gi
      rw [hn] at this
      rw [← et]; exact this
  simp only [iterDeepG]
  rw [hG, ok_bind]
  dsimp only at h ⊢
  split at h
  · next hemp =>
    simp only [pure_ok] at h
    rw [if_pos hemp]
    refine ⟨g1, by rw [← h]; rfl, ?_⟩
    exact final s1 g1 o1 (by rw [← h]; rfl) (by rw [← h]; rfl)
  next hemp =>
  rw [if_neg hemp]
  obtain ⟨⟨best, done, s2⟩, hd, h⟩ := bind_ok.1 h
  obtain ⟨m, tl, hc, hs⟩ := announce_ok h
  have o2 : GOut env (max qfuel 1) (upd env (initSS rows killers) none) (copyBestLine s1 l).consult
      (upd env (copyBestLine s1 l).consult g1) := o1.step hm (Nat.le_succ _) rfl
  unfold deepenFrom at hd
  split at hd
  · next hgo =>
    rw [if_pos hgo]
    have hg1 : g1 = none := o1.gi.eq_none (by
      have : env.timeUp ((copyBestLine s1 l).consult.tick - 1) = false := by
        simp only [Bool.and_eq_true, Bool.not_eq_true'] at hgo; exact hgo.1.1
      simpa [copyBestLine, SS.consult_tick] using this)
    obtain ⟨g', hG', o'⟩ := deepenLoopG_spec hm _ _ _ _ _ _ _ _ _ _ o2.gi hd
    rw [hG', ok_bind]
    dsimp only
    rw [h, ok_bind]
    refine ⟨g', rfl, ?_⟩
    have o3 := o2.continue o' (fun k hk => ?_) (fun _ k hk => ?_)
    · exact final s2 g' o3 (by rw [hs]) (by rw [hs])
    · exact (deepenLoop_late (o2.late hm hk) hd).2.2
    · rw [hg1] at hk
      exact upd_none_eq hk
  · next hgo =>
    rw [if_neg hgo]
    simp only [pure_ok, Prod.mk.injEq] at hd
    obtain ⟨rfl, rfl, rfl⟩ := hd
    rw [pure_bind]
    dsimp only at h ⊢
    rw [h, ok_bind]
    refine ⟨_, rfl, ?_⟩
    exact final _ _ o2 (by rw [hs]) (by rw [hs])

end Magog.Model
