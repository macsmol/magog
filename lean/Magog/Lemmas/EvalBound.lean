import Magog.Lemmas.AlphaBeta
import Magog.Lemmas.Inv
import Magog.Lemmas.CountGen

/-! Lemmas for C05: the static evaluation of a well-formed position (`Inv`) is bounded by an explicit
    number `evalB` computed from the generated constants and piece-square tables, under a parameter assumption on
    the float blend (`BlendBounded`, true of the exact interpolation); `evalB` is below `Gen.ScoreCloseToMate`, so
    non-mate evaluations stay clear of the mate scores, which discharges C04's `EvalRange`. -/

namespace Magog.Lemmas.EvalBound
open Magog Magog.Model Magog.Lemmas.AlphaBeta

def matMax : Nat :=
  max Gen.MaterialPawnScore (max Gen.MaterialKnightScore (max Gen.MaterialBishopScore
    (max Gen.MaterialRookScore Gen.MaterialQueenScore)))

theorem mat_le : Gen.MaterialPawnScore ≤ matMax ∧ Gen.MaterialKnightScore ≤ matMax ∧
    Gen.MaterialBishopScore ≤ matMax ∧ Gen.MaterialRookScore ≤ matMax ∧ Gen.MaterialQueenScore ≤ matMax := by
  rw [matMax]
  omega

/-- the largest non-pawn material sum the two piece lists of a well-formed position can hold: `pieceCap` men a
    side, each worth at most `matMax` (27 000 on the current constants; `materialSum_le`) -/
def maxMaterialSum : Nat := 2 * Gen.pieceCap * matMax

/-- the extrapolation factor of the king-table interpolation, computed from the generated constants:
    `⌈2·maxMaterialSum / StartingSumOfMaterial⌉ − 1` (= 8 on the current constants).

    The engine's game-phase factor `f = materialSum / StartingSumOfMaterial` is NOT clamped to `[0, 1]`
    (`math.Min(f, 1.0)` in `gamePhaseFactor` discards its result), so with promoted pieces `f > 1` and
    `f·mid + (1 − f)·end` extrapolates beyond the two table values: for `|mid|, |end| ≤ B` it is bounded by `B`
    when `f ≤ 1` and by `(2f − 1)·B` when `f ≥ 1`, and `f ≤ maxMaterialSum / StartingSumOfMaterial`. -/
def blendK : Nat :=
  (2 * maxMaterialSum + Gen.StartingSumOfMaterial - 1) / Gen.StartingSumOfMaterial - 1

/-- the parameter assumption on the king-table interpolation: on every material sum a well-formed position can
    have (`msum ≤ maxMaterialSum`), the blend of two table values bounded by `B` is bounded by `blendK · B`.

    This is true of the real-valued formula the Go code computes in `float64`, including the extrapolating range
    `msum > StartingSumOfMaterial` (`blendBounded_exact`). The simpler assumption (result `≤ B` for
    every `msum`) is FALSE of the engine (`old_blend_hypothesis_false_of_exact`: the Go binary returns
    `blend 12800 (-50) 50 = -150` and `blend 27000 50 (-50) = 371`). The driver's `float64` blend is compared with
    Go on its complete domain on every run. The constant is conservative: the real maximum over the generated
    tables and `msum ≤ 27000` is 371 < 8·50 = 400. -/
def BlendBounded (blend : Blend) (B : Nat) : Prop :=
  ∀ (msum : Nat) (mid end_ : Int), msum ≤ maxMaterialSum → mid.natAbs ≤ B → end_.natAbs ≤ B →
    (blend msum mid end_).natAbs ≤ blendK * B

theorem startingSum_pos : 0 < Gen.StartingSumOfMaterial := by decide

theorem one_le_blendK : 1 ≤ blendK := by decide

theorem blendK_spec : 2 * maxMaterialSum ≤ blendK * Gen.StartingSumOfMaterial + Gen.StartingSumOfMaterial := by
  decide

example : matMax = 900 ∧ maxMaterialSum = 27000 ∧ Gen.StartingSumOfMaterial = 6400 ∧ blendK = 8 := by decide

/-- the generated constant is the starting sum of the non-pawn material of both sides, as in engine/score.go -/
example : Gen.StartingSumOfMaterial = 2 * (Gen.MaterialQueenScore + 2 * Gen.MaterialRookScore +
    2 * Gen.MaterialBishopScore + 2 * Gen.MaterialKnightScore) := by decide

/-- the trivial blend `mid` satisfies the parameter assumption (non-vacuity) -/
theorem blendBounded_mid (B : Nat) : BlendBounded (fun _ m _ => m) B := fun _ _ _ _ h _ =>
  Nat.le_trans h (Nat.le_mul_of_pos_left B one_le_blendK)

/-- the mathematically exact king-table interpolation `f·mid + (1 − f)·end`, `f = msum / StartingSum`, in integer
    arithmetic, truncated toward zero like Go's `int(float64)`. The Go code approximates this in `float64`. -/
def exactBlend (msum : Nat) (mid end_ : Int) : Int :=
  Int.tdiv ((msum : Int) * mid + ((Gen.StartingSumOfMaterial : Int) - (msum : Int)) * end_)
    (Gen.StartingSumOfMaterial : Int)

theorem natAbs_natMul_le (a : Nat) {x : Int} {B : Nat} (h : x.natAbs ≤ B) : ((a : Int) * x).natAbs ≤ a * B := by
  rw [Int.natAbs_mul, Int.natAbs_natCast]
  exact Nat.mul_le_mul_left a h

/-- the numerator of the exact interpolation is bounded by `StartingSum · blendK · B` on `msum ≤ maxMaterialSum`
    (generic in the constants: only `1 ≤ K` and `2·M ≤ K·S + S` are used) -/
theorem exactNum_bound {S M K : Nat} (hK : 1 ≤ K) (hS : 2 * M ≤ K * S + S) {msum : Nat} {mid end_ : Int} {B : Nat}
    (hm : msum ≤ M) (h1 : mid.natAbs ≤ B) (h2 : end_.natAbs ≤ B) :
    ((msum : Int) * mid + ((S : Int) - (msum : Int)) * end_).natAbs ≤ S * (K * B) := by
  refine Nat.le_trans (Int.natAbs_add_le _ _) ?_
  have a1 := natAbs_natMul_le msum h1
  by_cases hle : msum ≤ S
  · obtain ⟨d, rfl⟩ := Nat.exists_eq_add_of_le hle
    have e : ((msum + d : Nat) : Int) - (msum : Int) = (d : Int) := by omega
    rw [e]
    have a2 := natAbs_natMul_le d h2
    have a3 : (msum + d) * B ≤ (msum + d) * (K * B) :=
      Nat.mul_le_mul_left _ (Nat.le_mul_of_pos_left B hK)
    rw [Nat.add_mul] at a3
    omega
  · obtain ⟨d, rfl⟩ := Nat.exists_eq_add_of_le (Nat.le_of_not_le hle)
    have e : (S : Int) - ((S + d : Nat) : Int) = -(d : Int) := by omega
    rw [e, Int.neg_mul, Int.natAbs_neg]
    have a2 := natAbs_natMul_le d h2
    have a3 : (S + d + d) * B ≤ (K * S) * B := by
      apply Nat.mul_le_mul_right
      generalize K * S = KS at *
      omega
    rw [Nat.mul_comm K S, Nat.mul_assoc] at a3
    rw [Nat.add_mul] at a3
    omega

/-- **the exact interpolation satisfies the parameter assumption**, for every bound `B`, including the
    extrapolating range `StartingSum < msum ≤ maxMaterialSum` -/
theorem blendBounded_exact (B : Nat) : BlendBounded exactBlend B := by
  intro msum mid end_ hm h1 h2
  unfold exactBlend
  rw [Int.natAbs_tdiv, Int.natAbs_natCast]
  exact Nat.div_le_of_le_mul (exactNum_bound one_le_blendK blendK_spec hm h1 h2)

/-- the exact interpolation takes the values the Go binary returns on the extrapolating range -/
example : exactBlend 12800 (-50) 50 = -150 ∧ exactBlend 27000 50 (-50) = 371 ∧ exactBlend 6400 50 (-50) = 50 ∧
    exactBlend 0 50 (-50) = -50 ∧ exactBlend 3200 50 (-50) = 0 := by decide

/-- the simpler parameter assumption ("the blend of two values within `B` is within `B`, whatever the
    material sum") is false of the exact interpolation, at the table bound `B = 50`, on material sums a
    well-formed position can have: 12 800 and 27 000 are `≤ maxMaterialSum` -/
theorem old_blend_hypothesis_false_of_exact :
    ¬ (∀ (msum : Nat) (mid end_ : Int), mid.natAbs ≤ 50 → end_.natAbs ≤ 50 →
        (exactBlend msum mid end_).natAbs ≤ 50) := by
  intro h
  have := h 12800 (-50) 50 (by decide) (by decide)
  revert this
  decide

def allPst : List (List Int) :=
  [Gen.sqTableKnightsWhite, Gen.sqTableBishopsWhite, Gen.sqTableRooksWhite, Gen.sqTableQueensWhite,
   Gen.sqTablePawnsWhite, Gen.sqTableKingMidgameWhite, Gen.sqTableKingEndgameWhite,
   Gen.sqTableKnightsBlack, Gen.sqTableBishopsBlack, Gen.sqTableRooksBlack, Gen.sqTableQueensBlack,
   Gen.sqTablePawnsBlack, Gen.sqTableKingMidgameBlack, Gen.sqTableKingEndgameBlack]

def listMaxAbs (l : List Int) : Nat := l.foldl (fun a v => max a v.natAbs) 0

def pstMaxAbs : Nat := allPst.foldl (fun a t => max a (listMaxAbs t)) 0

theorem le_foldl_max {α} (f : α → Nat) (l : List α) : ∀ a : Nat,
    a ≤ l.foldl (fun a x => max a (f x)) a ∧ ∀ x ∈ l, f x ≤ l.foldl (fun a x => max a (f x)) a := by
  induction l with
  | nil => intro a; exact ⟨Nat.le_refl _, nofun⟩
  | cons y ys ih =>
    intro a
    obtain ⟨h1, h2⟩ := ih (max a (f y))
    refine ⟨by simp only [List.foldl_cons]; omega, fun x hx => ?_⟩
    simp only [List.foldl_cons]
    rcases List.mem_cons.1 hx with rfl | hx
    · omega
    · exact h2 x hx

theorem natAbs_le_pstMaxAbs {l : List Int} (hl : l ∈ allPst) {v : Int} (hv : v ∈ l) : v.natAbs ≤ pstMaxAbs :=
  Nat.le_trans ((le_foldl_max Int.natAbs l 0).2 v hv) ((le_foldl_max listMaxAbs allPst 0).2 l hl)

def TableBounded (T : Nat) (t : Array Int) : Prop :=
  ∀ (what : String) (i : Nat) (v : Int), tgetI t what i = .ok v → v.natAbs ≤ T

theorem tb_of_mem {l : List Int} (h : l ∈ allPst) : TableBounded pstMaxAbs l.toArray := by
  intro what i v hv
  unfold tgetI at hv
  split at hv
  · rename_i w hw
    rw [pure_ok] at hv
    subst hv
    rw [List.getElem?_toArray] at hw
    exact natAbs_le_pstMaxAbs h (List.mem_of_getElem? hw)
  · rw [throw_ok] at hv; cases hv

theorem sumM'_le {α} (f : α → M Nat) (C : Nat) (l : List α)
    (hf : ∀ x ∈ l, ∀ n, f x = .ok n → n ≤ C) : ∀ n, sumM' f l = .ok n → n ≤ l.length * C := by
  induction l with
  | nil => intro n h; simp only [sumM', pure_ok] at h; omega
  | cons x xs ih =>
    intro n h
    simp only [sumM', bind_ok, pure_ok] at h
    obtain ⟨a, ha, b, hb, rfl⟩ := h
    have h1 := hf x List.mem_cons_self a ha
    have h2 := ih (fun y hy => hf y (List.mem_cons_of_mem _ hy)) b hb
    rw [List.length_cons, Nat.succ_mul]
    omega

theorem b2n_le (b : Bool) : b2n b ≤ 1 := by cases b <;> simp [b2n]

theorem countPawnMoves_le {p : Position} {frm to pr n : Nat} (h : countPawnMoves p frm to pr = .ok n) : n ≤ 4 := by
  unfold countPawnMoves at h
  simp only [bind_ok] at h
  obtain ⟨ok, _, h⟩ := h
  split at h
  · rw [pure_ok] at h; omega
  · rw [pure_ok] at h; subst h; split <;> omega

/-- one pawn: two capture directions (≤ 4 each: a promotion counts four times) and the pushes (≤ 4 + 1) -/
theorem pawnCount_le {p : Position} {c : Ctx} {frm n : Nat} (h : pawnCount p c frm = .ok n) : n ≤ 13 := by
  rw [Count.pawnCount_eq] at h
  simp only [bind_ok] at h
  obtain ⟨nQ, hnQ, nK, hnK, nP, hnP, h⟩ := h
  rw [pure_ok] at h
  have h1 : nQ ≤ 4 := by
    unfold Count.pawnCntQG at hnQ
    simp only [bind_ok] at hnQ
    obtain ⟨hit, _, hnQ⟩ := hnQ
    split at hnQ
    · exact countPawnMoves_le hnQ
    · rw [pure_ok] at hnQ; omega
  have h2 : nK ≤ 4 := by
    unfold Count.pawnCntKG at hnK
    simp only [bind_ok] at hnK
    obtain ⟨x, _, hnK⟩ := hnK
    split at hnK
    · exact countPawnMoves_le hnK
    · rw [pure_ok] at hnK; omega
  have h3 : nP ≤ 5 := by
    unfold Count.pawnCntPush at hnP
    simp only [bind_ok] at hnP
    obtain ⟨y, _, hnP⟩ := hnP
    split at hnP
    · simp only [bind_ok] at hnP
      obtain ⟨single, hs, dbl, _, hnP⟩ := hnP
      have := countPawnMoves_le hs
      split at hnP
      · simp only [bind_ok, pure_ok] at hnP
        obtain ⟨ok, _, rfl⟩ := hnP
        have := b2n_le ok
        omega
      · rw [pure_ok] at hnP; omega
    · rw [pure_ok] at hnP; omega
  omega

theorem guarded_b2n_le {c : Prop} [Decidable c] {x : M Bool} {n : Nat}
    (h : (if c then do let l ← x; pure (b2n l) else pure 0) = .ok n) : n ≤ 1 := by
  split at h
  · obtain ⟨l, _, h⟩ := bind_ok.1 h
    rw [pure_ok] at h; subst h
    exact b2n_le l
  · rw [pure_ok] at h; omega

/-- the single-step movers (knight, king): at most one move per direction -/
theorem stepCount_le {a b : Nat → M Bool} (dirs : List Nat) {n : Nat}
    (h : sumM' (fun d => do let ok ← a d; if ok then do let l ← b d; pure (b2n l) else pure 0) dirs = .ok n) :
    n ≤ dirs.length := by
  have := sumM'_le _ 1 dirs (fun d _ k hk => by
    obtain ⟨ok, _, hk⟩ := bind_ok.1 hk
    exact guarded_b2n_le hk) n h
  omega

theorem slideDirCount_le (p : Position) (c : Ctx) (frm dir : Nat) :
    ∀ (fuel to n : Nat), slideDirCount p c frm dir fuel to = .ok n → n ≤ fuel := by
  intro fuel
  induction fuel with
  | zero => intro to n h; simp only [slideDirCount, throw_ok] at h
  | succ fuel ih =>
    intro to n h
    unfold slideDirCount at h
    split at h
    · rw [pure_ok] at h; omega
    · simp only [bind_ok] at h
      obtain ⟨x, _, h⟩ := h
      split at h
      · rw [pure_ok] at h; omega
      · simp only [bind_ok] at h
        obtain ⟨l, _, h⟩ := h
        have := b2n_le l
        split at h
        · rw [pure_ok] at h; omega
        · simp only [bind_ok, pure_ok] at h
          obtain ⟨rest, hrest, rfl⟩ := h
          have := ih _ _ hrest
          omega

theorem slide_le {p : Position} {c : Ctx} {frm : Nat} (dirs : List Nat) {n : Nat}
    (h : sumM' (fun d => slideDirCount p c frm d 8 (addb frm d)) dirs = .ok n) : n ≤ dirs.length * 8 :=
  sumM'_le _ 8 dirs (fun d _ k hk => slideDirCount_le p c frm d 8 _ k hk) n h

/-- one piece: a knight ≤ 8, a bishop or rook ≤ 4 rays × 8, a queen ≤ 8 rays × 8 (fuel 8 per ray) -/
theorem pieceCount_le {p : Position} {c : Ctx} {frm n : Nat} (h : pieceCount p c frm = .ok n) : n ≤ 64 := by
  obtain ⟨pc, _, h⟩ := bind_ok.1 h
  rcases Count.pieceSwitch_cases pc frm with e | ⟨dirs, hd, e⟩ | ⟨_, e⟩
  · have := stepCount_le knightDirs ((e _ _ _).symm.trans h)
    have : knightDirs.length = 8 := by decide
    omega
  · have := slide_le dirs ((e _ _ _).symm.trans h)
    have : dirs.length ≤ 8 := by rcases hd with rfl | rfl | rfl <;> decide
    omega
  · cases (e _ _ _).symm.trans h

/-- bound on the number of moves of the side with the lists `s`: 13 per pawn, 64 per piece, 8 king steps,
    2 castlings -/
def sideBound (s : Side) : Nat := 13 * s.pawns.length + 64 * s.pieces.length + 10

def moveBound (p : Position) : Nat := max (sideBound (p.side true)) (sideBound (p.side false))

theorem countMoves_le_side {p : Position} {n : Nat} (h : countMoves p = .ok n) : n ≤ sideBound p.ctx.cur := by
  rw [Count.countMoves_eq] at h
  simp only [bind_ok] at h
  obtain ⟨a, ha, b, hb, k, hk, q, hq, ks, hks, h⟩ := h
  rw [pure_ok] at h
  have h1 := sumM'_le _ 13 _ (fun x _ m hm => pawnCount_le hm) a ha
  have h2 := sumM'_le _ 64 _ (fun x _ m hm => pieceCount_le hm) b hb
  have h3 := stepCount_le kingDirs hk
  have : kingDirs.length = 8 := by decide
  have h4 := guarded_b2n_le hq
  have h5 := guarded_b2n_le hks
  unfold sideBound
  omega

theorem countMoves_le {p : Position} {n : Nat} (h : countMoves p = .ok n) : n ≤ moveBound p := by
  have := countMoves_le_side h
  simp only [MM.ctx_eq, MM.ctxW] at this
  unfold moveBound
  generalize whiteTurn p = w at this
  cases w <;> omega

def maxMoves : Nat := 64 * Gen.pieceCap + 10

theorem moveBound_le {p : Position} (hp : Inv p) : moveBound p ≤ maxMoves := by
  have h1 := hp.wLen
  have h2 := hp.bLen
  unfold moveBound sideBound maxMoves
  simp only [Position.side, if_true, Bool.false_eq_true, if_false, pieceCap] at *
  omega

theorem countMoves_le_max {p : Position} (hp : Inv p) {n : Nat} (h : countMoves p = .ok n) : n ≤ maxMoves :=
  Nat.le_trans (countMoves_le h) (moveBound_le hp)

theorem countMoves_flip_le_max {p : Position} (hp : Inv p) {n : Nat} (h : countMoves (flipTurn p) = .ok n) :
    n ≤ maxMoves :=
  -- `moveBound` takes the maximum over both sides, so it does not see whose turn it is
  Nat.le_trans (show n ≤ moveBound p from countMoves_le (p := flipTurn p) h) (moveBound_le hp)

theorem sumMI_bound {α} (f : α → M Int) (lo hi : Nat) (l : List α)
    (hf : ∀ x ∈ l, ∀ v, f x = .ok v → -(lo : Int) ≤ v ∧ v ≤ (hi : Int)) :
    ∀ s, sumMI f l = .ok s → -((l.length * lo : Nat) : Int) ≤ s ∧ s ≤ ((l.length * hi : Nat) : Int) := by
  induction l with
  | nil => intro s h; simp only [sumMI, pure_ok] at h; subst h; simp
  | cons x xs ih =>
    intro s h
    simp only [sumMI, bind_ok, pure_ok] at h
    obtain ⟨a, ha, b, hb, rfl⟩ := h
    have h1 := hf x List.mem_cons_self a ha
    have h2 := ih (fun y hy => hf y (List.mem_cons_of_mem _ hy)) b hb
    rw [List.length_cons, Nat.succ_mul, Nat.succ_mul]
    omega

theorem manTerm_bound {M T m : Nat} {t : Array Int} (hm : m ≤ M) (ht : TableBounded T t) {what : String}
    {sq : Nat} {v : Int} (hv : (do let x ← tgetI t what sq; pure ((m : Int) + x)) = .ok v) :
    -(T : Int) ≤ v ∧ v ≤ ((M + T : Nat) : Int) := by
  simp only [bind_ok, pure_ok] at hv
  obtain ⟨x, hx, rfl⟩ := hv
  have := ht _ _ _ hx
  omega

theorem sidePst_bound {M T : Nat} (hM : Gen.MaterialPawnScore ≤ M ∧ Gen.MaterialKnightScore ≤ M ∧
      Gen.MaterialBishopScore ≤ M ∧ Gen.MaterialRookScore ≤ M ∧ Gen.MaterialQueenScore ≤ M)
    {board : Array Nat} {s : Side} {tN tB tR tQ tP : Array Int}
    (hN : TableBounded T tN) (hB : TableBounded T tB) (hR : TableBounded T tR) (hQ : TableBounded T tQ)
    (hP : TableBounded T tP) {w : Int} (h : sidePst board s tN tB tR tQ tP = .ok w) :
    -(((s.pieces.length + s.pawns.length) * T : Nat) : Int) ≤ w ∧
    w ≤ (((s.pieces.length + s.pawns.length) * (M + T) : Nat) : Int) := by
  unfold sidePst at h
  simp only [bind_ok, pure_ok] at h
  obtain ⟨a, ha, b, hb, rfl⟩ := h
  obtain ⟨m1, m2, m3, m4, m5⟩ := hM
  have h1 := sumMI_bound _ T (M + T) _ (fun sq _ v hv => ?_) a ha
  have h2 := sumMI_bound _ T (M + T) _ (fun sq _ v hv => manTerm_bound m1 hP hv) b hb
  · rw [Nat.add_mul, Nat.add_mul]
    omega
  · simp only [bind_ok] at hv
    obtain ⟨pc, _, hv⟩ := hv
    split at hv
    · exact manTerm_bound m2 hN hv
    · split at hv
      · exact manTerm_bound m3 hB hv
      · split at hv
        · exact manTerm_bound m4 hR hv
        · split at hv
          · exact manTerm_bound m5 hQ hv
          · rw [pure_ok] at hv
            omega

theorem nonPawnMaterial_le_length {board : Array Nat} {pieces : List Nat} {m : Nat}
    (h : nonPawnMaterial board pieces = .ok m) : m ≤ pieces.length * matMax := by
  unfold nonPawnMaterial at h
  refine sumM'_le _ matMax pieces (fun s _ n hn => ?_) m h
  simp only [bind_ok, pure_ok] at hn
  obtain ⟨pc, _, rfl⟩ := hn
  obtain ⟨_, m2, m3, m4, m5⟩ := mat_le
  unfold materialOf
  repeat' split
  all_goals omega

theorem materialSum_le {p : Position} (hp : Inv p) {wm bm : Nat}
    (hw : nonPawnMaterial p.board p.whitePieces = .ok wm) (hb : nonPawnMaterial p.board p.blackPieces = .ok bm) :
    wm + bm ≤ maxMaterialSum := by
  have l1 := hp.wLen
  have l2 := hp.bLen
  simp only [pieceCap] at l1 l2
  have h1 := Nat.le_trans (nonPawnMaterial_le_length hw)
    (Nat.mul_le_mul_right matMax (show p.whitePieces.length ≤ Gen.pieceCap by omega))
  have h2 := Nat.le_trans (nonPawnMaterial_le_length hb)
    (Nat.mul_le_mul_right matMax (show p.blackPieces.length ≤ Gen.pieceCap by omega))
  rw [maxMaterialSum]
  rw [Nat.mul_assoc]
  omega

/-- bound of the piece-square score: one side at most `cap` men worth `matMax + T` each, the other side at
    least `−T` each, and two blended king-table values, each within `blendK · T` -/
def psB : Nat := Gen.pieceCap * (matMax + pstMaxAbs) + Gen.pieceCap * pstMaxAbs + 2 * (blendK * pstMaxAbs)

/-- the arithmetic of the piece-square bound, for arbitrary numbers: two sides of at most `cap` men, each man worth
    between `−T` and `M + T`, and two king terms within `KB` -/
theorem psScore_arith {cap M T KB nw nb : Nat} {w b kw kb : Int} (hnw : nw ≤ cap) (hnb : nb ≤ cap)
    (hw : -((nw * T : Nat) : Int) ≤ w ∧ w ≤ ((nw * (M + T) : Nat) : Int))
    (hb : -((nb * T : Nat) : Int) ≤ b ∧ b ≤ ((nb * (M + T) : Nat) : Int))
    (k1 : kw.natAbs ≤ KB) (k2 : kb.natAbs ≤ KB) :
    ((w + kw) - (b + kb)).natAbs ≤ cap * (M + T) + cap * T + 2 * KB := by
  have e1 := Nat.mul_le_mul_right T hnw
  have e2 := Nat.mul_le_mul_right (M + T) hnw
  have e3 := Nat.mul_le_mul_right T hnb
  have e4 := Nat.mul_le_mul_right (M + T) hnb
  omega

theorem pieceSquareScore_bound {blend : Blend} {p : Position} (hp : Inv p)
    (hb : BlendBounded blend pstMaxAbs) {c : Int} (h : pieceSquareScore blend p = .ok c) : c.natAbs ≤ psB := by
  unfold pieceSquareScore at h
  simp only [bind_ok, pure_ok] at h
  obtain ⟨wm, hwm, bm, hbm, w, hw, wkm, hwkm, wke, hwke, b, hbk, bkm, hbkm, bke, hbke, h⟩ := h
  have hms := materialSum_le hp hwm hbm
  -- the tables by their position in `allPst`
  have tb : ∀ (i : Nat) {l : List Int}, allPst[i]? = some l → TableBounded pstMaxAbs l.toArray :=
    fun _ _ h => tb_of_mem (List.mem_of_getElem? h)
  have hw' := sidePst_bound mat_le (tb 0 rfl) (tb 1 rfl) (tb 2 rfl) (tb 3 rfl) (tb 4 rfl) hw
  have hb' := sidePst_bound mat_le (tb 7 rfl) (tb 8 rfl) (tb 9 rfl) (tb 10 rfl) (tb 11 rfl) hbk
  have k1 := hb (wm + bm) wkm wke hms (tb 5 rfl _ _ _ hwkm) (tb 6 rfl _ _ _ hwke)
  have k2 := hb (wm + bm) bkm bke hms (tb 12 rfl _ _ _ hbkm) (tb 13 rfl _ _ _ hbke)
  have l1 := hp.wLen
  have l2 := hp.bLen
  simp only [pieceCap] at l1 l2
  simp only [Position.side, if_true, Bool.false_eq_true, if_false] at hw' hb'
  have key := psScore_arith (show p.whitePieces.length + p.whitePawns.length ≤ Gen.pieceCap by omega)
    (show p.blackPieces.length + p.blackPawns.length ≤ Gen.pieceCap by omega) hw' hb' k1 k2
  rw [psB]
  split at h
  · rw [← h]; exact key
  · rw [← h, Int.natAbs_neg]; exact key

def mobB : Nat := maxMoves * Gen.MobilityScoreFactor

/-- **the evaluation bound**: computed from the generated constants and tables only -/
def evalB : Nat := psB + mobB

/-- `evalB` unfolded: 15·(900 + 50) + 15·50 + 2·(8·50) + (64·15 + 10)·5 = 20 650 on the current constants -/
theorem evalB_eq : evalB = Gen.pieceCap * (matMax + pstMaxAbs) + Gen.pieceCap * pstMaxAbs +
    2 * (blendK * pstMaxAbs) +
    (64 * Gen.pieceCap + 10) * Gen.MobilityScoreFactor := by
  rw [evalB, psB, mobB, maxMoves]

/-- the value of the bound on the current constants and tables (the one kernel evaluation of the tables) -/
theorem evalB_val : evalB = 20650 := by decide +kernel

theorem evalB_lt : evalB < Gen.ScoreCloseToMate := by rw [evalB_val]; decide

theorem closeToMate_lt : (Gen.ScoreCloseToMate : Int) < -Gen.LostScore - 200 := by decide

theorem psB_le : psB ≤ evalB := by rw [evalB]; exact Nat.le_add_right _ _

theorem lazyEvaluate_bound {blend : Blend} {p : Position} (hp : Inv p) (hb : BlendBounded blend pstMaxAbs)
    {d α β x : Int} (h : lazyEvaluate blend p d α β = .ok x) :
    (isCheckMate p = .ok true ∧ x = Gen.LostScore + d) ∨ (isCheckMate p = .ok false ∧ x.natAbs ≤ evalB) := by
  obtain ⟨mate, hmate, h⟩ := lazyEvaluate_ok.1 h
  rcases h with ⟨rfl, rfl⟩ | ⟨hm, cheap, hc, h⟩
  · exact .inl ⟨hmate, rfl⟩
  · obtain rfl : mate = false := by simpa using hm
    refine .inr ⟨hmate, ?_⟩
    have hcb := pieceSquareScore_bound hp hb hc
    rcases h with ⟨-, rfl⟩ | ⟨-, own, hown, ⟨-, rfl⟩ | ⟨-, enemy, hen, rfl⟩⟩
    · exact Nat.le_trans hcb psB_le
    · simp [Gen.DrawScore]
    · have h1 := Nat.mul_le_mul_right Gen.MobilityScoreFactor (countMoves_le_max hp hown)
      have h2 := Nat.mul_le_mul_right Gen.MobilityScoreFactor (countMoves_flip_le_max hp hen)
      rw [evalB, mobB]
      omega

/-- C05's evaluation bound: on a well-formed position, with a blend satisfying `BlendBounded`, the piece-square
    score, the lazy evaluation (any window) and the full evaluation are bounded by `evalB`, except for the exact
    mate score of a checkmate -/
theorem eval_bound {blend : Blend} {p : Position} (hp : Inv p) (hb : BlendBounded blend pstMaxAbs) :
    (∀ c, pieceSquareScore blend p = .ok c → c.natAbs ≤ evalB) ∧
    (∀ (d α β x : Int), lazyEvaluate blend p d α β = .ok x → x = Gen.LostScore + d ∨ x.natAbs ≤ evalB) ∧
    (∀ (d x : Int), evaluate blend p d = .ok x → x = Gen.LostScore + d ∨ x.natAbs ≤ evalB) := by
  have hlazy : ∀ (d α β x : Int), lazyEvaluate blend p d α β = .ok x → x = Gen.LostScore + d ∨ x.natAbs ≤ evalB :=
    fun _ _ _ _ h => (lazyEvaluate_bound hp hb h).imp And.right And.right
  -- the full evaluation is the lazy one at the infinite window
  exact ⟨fun c hc => Nat.le_trans (pieceSquareScore_bound hp hb hc) psB_le, hlazy, fun d x h => hlazy d _ _ x h⟩

theorem evaluate_class {blend : Blend} {p : Position} (hp : Inv p) (hb : BlendBounded blend pstMaxAbs)
    {d x : Int} (h : evaluate blend p d = .ok x) :
    (isCheckMate p = .ok true ∧ x = Gen.LostScore + d) ∨ (isCheckMate p = .ok false ∧ x.natAbs ≤ evalB) :=
  lazyEvaluate_bound hp hb h

theorem terminalNodeScore_cases {p : Position} {d x : Int} (h : terminalNodeScore p d = .ok x) :
    (isCurrentKingUnderCheck p = .ok true ∧ x = Gen.LostScore + d) ∨
    (isCurrentKingUnderCheck p = .ok false ∧ x = Gen.DrawScore) := by
  unfold terminalNodeScore at h
  simp only [bind_ok, pure_ok] at h
  obtain ⟨chk, hchk, rfl⟩ := h
  cases chk
  · exact .inr ⟨hchk, by simp⟩
  · exact .inl ⟨hchk, by simp⟩

theorem evalRange_of_class {blend : Blend} {G : Position → Prop}
    (hev : ∀ p, G p → ∀ (d x : Int), evaluate blend p d = .ok x →
      (isCheckMate p = .ok true ∧ x = Gen.LostScore + d) ∨ (isCheckMate p = .ok false ∧ x.natAbs ≤ evalB))
    (D : Nat) (hD : Gen.LostScore + (D : Int) ≤ -(evalB : Int)) : EvalRange blend G D := by
  intro p hp d hd hdD
  unfold AlphaBeta.InRange
  constructor
  · intro x hx
    rcases hev p hp d x hx with ⟨_, h⟩ | ⟨_, h⟩ <;> omega
  · intro x hx
    rcases terminalNodeScore_cases hx with ⟨_, h⟩ | ⟨_, h⟩
    · omega
    · simp only [Gen.DrawScore] at h
      omega

/-- the evaluation bound discharges the hypothesis `EvalRange` of C04's root theorems on every set of
    well-formed positions, for all depths `D` with `Gen.LostScore + D ≤ −evalB` -/
theorem evalRange_of_inv {blend : Blend} {G : Position → Prop} (hG : ∀ p, G p → Inv p)
    (hb : BlendBounded blend pstMaxAbs) (D : Nat) (hD : Gen.LostScore + (D : Int) ≤ -(evalB : Int)) :
    EvalRange blend G D :=
  evalRange_of_class (fun p hp _ _ h => evaluate_class (hG p hp) hb h) D hD

/-- the largest admissible depth bound on the current constants is `−Lost − evalB`; 10000 is far inside -/
theorem depth_10000_ok : Gen.LostScore + ((10000 : Nat) : Int) ≤ -(evalB : Int) := by rw [evalB_val]; decide

end Magog.Lemmas.EvalBound
