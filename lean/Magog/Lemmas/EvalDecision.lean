import Magog.Model.Eval

/-! The decision structure of `Model.lazyEvaluate` as a plain function of its four sub-results (no wrap-around),
    and the lemma that the model computes it; independent of the translated code, so that the tie diagnosis (`tools/tiehunt.py`) can evaluate it when `C05Tie`
    does not build. -/

namespace Magog.Lemmas
open Magog

def lazyDecision (depth alpha beta : Int) (mate : Bool) (cheap : Int) (own enemy : Nat) : Int :=
  if mate then Gen.LostScore + depth
  else if cheap > beta + Gen.fullEvalScoreMargin || cheap < alpha - Gen.fullEvalScoreMargin then cheap
  else if own * Gen.MobilityScoreFactor == 0 then Gen.DrawScore
  else cheap + (own * Gen.MobilityScoreFactor : Nat) - (enemy * Gen.MobilityScoreFactor : Nat)

theorem lazyEvaluate_decision {blend : Model.Blend} {p : Model.Position} {depth alpha beta : Int}
    {mate : Bool} {cheap : Int} {own enemy : Nat}
    (h1 : Model.isCheckMate p = .ok mate)
    (h2 : mate = false → Model.pieceSquareScore blend p = .ok cheap)
    (h3 : mate = false → Model.countMoves p = .ok own)
    (h4 : mate = false → Model.countMoves (Model.flipTurn p) = .ok enemy) :
    Model.lazyEvaluate blend p depth alpha beta = .ok (lazyDecision depth alpha beta mate cheap own enemy) := by
  unfold Model.lazyEvaluate lazyDecision
  simp only [h1, bind, Except.bind, pure, Except.pure]
  cases mate with
  | true => rfl
  | false =>
    simp only [h2 rfl, h3 rfl, h4 rfl, Bool.false_eq_true, ↓reduceIte]
    split
    · rfl
    · split <;> rfl

end Magog.Lemmas
