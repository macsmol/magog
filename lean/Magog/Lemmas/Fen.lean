import Magog.Lemmas.FenInvariant
import Magog.Lemmas.InvFen
import Magog.Spec.MakeMove
import Magog.Lemmas.MBasic

/-! Property C08: the FEN loader never panics, it accepts exactly when every one of its tests passes
    (`parseFen_iff`, `Accepts`), and what it accepts satisfies `FenInv` / `FenLists` and has the side not to move
    out of check, `MM.OppSafe` (`sound_of_accepts`). -/

namespace Magog.FenLemmas
open Magog Magog.Model Magog.FenSpec Magog.Atk

theorem getElem?_of_getD {b : Array Nat} {i v : Nat} (h : b.getD i 0 = v) (hv : v ≠ 0) : b[i]? = some v := by
  rw [Array.getD_eq_getD_getElem?] at h
  cases hb : b[i]? with
  | none => rw [hb] at h; exact absurd h.symm hv
  | some w => rw [hb] at h; simpa using h

theorem isValid_iff : ∀ i < 128, isValid i = decide (i % 16 < 8) := by decide
theorem rankOf_eq : ∀ i < 128, rankOf i = i / 16 * 16 := by decide

theorem epConsistent_eq (p : Position) (hs : p.board.size = 128) (h1 : 16 ≤ p.ep) (h2 : p.ep < 112) :
    epConsistent p = .ok (if whiteTurn p then
        rankOf p.ep == Gen.Rank6 && p.board.getD p.ep 0 == 0 && p.board.getD (p.ep - 16) 0 == Gen.BPawn &&
          p.board.getD (p.ep + 16) 0 == 0
      else rankOf p.ep == Gen.Rank3 && p.board.getD p.ep 0 == 0 && p.board.getD (p.ep + 16) 0 == Gen.WPawn &&
          p.board.getD (p.ep - 16) 0 == 0) := by
  unfold epConsistent
  simp only [Gen.UnitRank]
  rw [show (p.ep + 256 - 16) % 256 = p.ep - 16 by omega, show (p.ep + 16) % 256 = p.ep + 16 by omega,
    bget_ok_iff.2 (some_getD (by omega) 0), bget_ok_iff.2 (some_getD (by omega) 0),
    bget_ok_iff.2 (some_getD (by omega) 0)]
  cases whiteTurn p <;> rfl

/-- `EpOk` asks that the square's file be on the board: it is, because the pawn in front of it is (`hreg`) -/
theorem epConsistent_iff (p : Position) (hs : p.board.size = 128) (h1 : 16 ≤ p.ep) (h2 : p.ep < 112)
    (hreg : ∀ i, p.board.getD i 0 ≠ 0 → i < 128 ∧ i % 16 < 8) : epConsistent p = .ok true ↔ EpOk p := by
  have hlt : p.ep < 128 := by omega
  have g : ∀ {i v}, i < 128 → (p.board[i]? = some v ↔ p.board.getD i 0 = v) := fun h => getElem?_iff_getD (by omega)
  have front : ∀ i v, p.board.getD i 0 = v → v ≠ 0 → (i + 16 = p.ep ∨ i = p.ep + 16) → p.ep % 16 < 8 :=
    fun i v hv h0 hi => by have := (hreg i (hv ▸ h0)).2; omega
  rw [epConsistent_eq p hs h1 h2, Except.ok.injEq]
  unfold EpOk
  simp only [Gen.UnitRank, g hlt, g (show p.ep - 16 < 128 by omega), g (show p.ep + 16 < 128 by omega),
    isValid_iff _ hlt, rankOf_eq _ hlt]
  cases whiteTurn p
  all_goals
    simp only [Bool.false_eq_true, if_false, if_true, Bool.and_eq_true, beq_iff_eq, decide_eq_true_eq, Gen.Rank3,
      Gen.Rank6]
    exact ⟨fun ⟨⟨⟨a, b⟩, c⟩, d⟩ => ⟨hlt, front _ _ c (by decide) (by omega), b, a, c, d⟩,
      fun ⟨_, _, b, a, c, d⟩ => ⟨⟨⟨a, b⟩, c⟩, d⟩⟩

theorem countKings_pos {b : Array Nat} {k : Nat} (h : countKings b k = 1) : ∃ i, b.getD i 0 = k := by
  unfold countKings at h
  have hne : b.toList.filter (· == k) ≠ [] := by
    intro e; rw [e] at h; cases h
  obtain ⟨x, hx⟩ := List.exists_mem_of_ne_nil _ hne
  rw [List.mem_filter] at hx
  obtain ⟨hm, hk⟩ := hx
  simp only [beq_iff_eq] at hk
  subst hk
  rw [Array.mem_toList_iff, Array.mem_iff_getElem] at hm
  obtain ⟨i, hi, e⟩ := hm
  exact ⟨i, by simp [Array.getD_eq_getD_getElem?, hi, e]⟩

theorem listSound_of {b : Array Nat} {l codes : List Nat}
    (hreg : ∀ i, b.getD i 0 ≠ 0 → i < 128 ∧ i % 16 < 8) (h0 : (0 : Nat) ∉ codes)
    (hl : ∀ i, i ∈ l → b.getD i 0 ∈ codes) : ListSound b l codes := by
  intro sq hsq
  have hm := hl sq hsq
  have hne : b.getD sq 0 ≠ 0 := fun e => h0 (e ▸ hm)
  obtain ⟨h1, h2⟩ := hreg sq hne
  refine ⟨h1, ?_, _, hm, getElem?_of_getD rfl hne⟩
  rw [isValid_iff _ h1]; simpa using h2

theorem listComplete_of {b : Array Nat} {l codes : List Nat}
    (hl : ∀ i, b.getD i 0 ∈ codes → i ∈ l) : ListComplete b l codes := by
  intro sq pc h hm
  apply hl
  rw [getD_of_some h]; exact hm

theorem side_final {b : Array Nat} {sd : Side} {w : Bool} (h : SidePInv b sd w)
    (hreg : ∀ i, b.getD i 0 ≠ 0 → i < 128 ∧ i % 16 < 8) (hk : countKings b (kingOf w) = 1) :
    ListSound b sd.pawns [pawnOf w] ∧ ListComplete b sd.pawns [pawnOf w] ∧
    ListSound b sd.pieces (officersOf w) ∧ ListComplete b sd.pieces (officersOf w) ∧
    b[sd.king]? = some (kingOf w) ∧ sd.king < 128 ∧ isValid sd.king = true := by
  obtain ⟨z1, z2, z3, _⟩ := class_facts w
  have hK := h.king (countKings_pos hk)
  have hKv := hreg _ (by rw [hK]; exact z2)
  refine ⟨listSound_of hreg (by simpa using z1.symm) (fun i hi => by simpa using (h.pawns i).1 hi),
    listComplete_of (fun i hi => (h.pawns i).2 (by simpa using hi)),
    listSound_of hreg z3 (fun i hi => (h.pieces i).1 hi), listComplete_of (fun i hi => (h.pieces i).2 hi),
    getElem?_of_getD hK z2, hKv.1, ?_⟩
  rw [isValid_iff _ hKv.1]; simpa using hKv.2

theorem finalInv (p0 : Position) (flags ep : Nat) (ply : Int) (h : PInv 0 0 p0)
    (hwk : countKings p0.board Gen.WKing = 1) (hbk : countKings p0.board Gen.BKing = 1)
    (hep : ep = InvalidSq ∨ EpOk { p0 with flags := flags, ep := ep })
    (hcast : castlingConsistent { p0 with flags := flags, ep := ep } = true)
    (hply1 : 0 ≤ ply) (hply2 : ply ≤ 2 * (Gen.maxFullMoveCounter : Int))
    (hpar : ply % 2 = if flags &&& FWhiteTurn != 0 then 0 else 1) :
    FenInv { p0 with flags := flags, ep := ep, ply := ply } ∧
    FenLists { p0 with flags := flags, ep := ep, ply := ply } := by
  have hreg : ∀ i, p0.board.getD i 0 ≠ 0 → i < 128 ∧ i % 16 < 8 := fun i hi => by
    have := h.region i hi; omega
  have hW := h.side true
  have hB := h.side false
  obtain ⟨ws1, wc1, ws2, wc2, wk1, wk2, wk3⟩ := side_final hW hreg hwk
  obtain ⟨bs1, bc1, bs2, bc2, bk1, bk2, bk3⟩ := side_final hB hreg hbk
  constructor
  · exact
      { size := h.size, wpLen := hW.pawnsLen, bpLen := hB.pawnsLen
        wpcLen := Nat.le_trans (Nat.le_add_left _ _) hW.len, bpcLen := Nat.le_trans (Nat.le_add_left _ _) hB.len
        wLen := hW.len, bLen := hB.len, wpSound := ws1, bpSound := bs1, wpcSound := ws2, bpcSound := bs2
        wKing := wk1, bKing := bk1, wKingValid := ⟨wk2, wk3⟩, bKingValid := ⟨bk2, bk3⟩, wKing1 := hwk, bKing1 := hbk
        noBackPawn := fun i hi => by
          have hp : p0.board.getD i 0 = Gen.WPawn ∨ p0.board.getD i 0 = Gen.BPawn := hi.imp getD_of_some getD_of_some
          have hb := h.backPawn i hp
          have hlt : i < 128 := (hreg i (by rcases hp with e | e <;> rw [e] <;> decide)).1
          rw [rankOf_eq _ hlt]; simp only [Gen.Rank1, Gen.Rank8]; omega
        offBoard := fun i hi hv => by
          rw [getElem?_iff_getD (d := 0) (by rw [h.size]; exact hi)]
          rw [isValid_iff _ hi] at hv
          simp only [decide_eq_false_iff_not] at hv
          exact Decidable.byContradiction fun e => hv (hreg i e).2
        castling := hcast, ep := hep, plyRange := ⟨hply1, hply2⟩, plyParity := hpar }
  · exact
      { wpComplete := wc1, bpComplete := bc1, wpcComplete := wc2, bpcComplete := bc2
        wpNodup := hW.pawnsN, bpNodup := hB.pawnsN, wpcNodup := hW.piecesN, bpcNodup := hB.piecesN
        codes := fun i v hv => by
          have hc := h.codes i
          rw [getD_of_some hv] at hc
          have : ∀ v ∈ 0 :: pieceCodes, v = 0 ∨ v = Gen.WKing ∨ v = Gen.BKing ∨ v = Gen.WPawn ∨ v = Gen.BPawn ∨
              v ∈ whitePieceCodes ∨ v ∈ blackPieceCodes := by decide
          exact this v (List.mem_cons.2 hc) }

/-- flags, en-passant square and ply play no role in the conclusion: `finalInv` is taken at dummy values -/
theorem placed_sides (p0 : Position) (h : PInv 0 0 p0)
    (hwk : countKings p0.board Gen.WKing = 1) (hbk : countKings p0.board Gen.BKing = 1) :
    Atk.BoardOk p0.board ∧ ∀ w, Atk.SideOk p0.board (p0.side w) w := by
  have hc : castlingConsistent { p0 with flags := 0, ep := InvalidSq } = true := by
    simp [castlingConsistent]
  have hF := finalInv p0 0 InvalidSq 1 h hwk hbk (Or.inl rfl) hc (by decide)
    (by simp only [Gen.maxFullMoveCounter]; decide) (by decide)
  have hI := inv_of_fen hF.1 hF.2 (show (0 : Nat) < 32 by decide)
  exact ⟨hI.board, fun w => by cases w; exact hI.black; exact hI.white⟩

/-- the loader's "side not to move in check" test (`isOpponentKingUnderCheck`) returns normally -/
def CheckRuns (p : Position) : Prop :=
  ∃ b, isUnderCheck p.board (p.side (whiteTurn p)) (p.side (!whiteTurn p)).king = .ok b

/-- the test never panics: at that point the lists and the board agree (`placed_sides`), so every index
    `isUnderCheck` forms is in range -/
theorem oppCheck_total (p0 : Position) (flags ep : Nat) (h : PInv 0 0 p0)
    (hwk : countKings p0.board Gen.WKing = 1) (hbk : countKings p0.board Gen.BKing = 1) :
    CheckRuns { p0 with flags := flags, ep := ep } :=
  have ⟨hb, hs⟩ := placed_sides p0 h hwk hbk
  ⟨_, oppCheck_eq { p0 with flags := flags, ep := ep } hb hs⟩

/-! ### `parseFen` cut into stages (definitionally the same function) -/

def tailPly (fields : List Bytes) (p : Position) (flags : Nat) : M (Except FenError Position) :=
  match atoi (fields.getD 5 []) with
  | none => pure (.error .fullmove)
  | some n =>
    if n < 1 then pure (.error .fullmoveRange) else
    if n > Gen.maxFullMoveCounter then pure (.error (.invalid "full move counter too large")) else
    let ply := wrap16 ((n - 1) * 2)
    let ply := if flags &&& FWhiteTurn == 0 then wrap16 (ply + 1) else ply
    pure (.ok { p with ply })

def tailCheck (fields : List Bytes) (p : Position) (flags : Nat) : M (Except FenError Position) := do
  let oppInCheck ← isUnderCheck p.board (p.side (whiteTurn p)) (p.side (!whiteTurn p)).king
  if oppInCheck then pure (.error (.invalid "side not to move in check")) else
  tailPly fields p flags

def tailEp (fields : List Bytes) (p0 : Position) (flags : Nat) (epRes : Except FenError Nat) :
    M (Except FenError Position) :=
  match epRes with
  | .error e => pure (.error e)
  | .ok ep => do
    let p := { p0 with flags, ep }
    let epOk ← if ep == InvalidSq then pure true else epConsistent p
    if !epOk then pure (.error (.invalid "en passant")) else
    if !castlingConsistent p then pure (.error (.invalid "castling")) else
    tailCheck fields p flags

def epParse (eps : Bytes) : Except FenError Nat :=
  match eps with
  | [fc, rc] =>
    if fc < 97 || fc > 104 || (rc != 51 && rc != 54) then .error .ep
    else .ok ((fc - 97) + (((rc - 49) <<< 4) % 256))
  | _ => .ok InvalidSq

def flagsOf (fields : List Bytes) : Nat :=
  let turn := fields.getD 1 []
  let flags := if turn == [119] then FWhiteTurn else 0
  let cs := fields.getD 2 []
  let flags := if containsByte cs 75 then flags ||| FWK else flags
  let flags := if containsByte cs 81 then flags ||| FWQ else flags
  let flags := if containsByte cs 107 then flags ||| FBK else flags
  let flags := if containsByte cs 113 then flags ||| FBQ else flags
  flags

def tailKings (fields : List Bytes) (p : Position) : M (Except FenError Position) :=
  if countKings p.board Gen.WKing != 1 || countKings p.board Gen.BKing != 1 then pure (.error (.invalid "kings")) else
  let turn := fields.getD 1 []
  if turn != [119] && turn != [98] then pure (.error .side) else
  if (fields.getD 3 []).length > 2 then pure (.error .ep) else
  tailEp fields p (flagsOf fields) (epParse (fields.getD 3 []))

theorem parseFen_eq (s : Bytes) : parseFen s =
    if s.any (· > 127) then pure (.error .nonAscii) else
    if (splitOn 32 s).length != 6 then pure (.error .fields) else
    if (splitOn 47 ((splitOn 32 s).getD 0 [])).length != 8 then pure (.error .ranks) else
    fenRanks (splitOn 47 ((splitOn 32 s).getD 0 [])) 0 emptyPosition >>= fun r =>
      match r with
      | .error e => pure (.error e)
      | .ok p => tailKings (splitOn 32 s) p := rfl

theorem reject_iff {e : FenError} {A : Position → Prop} (hA : ∀ q, ¬ A q) :
    ∃ r, (pure (Except.error e) : M (Except FenError Position)) = .ok r ∧ ∀ q, r = .ok q ↔ A q :=
  ⟨.error e, rfl, fun q => ⟨fun h => (nomatch h), fun h => absurd h (hA q)⟩⟩

/-- one test of the loader: it contributes the negation of its guard as a conjunct -/
theorem guard_iff {c G : Prop} [Decidable c] {e : FenError} {k : M (Except FenError Position)} {A : Position → Prop}
    (hc : ¬ c ↔ G) (hk : G → ∃ r, k = .ok r ∧ ∀ q, r = .ok q ↔ A q) :
    ∃ r, (if c then pure (.error e) else k) = .ok r ∧ ∀ q, r = .ok q ↔ G ∧ A q := by
  split
  · next h => exact reject_iff fun q hq => hc.2 hq.1 h
  · next h =>
    obtain ⟨r, hr, hq⟩ := hk (hc.1 h)
    exact ⟨r, hr, fun q => (hq q).trans ⟨fun h' => ⟨hc.1 h, h'⟩, fun h' => h'.2⟩⟩

theorem epParse_ok_iff (eps : Bytes) (ep : Nat) : epParse eps = .ok ep ↔
    (eps.length ≠ 2 ∧ ep = InvalidSq) ∨
    ∃ fc rc, eps = [fc, rc] ∧ 97 ≤ fc ∧ fc ≤ 104 ∧ (rc = 51 ∨ rc = 54) ∧ ep = fc - 97 + (rc - 49) * 16 := by
  unfold epParse
  split
  · next fc rc =>
    have hsh : ∀ rc, rc = 51 ∨ rc = 54 → ((rc - 49) <<< 4) % 256 = (rc - 49) * 16 := by
      rintro _ (rfl | rfl) <;> rfl
    by_cases hc : 97 ≤ fc ∧ fc ≤ 104 ∧ (rc = 51 ∨ rc = 54)
    · rw [if_neg (by simp; omega), Except.ok.injEq, hsh rc hc.2.2]
      exact ⟨fun e => Or.inr ⟨fc, rc, rfl, hc.1, hc.2.1, hc.2.2, e.symm⟩, fun h => by
        rcases h with ⟨h, _⟩ | ⟨_, _, e, _, _, _, h⟩
        · exact absurd rfl h
        · obtain ⟨rfl, rfl⟩ : fc = _ ∧ rc = _ := by simpa using e
          exact h.symm⟩
    · rw [if_pos (by simp; omega)]
      exact ⟨fun h => (nomatch h), fun h => by
        rcases h with ⟨h, _⟩ | ⟨_, _, e, h1, h2, h3, _⟩
        · exact absurd rfl h
        · obtain ⟨rfl, rfl⟩ : fc = _ ∧ rc = _ := by simpa using e
          exact absurd ⟨h1, h2, h3⟩ hc⟩
  · next hne =>
    rw [Except.ok.injEq]
    exact ⟨fun e => Or.inl ⟨fun hl => by
        match eps, hl with
        | [a, b], _ => exact hne a b rfl, e.symm⟩,
      fun h => by
        rcases h with ⟨_, h⟩ | ⟨fc, rc, e, _⟩
        · exact h.symm
        · exact absurd e (hne fc rc)⟩

def PlyOk (fields : List Bytes) (p : Position) (flags : Nat) (q : Position) : Prop :=
  ∃ n : Int, atoi (fields.getD 5 []) = some n ∧ 1 ≤ n ∧ n ≤ (Gen.maxFullMoveCounter : Int) ∧
    q = { p with ply := 2 * (n - 1) + if flags &&& FWhiteTurn = 0 then 1 else 0 }

theorem tailPly_spec (fields : List Bytes) (p : Position) (flags : Nat) :
    ∃ r, tailPly fields p flags = .ok r ∧ ∀ q, r = .ok q ↔ PlyOk fields p flags q := by
  unfold tailPly PlyOk
  split
  · next hn => exact reject_iff fun q ⟨n, h, _⟩ => by rw [hn] at h; cases h
  · next n hn =>
    -- under `hn` the `∃` of `PlyOk` is at `n`
    have hex : ∀ (A : Int → Prop), (∃ m, atoi (fields.getD 5 []) = some m ∧ A m) ↔ A n := fun A =>
      ⟨fun ⟨m, h, ha⟩ => Option.some.inj (hn.symm.trans h) ▸ ha, fun ha => ⟨n, hn, ha⟩⟩
    simp only [hex]
    refine guard_iff (by omega) fun h1 => guard_iff (by omega) fun h2 => ⟨_, rfl, fun q => ?_⟩
    -- no int16 wrap: `n ≤ maxFullMoveCounter`
    simp only [Gen.maxFullMoveCounter] at h2
    have e1 : wrap16 ((n - 1) * 2) = (n - 1) * 2 := by unfold wrap16; omega
    have e2 : wrap16 ((n - 1) * 2 + 1) = (n - 1) * 2 + 1 := by unfold wrap16; omega
    rw [Except.ok.injEq, eq_comm, e1]
    by_cases hw : flags &&& FWhiteTurn = 0
    · rw [if_pos (by simpa using hw), if_pos hw, e2, show (n - 1) * 2 + 1 = 2 * (n - 1) + 1 by omega]
    · rw [if_neg (by simpa using hw), if_neg hw, show (n - 1) * 2 = 2 * (n - 1) + 0 by omega]

theorem tailCheck_spec (fields : List Bytes) (p : Position) (flags : Nat) (ht : CheckRuns p) :
    ∃ r, tailCheck fields p flags = .ok r ∧ ∀ q, r = .ok q ↔ MM.OppSafe p ∧ PlyOk fields p flags q := by
  obtain ⟨b, hb⟩ := ht
  unfold tailCheck
  rw [bind_ok' _ hb]
  exact guard_iff (by rw [MM.OppSafe, hb]; cases b <;> simp) fun _ => tailPly_spec fields p flags

def EpStageOk (fields : List Bytes) (p0 : Position) (flags ep : Nat) (q : Position) : Prop :=
  (ep = InvalidSq ∨ epConsistent { p0 with flags := flags, ep := ep } = .ok true) ∧
  castlingConsistent { p0 with flags := flags, ep := ep } = true ∧
  MM.OppSafe { p0 with flags := flags, ep := ep } ∧ PlyOk fields { p0 with flags := flags, ep := ep } flags q

theorem tailEp_spec (fields : List Bytes) (p0 : Position) (flags ep : Nat)
    (hept : ep ≠ InvalidSq → ∃ b, epConsistent { p0 with flags := flags, ep := ep } = .ok b)
    (hchk : CheckRuns { p0 with flags := flags, ep := ep }) :
    ∃ r, tailEp fields p0 flags (.ok ep) = .ok r ∧ ∀ q, r = .ok q ↔ EpStageOk fields p0 flags ep q := by
  unfold tailEp EpStageOk
  dsimp only
  generalize ({ p0 with flags := flags, ep := ep } : Position) = p at hept hchk ⊢
  have key : ∀ b : Bool, (b = true ↔ ep = InvalidSq ∨ epConsistent p = .ok true) →
      ∃ r, (if (!b) = true then (pure (.error (.invalid "en passant")) : M (Except FenError Position))
        else if (!castlingConsistent p) = true then pure (.error (.invalid "castling"))
        else tailCheck fields p flags) = .ok r ∧
        ∀ q, r = .ok q ↔ (ep = InvalidSq ∨ epConsistent p = .ok true) ∧ castlingConsistent p = true ∧
          MM.OppSafe p ∧ PlyOk fields p flags q := fun b hbt =>
    guard_iff (by simpa using hbt) fun _ => guard_iff (by simp) fun _ => tailCheck_spec fields p flags hchk
  by_cases he : ep = InvalidSq
  · rw [if_pos (by simpa using he), pure_bind]
    exact key true ⟨fun _ => Or.inl he, fun _ => rfl⟩
  · obtain ⟨b, hb⟩ := hept he
    rw [if_neg (by simpa using he), bind_ok' _ hb]
    exact key b ⟨fun e => Or.inr (e ▸ hb), fun h => h.elim (absurd · he) fun h => Except.ok.inj (hb.symm.trans h)⟩

def TailOk (fields : List Bytes) (p0 q : Position) : Prop :=
  (countKings p0.board Gen.WKing = 1 ∧ countKings p0.board Gen.BKing = 1) ∧
  (fields.getD 1 [] = [119] ∨ fields.getD 1 [] = [98]) ∧ (fields.getD 3 []).length ≤ 2 ∧
  ∃ ep, epParse (fields.getD 3 []) = .ok ep ∧ EpStageOk fields p0 (flagsOf fields) ep q

theorem tailKings_spec (fields : List Bytes) (p : Position) (h : PInv 0 0 p) :
    ∃ r, tailKings fields p = .ok r ∧ ∀ q, r = .ok q ↔ TailOk fields p q := by
  unfold tailKings TailOk
  dsimp only
  refine guard_iff (by simp) fun hk => ?_
  refine guard_iff (by simpa using Decidable.or_iff_not_imp_left.symm) fun ht => ?_
  refine guard_iff (by simp) fun hl => ?_
  cases hE : epParse (fields.getD 3 []) with
  | error e => exact reject_iff fun q ⟨ep, h, _⟩ => nomatch h
  | ok ep =>
    have hrange : ep = InvalidSq ∨ (16 ≤ ep ∧ ep < 112) := by
      rcases (epParse_ok_iff _ _).1 hE with ⟨_, e⟩ | ⟨fc, rc, _, h1, h2, h3, e⟩
      · exact Or.inl e
      · right; rcases h3 with rfl | rfl <;> omega
    obtain ⟨r, hr, hq⟩ := tailEp_spec fields p (flagsOf fields) ep
      (fun he => ⟨_, epConsistent_eq _ h.size (hrange.resolve_left he).1 (hrange.resolve_left he).2⟩)
      (oppCheck_total p _ ep h hk.1 hk.2)
    exact ⟨r, hr, fun q => (hq q).trans ⟨fun hs => ⟨ep, rfl, hs⟩, fun ⟨_, he', hs⟩ => by cases he'; exact hs⟩⟩

/-- The loader's tests in the order it makes them, nested to the right, so that a consumer matches the whole
    by position. Here: bytes ≤ 127, six fields, eight rank strings, the rank scan returns `p0` (kept as a run:
    what it yields is `fenRanks_spec` once more). `TailOk`: a white and a black king, side letter `w` or `b`,
    en-passant field of at most two bytes, which `epParse` reads as `ep`. `EpStageOk`, on `p0` with flags and
    `ep`: `ep` is absent or `epConsistent`, `castlingConsistent`, `MM.OppSafe`. `PlyOk`: the move number `n` is
    read by `atoi`, `1 ≤ n`, `n ≤ maxFullMoveCounter`, and `q` is that position with its ply. -/
def Accepts (s : Bytes) (q : Position) : Prop :=
  (∀ c ∈ s, c ≤ 127) ∧ (splitOn 32 s).length = 6 ∧ (splitOn 47 ((splitOn 32 s).getD 0 [])).length = 8 ∧
  ∃ p0, fenRanks (splitOn 47 ((splitOn 32 s).getD 0 [])) 0 emptyPosition = .ok (.ok p0) ∧ TailOk (splitOn 32 s) p0 q

theorem parseFen_iff (s : Bytes) : ∃ r, parseFen s = .ok r ∧ ∀ q, r = .ok q ↔ Accepts s q := by
  rw [parseFen_eq]
  unfold Accepts
  refine guard_iff (by simp) fun ha => ?_
  refine guard_iff (by simp) fun h6 => ?_
  refine guard_iff (by simp) fun h8 => ?_
  obtain ⟨r, hr, hspec, _⟩ := fenRanks_spec _ 0 emptyPosition (by rw [h8]) PInv_empty
  rw [bind_ok' _ hr]
  cases r with
  | error e => exact reject_iff fun q ⟨p0, h, _⟩ => by rw [hr] at h; cases h
  | ok p =>
    obtain ⟨r, hr', hq⟩ := tailKings_spec (splitOn 32 s) p (hspec p rfl).1
    exact ⟨r, hr', fun q => (hq q).trans ⟨fun ht => ⟨p, hr, ht⟩, fun ⟨p0, h, ht⟩ => by
      rw [hr] at h; cases h; exact ht⟩⟩


theorem accepts_of_ok {s : Bytes} {q : Position} (h : parseFen s = .ok (.ok q)) : Accepts s q := by
  obtain ⟨r, hr, hq⟩ := parseFen_iff s
  exact (hq q).1 (Except.ok.inj (hr.symm.trans h))

theorem ok_of_accepts {s : Bytes} {q : Position} (h : Accepts s q) : parseFen s = .ok (.ok q) := by
  obtain ⟨r, hr, hq⟩ := parseFen_iff s
  rw [hr, (hq q).2 h]

theorem sound_of_accepts {s : Bytes} {q : Position} (h : Accepts s q) : FenInv q ∧ FenLists q ∧ MM.OppSafe q := by
  obtain ⟨_, _, h8, p0, hp0, ⟨hwk, hbk⟩, _, _, ep, hep, hepc, hcast, hsafe, n, hn, h1, h2, rfl⟩ := h
  obtain ⟨r, hr, hspec, _⟩ := fenRanks_spec _ 0 emptyPosition (by rw [h8]) PInv_empty
  have hP := (hspec p0 (Except.ok.inj (hr.symm.trans hp0))).1
  have hreg : ∀ i, p0.board.getD i 0 ≠ 0 → i < 128 ∧ i % 16 < 8 := fun i hi => by
    have := hP.region i hi; omega
  have hepOk : ep = InvalidSq ∨ EpOk { p0 with flags := flagsOf (splitOn 32 s), ep := ep } := by
    rcases hepc with e | e
    · exact Or.inl e
    · rcases (epParse_ok_iff _ _).1 hep with ⟨_, e'⟩ | ⟨fc, rc, _, _, _, h3, e'⟩
      · exact Or.inl e'
      · exact Or.inr ((epConsistent_iff { p0 with flags := flagsOf (splitOn 32 s), ep := ep } hP.size
          (by rcases h3 with rfl | rfl <;> (show 16 ≤ ep; omega))
          (by rcases h3 with rfl | rfl <;> (show ep < 112; omega)) hreg).1 e)
  simp only [Gen.maxFullMoveCounter] at h2
  have hF := finalInv p0 (flagsOf (splitOn 32 s)) ep
    (2 * (n - 1) + if flagsOf (splitOn 32 s) &&& FWhiteTurn = 0 then 1 else 0) hP hwk hbk hepOk hcast
    (by split <;> omega) (by simp only [Gen.maxFullMoveCounter]; split <;> omega)
    (by by_cases hw : flagsOf (splitOn 32 s) &&& FWhiteTurn = 0 <;> simp [hw] <;> omega)
  exact ⟨hF.1, hF.2, hsafe⟩

theorem parseFen_spec (s : Bytes) :
    ∃ r, parseFen s = .ok r ∧ ∀ q, r = .ok q → FenInv q ∧ FenLists q ∧ MM.OppSafe q := by
  obtain ⟨r, hr, hq⟩ := parseFen_iff s
  exact ⟨r, hr, fun q h => sound_of_accepts ((hq q).1 h)⟩

end Magog.FenLemmas
