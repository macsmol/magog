import Magog.Lemmas.Fen

/-! Counting consequences of `FenInv` / `FenLists`: list lengths are board counts. Also what the Bool views
    `accepted` / `rejectedWith` say. -/

namespace Magog.FenLemmas
open Magog Magog.Model Magog.FenSpec

theorem accepted_iff {r : M (Except FenError Position)} : accepted r = true ↔ ∃ p, r = .ok (.ok p) := by
  unfold accepted
  split
  · next p => simp
  · next hn =>
    simp only [Bool.false_eq_true, false_iff]
    rintro ⟨p, rfl⟩
    exact hn p rfl

theorem rejectedWith_iff {r : M (Except FenError Position)} {e : FenError} :
    rejectedWith r e = true ↔ r = .ok (.error e) := by
  unfold rejectedWith
  split
  · next e' => simp
  · next hn =>
    simp only [Bool.false_eq_true, false_iff]
    rintro rfl
    exact hn e rfl

open Magog.Atk

theorem toList_eq_map (b : Array Nat) (hs : b.size = 128) :
    b.toList = (List.range 128).map (fun i => b.getD i 0) := by
  apply List.ext_getElem
  · simp [hs]
  · intro i h1 h2
    simp only [Array.length_toList] at h1
    simp [Array.getD_eq_getD_getElem?, h1]

theorem length_eq_countCodes {b : Array Nat} {l codes : List Nat} (hs : b.size = 128) (hN : l.Nodup)
    (h : ∀ s, s ∈ l ↔ ∃ c ∈ codes, b[s]? = some c) : l.length = countCodes b codes := by
  have hperm : l.Perm ((List.range 128).filter (fun i => codes.contains (b.getD i 0))) := by
    refine (List.perm_ext_iff_of_nodup hN (List.filter_sublist.nodup List.nodup_range)).2 fun i => ?_
    simp only [List.mem_filter, List.mem_range, List.contains_iff_mem, h]
    constructor
    · rintro ⟨c, hc, hb⟩
      exact ⟨by have := (Array.getElem?_eq_some_iff.1 hb).1; omega, by rw [getD_of_some hb]; exact hc⟩
    · rintro ⟨hi, hm⟩
      exact ⟨_, hm, (getElem?_iff_getD (by omega)).2 rfl⟩
  rw [hperm.length_eq, countCodes, toList_eq_map b hs, List.filter_map, List.length_map]
  rfl

theorem countKings_eq_countCodes (b : Array Nat) (k : Nat) : countKings b k = countCodes b [k] := by
  unfold countKings countCodes
  congr 1
  apply List.filter_congr
  intro x _
  rw [Bool.eq_iff_iff]
  simp

theorem side_counts {b : Array Nat} {pawns pieces : List Nat} (w : Bool) (hs : b.size = 128)
    (pN : pawns.Nodup) (hp : ∀ s, s ∈ pawns ↔ ∃ c ∈ [pawnOf w], b[s]? = some c)
    (oN : pieces.Nodup) (ho : ∀ s, s ∈ pieces ↔ ∃ c ∈ officersOf w, b[s]? = some c) :
    pawns.length = countCodes b [pawnOf w] ∧ pieces.length = countCodes b (officersOf w) ∧
    pawns.length + pieces.length = countCodes b (pawnOf w :: officersOf w) := by
  refine ⟨length_eq_countCodes hs pN hp, length_eq_countCodes hs oN ho, ?_⟩
  rw [← List.length_append]
  refine length_eq_countCodes hs (List.nodup_append.2 ⟨pN, oN, fun a ha a' ha' e => ?_⟩) fun s => ?_
  · -- a square in both lists would hold a pawn that is an officer
    obtain ⟨c, hc, hb⟩ := (hp a).1 ha
    obtain ⟨c', hc', hb'⟩ := (ho a').1 ha'
    rw [← e, hb] at hb'
    rw [← Option.some.inj hb', List.mem_singleton.1 hc] at hc'
    exact (class_facts w).2.2.2 hc'
  · rw [List.mem_append, hp, ho]
    constructor
    · rintro (⟨c, hc, hb⟩ | ⟨c, hc, hb⟩)
      · exact ⟨c, by rw [List.mem_singleton.1 hc]; exact List.mem_cons_self .., hb⟩
      · exact ⟨c, List.mem_cons_of_mem _ hc, hb⟩
    · rintro ⟨c, hc, hb⟩
      rcases List.mem_cons.1 hc with e | hc
      · exact Or.inl ⟨c, by rw [e]; exact List.mem_singleton_self _, hb⟩
      · exact Or.inr ⟨c, hc, hb⟩

theorem mem_iff_of_lists {b : Array Nat} {l codes : List Nat} (hS : ListSound b l codes) (hC : ListComplete b l codes) :
    ∀ s, s ∈ l ↔ ∃ c ∈ codes, b[s]? = some c :=
  fun s => ⟨fun h => (hS s h).2.2, fun ⟨c, hc, hb⟩ => hC s c hb hc⟩

theorem counts_of_inv {p : Position} (hI : FenInv p) (hL : FenLists p) :
    p.whitePawns.length = countCodes p.board [Gen.WPawn] ∧
    p.blackPawns.length = countCodes p.board [Gen.BPawn] ∧
    p.whitePieces.length = countCodes p.board whitePieceCodes ∧
    p.blackPieces.length = countCodes p.board blackPieceCodes ∧
    p.whitePawns.length + p.whitePieces.length = countCodes p.board (Gen.WPawn :: whitePieceCodes) ∧
    p.blackPawns.length + p.blackPieces.length = countCodes p.board (Gen.BPawn :: blackPieceCodes) := by
  obtain ⟨w1, w2, w3⟩ := side_counts true hI.size hL.wpNodup (mem_iff_of_lists hI.wpSound hL.wpComplete)
    hL.wpcNodup (mem_iff_of_lists hI.wpcSound hL.wpcComplete)
  obtain ⟨b1, b2, b3⟩ := side_counts false hI.size hL.bpNodup (mem_iff_of_lists hI.bpSound hL.bpComplete)
    hL.bpcNodup (mem_iff_of_lists hI.bpcSound hL.bpcComplete)
  exact ⟨w1, b1, w2, b2, w3, b3⟩

end Magog.FenLemmas
