import Magog.Lemmas.Fen

/-! The accepted position is the one the FEN fields denote (`FenSpec.FenFaithful`). -/

namespace Magog.FenLemmas
open Magog Magog.Model Magog.FenSpec

theorem length_six {α : Type} {l : List α} (h : l.length = 6) :
    ∃ a b c d e f, l = [a, b, c, d, e, f] := by
  match l, h with
  | [a, b, c, d, e, f], _ => exact ⟨a, b, c, d, e, f, rfl⟩

theorem flags_bits (b0 b1 b2 b3 b4 : Bool) :
    let fl0 := if b0 then FWhiteTurn else 0
    let fl1 := if b1 then fl0 ||| FWK else fl0
    let fl2 := if b2 then fl1 ||| FWQ else fl1
    let fl3 := if b3 then fl2 ||| FBK else fl2
    let fl4 := if b4 then fl3 ||| FBQ else fl3
    (fl4 &&& FWhiteTurn != 0) = b0 ∧ (fl4 &&& FWK != 0) = b1 ∧ (fl4 &&& FWQ != 0) = b2 ∧
    (fl4 &&& FBK != 0) = b3 ∧ (fl4 &&& FBQ != 0) = b4 ∧ fl4 < 32 := by
  cases b0 <;> cases b1 <;> cases b2 <;> cases b3 <;> cases b4 <;> decide

theorem flagsOf_bits (fields : List Bytes) :
    (flagsOf fields &&& FWhiteTurn != 0) = (fields.getD 1 [] == [119]) ∧
    (flagsOf fields &&& FWK != 0) = containsByte (fields.getD 2 []) 75 ∧
    (flagsOf fields &&& FWQ != 0) = containsByte (fields.getD 2 []) 81 ∧
    (flagsOf fields &&& FBK != 0) = containsByte (fields.getD 2 []) 107 ∧
    (flagsOf fields &&& FBQ != 0) = containsByte (fields.getD 2 []) 113 ∧
    flagsOf fields < 32 :=
  flags_bits (fields.getD 1 [] == [119]) (containsByte (fields.getD 2 []) 75) (containsByte (fields.getD 2 []) 81)
    (containsByte (fields.getD 2 []) 107) (containsByte (fields.getD 2 []) 113)

theorem faithful_of_accepts {s : Bytes} {q : Position} (h : Accepts s q) : FenFaithful s q := by
  obtain ⟨hasc, h6, h8, p0, hp0, _, hturn, heps, ep, hep, _, _, _, n, hn1, hn2, hn3, rfl⟩ := h
  obtain ⟨r, hr, hspec, _⟩ := fenRanks_spec _ 0 emptyPosition (by rw [h8]) PInv_empty
  obtain ⟨hP, hRF, _⟩ := hspec p0 (Except.ok.inj (hr.symm.trans hp0))
  obtain ⟨f0, f1, f2, f3, f4, f5, hf⟩ := length_six h6
  rw [hf] at h8 hRF hep hn1 hturn heps
  simp only [List.getD_cons_zero, List.getD_cons_succ] at h8 hRF hep hn1 hturn heps
  rw [hf]
  obtain ⟨g0, g1, g2, g3, g4, g5⟩ := flagsOf_bits [f0, f1, f2, f3, f4, f5]
  simp only [List.getD_cons_zero, List.getD_cons_succ] at g0 g1 g2 g3 g4
  refine ⟨hasc, f0, f1, f2, f3, f4, f5, hf, h8, ?_, ?_, g1, g2, g3, g4, g5, heps, ?_, ?_, n, hn1, hn2, hn3, ?_⟩
  · intro idx row hrow
    obtain ⟨hl, hv⟩ := hRF idx row hrow
    refine ⟨hl, fun j v hjv => ?_⟩
    have hj : j < 8 := hl ▸ (List.getElem?_eq_some_iff.1 hjv).1
    have := hv j v hjv
    rw [Nat.zero_add] at this
    exact (getElem?_iff_getD (by rw [hP.size]; omega)).2 this
  · exact hturn.imp (fun e => ⟨e, g0.trans (by rw [e]; rfl)⟩) (fun e => ⟨e, g0.trans (by rw [e]; rfl)⟩)
  · intro hl
    rcases (epParse_ok_iff _ _).1 hep with ⟨_, e⟩ | ⟨_, _, e, _⟩
    · exact e
    · rw [e] at hl; exact absurd rfl hl
  · intro fc rc e
    rcases (epParse_ok_iff _ _).1 hep with ⟨hl, _⟩ | ⟨_, _, e', h1, h2, h3, h4⟩
    · rw [e] at hl; exact absurd rfl hl
    · obtain ⟨rfl, rfl⟩ : _ = fc ∧ _ = rc := by simpa using e'.symm.trans e
      exact ⟨h1, h2, h3, h4⟩
  · show _ = 2 * (n - 1) + (if (flagsOf [f0, f1, f2, f3, f4, f5] &&& FWhiteTurn != 0) = true then 0 else 1)
    by_cases hw : flagsOf [f0, f1, f2, f3, f4, f5] &&& FWhiteTurn = 0 <;> simp [hw]

end Magog.FenLemmas
