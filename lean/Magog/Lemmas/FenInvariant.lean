import Magog.Lemmas.FenPlace

/-! The placement scan (`fenRank`, `fenRanks`), in one induction each: it never panics; what it accepts
    satisfies the scan invariant `PInv` and is what the rank strings denote (`Faith`, `RanksFaith`); and it
    does accept rank strings of run lengths and piece letters as long as the lists have room for the men they
    denote (`Room`). -/

namespace Magog.FenLemmas
open Magog Magog.Model Magog.FenSpec Magog.Atk

theorem track_place {b : Array Nat} {l : List Nat} {q : Nat → Prop} [DecidablePred q] {sq : Nat} (pc : Nat)
    (hsq : sq < b.size) (hempty : b.getD sq 0 = 0) (h0 : ¬ q 0) (hl : ∀ i, i ∈ l ↔ q (b.getD i 0)) (hN : l.Nodup) :
    (∀ i, i ∈ (if q pc then l ++ [sq] else l) ↔ q ((b.setIfInBounds sq pc).getD i 0)) ∧
    (if q pc then l ++ [sq] else l).Nodup := by
  have hnot : sq ∉ l := fun h => h0 (hempty ▸ (hl sq).1 h)
  constructor
  · intro i
    rw [getD_set _ _ _ _ hsq]
    by_cases hi : i = sq
    · subst hi
      rw [if_pos rfl]
      by_cases hq : q pc <;> simp [hq, hnot]
    · rw [if_neg (Ne.symm hi), ← hl i]
      by_cases hq : q pc <;> simp [hq, hi]
  · split
    · exact List.nodup_append.2 ⟨hN, by simp, fun a ha c hc => by
        rw [List.mem_singleton.1 hc]; exact fun e => hnot (e ▸ ha)⟩
    · exact hN

theorem SidePInv.place {b : Array Nat} {sd : Side} {w : Bool} {sq : Nat} (h : SidePInv b sd w) (pc : Nat)
    (hsq : sq < b.size) (hempty : b.getD sq 0 = 0)
    (hp : pc = pawnOf w → sd.pawns.length < pawnCap ∧ sd.pawns.length + sd.pieces.length < pieceCap)
    (ho : pc ∈ officersOf w → sd.pawns.length + sd.pieces.length < pieceCap) :
    SidePInv (b.setIfInBounds sq pc) (placeSide sd w sq pc) w := by
  obtain ⟨z1, z2, z3, z4⟩ := class_facts w
  obtain ⟨p1, p2⟩ := track_place (q := (· = pawnOf w)) pc hsq hempty (fun e => z1 e.symm) h.pawns h.pawnsN
  obtain ⟨o1, o2⟩ := track_place (q := (· ∈ officersOf w)) pc hsq hempty z3 h.pieces h.piecesN
  have hx : ¬ (pc = pawnOf w ∧ pc ∈ officersOf w) := fun ⟨e, m⟩ => z4 (e ▸ m)
  have := h.pawnsLen; have := h.len
  refine ⟨p1, o1, p2, o2, ?_, ?_, ?_⟩
  · rw [placeSide_pawns_length]; split
    · next e => have := (hp e).1; omega
    · omega
  · rw [placeSide_pawns_length, placeSide_pieces_length]; split <;> split
    · next e m => exact absurd ⟨e, m⟩ hx
    · next e _ => have := (hp e).2; omega
    · next _ m => have := ho m; omega
    · omega
  · rintro ⟨i, hi⟩
    rw [getD_set _ _ _ _ hsq] at hi ⊢
    rw [show (placeSide sd w sq pc).king = if pc = kingOf w then sq else sd.king from rfl]
    by_cases hk : pc = kingOf w
    · rw [if_pos hk, if_pos rfl, hk]
    · have hi' : i ≠ sq := fun e => hk (by rw [if_pos e.symm] at hi; exact hi)
      rw [if_neg (Ne.symm hi')] at hi
      have hking := h.king ⟨i, hi⟩
      rw [if_neg hk, if_neg (fun e => z2 (by rw [← hking, ← e, hempty])), hking]

theorem PInv_place {K f : Nat} {p : Position} (h : PInv K f p) (hK : 1 ≤ K) (hK8 : K ≤ 8) (hf : f ≤ 7)
    (pc : Nat) (hc : pc ∈ pieceCodes) (hroom : hasRoomFor p pc = true)
    (hback : (pc = Gen.WPawn ∨ pc = Gen.BPawn) → K ≠ 1 ∧ K ≠ 8) :
    PInv K (f + 1) (placePure p ((K - 1) * 16 + f) pc) := by
  generalize hsq : (K - 1) * 16 + f = sq
  have hsz : sq < p.board.size := by rw [h.size]; omega
  have hempty : p.board.getD sq 0 = 0 := h.empty_at (by omega)
  have hg : ∀ i, (placePure p sq pc).board.getD i 0 = if sq = i then pc else p.board.getD i 0 :=
    fun i => getD_set _ _ _ _ hsz
  refine ⟨(placePure_size p sq pc).trans h.size, fun i => ?_, fun i => ?_, fun i => ?_, fun w => ?_⟩
  · rw [hg]; split
    · intro _; omega
    · intro hi; have := h.region i hi; omega
  · rw [hg]; split
    · exact Or.inr hc
    · exact h.codes i
  · rw [hg]; split
    · next e => intro hp; have := hback hp; omega
    · exact h.backPawn i
  · rw [placePure_side]
    exact (h.side w).place pc hsz hempty (room_spec hroom w).1 (room_spec hroom w).2

def cnt (codes : List Nat) (l : List Nat) : Nat := l.countP (fun v => codes.contains v)

theorem cnt_append (codes : List Nat) (l l' : List Nat) : cnt codes (l ++ l') = cnt codes l + cnt codes l' :=
  List.countP_append

theorem cnt_replicate_zero (codes : List Nat) (h : (0 : Nat) ∉ codes) (n : Nat) : cnt codes (List.replicate n 0) = 0 := by
  simp only [cnt, List.countP_eq_zero, List.mem_replicate, List.contains_iff_mem]
  rintro a ⟨_, rfl⟩
  exact h

theorem cnt_pawn_cons (w : Bool) (v : Nat) (l : List Nat) :
    cnt [pawnOf w] (v :: l) = cnt [pawnOf w] l + if v = pawnOf w then 1 else 0 := by
  simp [cnt, List.countP_cons]

theorem cnt_men_cons (w : Bool) (v : Nat) (l : List Nat) :
    cnt (pawnOf w :: officersOf w) (v :: l) =
      cnt (pawnOf w :: officersOf w) l + (if v = pawnOf w then 1 else 0) + if v ∈ officersOf w then 1 else 0 := by
  have z := (class_facts w).2.2.2
  by_cases e : v = pawnOf w
  · have : v ∉ officersOf w := e ▸ z
    simp [cnt, e, z]
  · by_cases m : v ∈ officersOf w <;> simp [cnt, e, m]

def Room (p : Position) (l : List Nat) : Prop := ∀ w,
  (p.side w).pawns.length + cnt [pawnOf w] l ≤ pawnCap ∧
  (p.side w).pawns.length + (p.side w).pieces.length + cnt (pawnOf w :: officersOf w) l ≤ pieceCap

theorem Room_zeros {p : Position} {n : Nat} {l : List Nat} (h : Room p (List.replicate n 0 ++ l)) : Room p l := by
  intro w
  obtain ⟨z1, _, z3, _⟩ := class_facts w
  have := h w
  rwa [cnt_append, cnt_append, cnt_replicate_zero _ (by simpa using z1.symm),
    cnt_replicate_zero _ (by simpa using ⟨z1.symm, z3⟩), Nat.zero_add, Nat.zero_add] at this

theorem Room_place {p : Position} {v : Nat} {l : List Nat} (sq : Nat) (hv : v ∈ pieceCodes) (h : Room p (v :: l)) :
    hasRoomFor p v = true ∧ Room (placePure p sq v) l := by
  constructor
  · obtain ⟨w, rfl | rfl | ho⟩ := code_cases v hv
    · have := h w
      rw [cnt_pawn_cons, cnt_men_cons, if_pos rfl] at this
      rw [hasRoomFor_pawn, Bool.and_eq_true, decide_eq_true_eq, decide_eq_true_eq]
      omega
    · exact hasRoomFor_king p w
    · have := (h w).2
      rw [cnt_men_cons, if_pos ho] at this
      rw [hasRoomFor_officer p ho, decide_eq_true_eq]
      omega
  · intro w
    have := h w
    rw [cnt_pawn_cons, cnt_men_cons] at this
    rw [placePure_side, placeSide_pawns_length, placeSide_pieces_length]
    omega

def RankText (cs : Bytes) : Prop := ∀ c ∈ cs, (49 ≤ c ∧ c ≤ 56) ∨ charToPiece c ∈ pieceCodes

def NoPawn (l : List Nat) : Prop := ∀ v ∈ l, v ≠ Gen.WPawn ∧ v ≠ Gen.BPawn

/-- Scanning the string `cs` on rank `k` (see `PInv` for the coordinates) from file `f` of `p` ends at file `f'`
    of `p'`: `f'` counts the squares `cs` denotes, these hold what `expandRank cs` says, and every square off
    the rank or left of `f` is as in `p`. -/
def Faith (k : Nat) (cs : Bytes) (f : Nat) (p p' : Position) (f' : Nat) : Prop :=
  f' = f + (expandRank cs).length ∧
  (∀ j v, (expandRank cs)[j]? = some v → p'.board.getD (k * 16 + f + j) 0 = v) ∧
  (∀ i, (i / 16 ≠ k ∨ i % 16 < f) → p'.board.getD i 0 = p.board.getD i 0)

theorem fenRank_digit (r : Nat) {c : Nat} (cs : Bytes) {f : Nat} (p : Position) (hd : 49 ≤ c ∧ c ≤ 56) (hf : f ≤ 8) :
    (f + (c - 48) ≤ 8 ∧ fenRank r (c :: cs) f p = fenRank r cs (f + (c - 48)) p) ∨
    (8 < f + (c - 48) ∧ ∃ e, fenRank r (c :: cs) f p = .ok (.error e)) := by
  have hd' : (decide (49 ≤ c) && decide (c ≤ 56)) = true := by simp [hd]
  have e1 : (f + (c - 48)) % 256 = f + (c - 48) := by omega
  rw [fenRank, if_pos hd', e1]
  by_cases h8 : f + (c - 48) ≤ 8
  · exact Or.inl ⟨h8, if_neg (by simp only [Gen.H]; omega)⟩
  · exact Or.inr ⟨by omega, _, if_pos (by simp only [Gen.H]; omega)⟩

def LetterOk (k f : Nat) (p : Position) (c : Nat) : Prop :=
  f < 8 ∧ charToPiece c ∈ pieceCodes ∧
  ((charToPiece c = Gen.WPawn ∨ charToPiece c = Gen.BPawn) → k ≠ 0 ∧ k ≠ 7) ∧ hasRoomFor p (charToPiece c) = true

theorem fenRank_letter {k : Nat} (hk : k < 8) {c : Nat} (cs : Bytes) {f : Nat} {p : Position}
    (hd : ¬ (49 ≤ c ∧ c ≤ 56)) (hf : f ≤ 8) (hs : p.board.size = 128) :
    (LetterOk k f p c ∧
      fenRank (k * 16) (c :: cs) f p = fenRank (k * 16) cs (f + 1) (placePure p (k * 16 + f) (charToPiece c))) ∨
    (¬ LetterOk k f p c ∧ ∃ e, fenRank (k * 16) (c :: cs) f p = .ok (.error e)) := by
  have hd' : ¬ (decide (49 ≤ c) && decide (c ≤ 56)) = true := by simpa using hd
  rw [fenRank, if_neg hd']
  -- the four tests of `LetterOk` in the loader's order: `then` goes on, `else` is the rejecting disjunct
  refine if h8 : f < 8 then ?_ else Or.inr ⟨fun h => h8 h.1, _, if_pos (by simp only [Gen.H]; omega)⟩
  rw [if_neg (by simp only [Gen.H]; omega)]
  dsimp only
  refine if hc : charToPiece c ∈ pieceCodes then ?_ else
    Or.inr ⟨fun h => hc h.2.1, _, if_pos (by rw [(charToPiece_codes c).resolve_right hc]; rfl)⟩
  rw [if_neg (by rw [beq_iff_eq]; rintro e; rw [e] at hc; revert hc; decide)]
  have hrank : (k * 16 == Gen.Rank1 || k * 16 == Gen.Rank8) = true ↔ (k = 0 ∨ k = 7) := by
    simp only [Gen.Rank1, Gen.Rank8, Bool.or_eq_true, beq_iff_eq]; omega
  refine if hb : (charToPiece c = Gen.WPawn ∨ charToPiece c = Gen.BPawn) → k ≠ 0 ∧ k ≠ 7 then ?_ else
    Or.inr ⟨fun h => hb h.2.2.1, _, if_pos (by
      rw [Bool.and_eq_true, pawn_code _ hc, hrank]
      exact Decidable.byContradiction fun hn => hb fun hp => by omega)⟩
  rw [if_neg (by rw [Bool.and_eq_true, pawn_code _ hc, hrank]; rintro ⟨hp, hk'⟩; have := hb hp; omega)]
  refine if hr : hasRoomFor p (charToPiece c) = true then ?_ else
    Or.inr ⟨fun h => hr h.2.2.2, _, if_pos (by simpa using hr)⟩
  have e1 : (k * 16 + f) % 256 = k * 16 + f := by omega
  have e2 : (f + 1) % 256 = f + 1 := by omega
  rw [if_neg (by simp [hr]), e1, e2, fenPlace_ok p _ _ hc hs (by omega) hr]
  exact Or.inl ⟨⟨h8, hc, hb, hr⟩, rfl⟩

theorem Faith.cons {k f : Nat} {c : Nat} {cs : Bytes} {pre : List Nat} {p p1 p' : Position} {f' : Nat}
    (hex : expandRank (c :: cs) = pre ++ expandRank cs)
    (h1 : ∀ j v, pre[j]? = some v → p1.board.getD (k * 16 + f + j) 0 = v)
    (h2 : ∀ i, (i / 16 ≠ k ∨ i % 16 < f) → p1.board.getD i 0 = p.board.getD i 0)
    (hF : Faith k cs (f + pre.length) p1 p' f') : Faith k (c :: cs) f p p' f' := by
  obtain ⟨b1, b2, b3⟩ := hF
  rw [Faith, hex]
  refine ⟨by rw [b1, List.length_append]; omega, fun j v hv => ?_, fun i hi => ?_⟩
  · by_cases hj : j < pre.length
    · rw [List.getElem?_append_left hj] at hv
      rw [b3 _ (by omega)]
      exact h1 j v hv
    · rw [List.getElem?_append_right (by omega)] at hv
      have := b2 _ _ hv
      rwa [show k * 16 + (f + pre.length) + (j - pre.length) = k * 16 + f + j by omega] at this
  · rw [b3 i (by omega), h2 i hi]

/-- One rank, three parts in this order: the scan does not panic; what it accepts keeps `PInv` and is `Faith`ful;
    it does accept a text of digits and piece letters that fits the rank, puts no pawn on a back rank and finds
    `Room` in the lists (what is left of the room is handed on for `rest`, the ranks still to come). -/
theorem fenRank_spec (k : Nat) (hk : k < 8) : ∀ (cs : Bytes) (f : Nat) (p : Position), PInv (k + 1) f p → f ≤ 8 →
    ∃ r, fenRank (k * 16) cs f p = .ok r ∧
      (∀ p' f', r = .ok (p', f') → PInv (k + 1) f' p' ∧ Faith k cs f p p' f') ∧
      (RankText cs → f + (expandRank cs).length ≤ 8 → ((k = 0 ∨ k = 7) → NoPawn (expandRank cs)) →
        ∀ rest, Room p (expandRank cs ++ rest) → ∃ p' f', r = .ok (p', f') ∧ Room p' rest) := by
  intro cs
  induction cs with
  | nil =>
    intro f p h hf
    refine ⟨_, rfl, fun p' f' e => ?_, fun _ _ _ rest hr => ⟨p, f, rfl, hr⟩⟩
    obtain ⟨rfl, rfl⟩ := Prod.mk.inj (Except.ok.inj e)
    exact ⟨h, rfl, fun j v hv => (nomatch hv), fun _ _ => rfl⟩
  | cons c cs ih =>
    intro f p h hf
    by_cases hd : 49 ≤ c ∧ c ≤ 56
    · have hex : expandRank (c :: cs) = List.replicate (c - 48) 0 ++ expandRank cs := by
        rw [expandRank, if_pos (by simp [hd])]
      rcases fenRank_digit (k * 16) cs p hd hf with ⟨h8, e⟩ | ⟨h8, e, he⟩
      · obtain ⟨r, hr, hs, ha⟩ := ih (f + (c - 48)) p (h.mono (by omega)) h8
        refine ⟨r, e ▸ hr, fun p' f' er => ?_, fun ht hlen hback rest hroom => ?_⟩
        · obtain ⟨a1, a3⟩ := hs p' f' er
          refine ⟨a1, Faith.cons hex (fun j v hv => ?_) (fun _ _ => rfl) (by simpa using a3)⟩
          rw [List.getElem?_replicate] at hv
          split at hv
          · rw [← Option.some.inj hv]; exact h.empty_at (by omega)
          · cases hv
        · rw [hex] at hlen hback hroom
          rw [List.length_append, List.length_replicate] at hlen
          exact ha (fun c' hc' => ht c' (List.mem_cons_of_mem _ hc')) (by omega)
            (fun hk' v hv => hback hk' v (List.mem_append_right _ hv)) rest
            (Room_zeros (by rwa [List.append_assoc] at hroom))
      · refine ⟨_, he, fun _ _ er => (nomatch er), fun _ hlen => ?_⟩
        rw [hex, List.length_append, List.length_replicate] at hlen
        omega
    · have hex : expandRank (c :: cs) = [charToPiece c] ++ expandRank cs := by
        rw [expandRank, if_neg (by simpa using hd)]; rfl
      rcases fenRank_letter hk cs hd hf h.size with ⟨⟨h8, hc, hb, hr⟩, e⟩ | ⟨hn, e, he⟩
      · have hP := PInv_place h (by omega) (by omega) (by omega) _ hc hr (fun hp => by have := hb hp; omega)
        rw [Nat.add_sub_cancel] at hP
        obtain ⟨r, hr', hs, ha⟩ := ih (f + 1) _ hP (by omega)
        refine ⟨r, e ▸ hr', fun p' f' er => ?_, fun ht hlen hback rest hroom => ?_⟩
        · obtain ⟨a1, a3⟩ := hs p' f' er
          have hg := fun i => getD_set (d := 0) p.board (k * 16 + f) (charToPiece c) i (by rw [h.size]; omega)
          refine ⟨a1, Faith.cons hex (fun j v hv => ?_) (fun i hi => ?_) a3⟩
          · cases j with
            | zero => exact (hg _).trans ((if_pos rfl).trans (Option.some.inj hv))
            | succ j => cases hv
          · exact (hg i).trans (if_neg (by omega))
        · rw [hex] at hlen hback hroom
          exact ha (fun c' hc' => ht c' (List.mem_cons_of_mem _ hc')) (by simp at hlen; omega)
            (fun hk' v hv => hback hk' v (List.mem_cons_of_mem _ hv)) rest (Room_place _ hc hroom).2
      · refine ⟨_, he, fun _ _ er => (nomatch er), fun ht hlen hback rest hroom => absurd ?_ hn⟩
        rw [hex] at hlen hback hroom
        have hc : charToPiece c ∈ pieceCodes := (ht c (List.mem_cons_self ..)).resolve_left hd
        refine ⟨by simp at hlen; omega, hc, fun hp => Decidable.byContradiction fun hk' => ?_,
          (Room_place 0 hc hroom).1⟩
        have := hback (by omega) (charToPiece c) (List.mem_cons_self ..)
        exact hp.elim this.1 this.2

def RanksFaith (rest : List Bytes) (idx : Nat) (p p' : Position) : Prop :=
  (∀ m row, rest[m]? = some row → (expandRank row).length = 8 ∧
      ∀ j v, (expandRank row)[j]? = some v → p'.board.getD ((7 - (idx + m)) * 16 + j) 0 = v) ∧
  (∀ i, 8 - idx ≤ i / 16 → p'.board.getD i 0 = p.board.getD i 0)

theorem RanksFaith.cons {rs : Bytes} {rest : List Bytes} {idx : Nat} {p p1 p' : Position} (hidx : idx ≤ 7)
    (h1 : Faith (7 - idx) rs 0 p p1 8) (h2 : RanksFaith rest (idx + 1) p1 p') : RanksFaith (rs :: rest) idx p p' := by
  obtain ⟨c1, c2, c3⟩ := h1
  obtain ⟨d2, d3⟩ := h2
  refine ⟨fun m row hrow => ?_, fun i hi => by rw [d3 i (by omega), c3 i (by omega)]⟩
  cases m with
  | zero =>
    rw [← Option.some.inj hrow]
    refine ⟨by omega, fun j v hv => ?_⟩
    have hj : j < (expandRank rs).length := (List.getElem?_eq_some_iff.1 hv).1
    rw [d3 _ (by omega)]
    exact c2 j v hv
  | succ m =>
    have := d2 m row hrow
    rwa [show idx + 1 + m = idx + (m + 1) by omega] at this

/-- The same three parts for the rank strings from place `idx` on; a run from `idx = 0` on `emptyPosition`
    (`PInv_empty`) ends in `PInv 0 0`, which is what the tail of the loader and `finalInv` start from. -/
theorem fenRanks_spec : ∀ (rest : List Bytes) (idx : Nat) (p : Position), idx + rest.length = 8 → PInv (8 - idx) 0 p →
    ∃ r, fenRanks rest idx p = .ok r ∧ (∀ p', r = .ok p' → PInv 0 0 p' ∧ RanksFaith rest idx p p') ∧
      ((∀ row ∈ rest, RankText row ∧ (expandRank row).length = 8) →
        (∀ (m : Nat) (row : Bytes), rest[m]? = some row → (idx + m = 7 ∨ idx + m = 0) → NoPawn (expandRank row)) →
        Room p (rest.map expandRank).flatten → ∃ p', r = .ok p') := by
  intro rest
  induction rest with
  | nil =>
    intro idx p hl h
    have : idx = 8 := by simpa using hl
    subst this
    refine ⟨_, rfl, fun p' e => ?_, fun _ _ _ => ⟨p, rfl⟩⟩
    rw [← Except.ok.inj e]
    exact ⟨h, fun m row hrow => (nomatch hrow), fun _ _ => rfl⟩
  | cons rs rest ih =>
    intro idx p hl h
    simp only [List.length_cons] at hl
    rw [show 8 - idx = (7 - idx) + 1 by omega] at h
    obtain ⟨r, hr, hspec, hacc⟩ := fenRank_spec (7 - idx) (by omega) rs 0 p h (by omega)
    -- acceptance of the first rank string, from the hypotheses on all of them
    have hacc' := fun (hrows : ∀ row ∈ rs :: rest, RankText row ∧ (expandRank row).length = 8)
        (hback : ∀ (m : Nat) (row : Bytes), (rs :: rest)[m]? = some row → (idx + m = 7 ∨ idx + m = 0) →
          NoPawn (expandRank row)) =>
      hacc (hrows rs (List.mem_cons_self ..)).1 (by rw [(hrows rs (List.mem_cons_self ..)).2]; omega)
        (fun hk' => hback 0 rs rfl (by omega)) (rest.map expandRank).flatten
    rw [fenRanks, hr]
    simp only [bind, Except.bind]
    cases r with
    | error e =>
      refine ⟨_, rfl, fun _ e => (nomatch e), fun hrows hback hroom => ?_⟩
      obtain ⟨_, _, e', _⟩ := hacc' hrows hback hroom
      cases e'
    | ok v =>
      obtain ⟨p1, f'⟩ := v
      obtain ⟨hp', c1, c2, c3⟩ := hspec p1 f' rfl
      dsimp only
      by_cases hf : f' = 8
      · subst hf
        rw [if_neg (by decide)]
        have hP1 : PInv (8 - (idx + 1)) 0 p1 :=
          { hp' with region := fun i hi => by have := hp'.region i hi; omega }
        obtain ⟨r, hr2, hs2, ha2⟩ := ih (idx + 1) p1 (by omega) hP1
        refine ⟨r, hr2, fun p' e => ?_, fun hrows hback hroom => ?_⟩
        · obtain ⟨d1, d2⟩ := hs2 p' e
          exact ⟨d1, RanksFaith.cons (by omega) ⟨c1, c2, c3⟩ d2⟩
        · obtain ⟨_, _, e', hroom1⟩ := hacc' hrows hback hroom
          obtain ⟨rfl, _⟩ := Prod.mk.inj (Except.ok.inj e')
          exact ha2 (fun row hrow => hrows row (List.mem_cons_of_mem _ hrow))
            (fun m row hrow hm => hback (m + 1) row hrow (by omega)) hroom1
      · rw [if_pos (by simpa [Gen.H] using hf)]
        refine ⟨_, rfl, fun _ e => (nomatch e), fun hrows _ _ => ?_⟩
        rw [(hrows rs (List.mem_cons_self ..)).2] at c1
        omega

end Magog.FenLemmas
