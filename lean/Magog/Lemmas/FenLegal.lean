import Magog.Lemmas.FenWriteTail
import Magog.Lemmas.LegalMoves

/-! C08, converse of the round trip: a well-formed model position (`Inv`) in which the side not to move is
    not in check (`MM.OppSafe`) abstracts to a legal position of the rules specification (`Spec.Legal`).
    Every position the FEN loader accepts is of this kind (`Props.C02.fen_inv`, `Props.C08.fen_oppSafe`).
    `Inv p` gives `FenWrite.BoardIs (abs p) p.board`; from it the counting clauses of `FenWrite.LegalFacts`
    (equivalent to `Spec.Legal`, `legal_iff_facts`) follow by the counting lemmas of the round trip, the castling and
    en-passant clauses by `FenWrite.castling_iff` and `FenWrite.ep_iff`, read left to right here and right to left
    in the round trip. -/

namespace Magog.FenLegal
open Magog Magog.Model Magog.FenSpec Magog.FenLemmas Magog.FenWrite Magog.Atk Magog.Geo

theorem legal_of_facts {P : Spec.Pos} (h : LegalFacts P) : Spec.Legal P = true := by
  simp only [Spec.Legal, Bool.and_eq_true, beq_iff_eq, decide_eq_true_eq, Bool.not_eq_true', corner_legal]
  refine ⟨⟨⟨⟨⟨⟨⟨⟨⟨⟨⟨⟨⟨h.size, h.wKing⟩, h.bKing⟩, h.safe⟩, ?_⟩, h.wPawns⟩, h.bPawns⟩, h.wMen⟩, h.bMen⟩,
    h.wk⟩, h.wq⟩, h.bk⟩, h.bq⟩, ?_⟩
  · rw [List.all_eq_true]
    intro s hs
    have hs64 : s < 64 := by simpa [Spec.allSq] using hs
    cases hat : P.at s with
    | none => rfl
    | some m =>
      obtain ⟨c, k⟩ := m
      cases k <;> try rfl
      have := h.backPawn s hs64 c hat
      simp [this.1, this.2]
  · cases he : P.ep with
    | none => rfl
    | some e =>
      obtain ⟨h64, hw, hb⟩ := h.ep e he
      simp only [Bool.and_eq_true, decide_eq_true_eq]
      refine ⟨h64, ?_⟩
      cases ht : P.turn with
      | white =>
        obtain ⟨a, b, c, d⟩ := hw ht
        simp [a, b, c, d]
      | black =>
        obtain ⟨a, b, c, d⟩ := hb ht
        simp [a, b, c, d]

theorem legal_iff_facts {P : Spec.Pos} : Spec.Legal P = true ↔ LegalFacts P :=
  ⟨legalFacts, legal_of_facts⟩

theorem abs_at (p : Position) {i : Nat} (hi : i < 64) :
    (abs p).at i = decodePiece (p.board.getD (to88 i) 0) := by
  simp [Spec.Pos.at, abs, absBoard, Array.getD_eq_getD_getElem?, hi]

theorem optCode_decode {v : Nat} (hv : v = 0 ∨ v ∈ pieceCodes) : optCode (decodePiece v) = v := by
  have : ∀ v ∈ 0 :: pieceCodes, optCode (decodePiece v) = v := by decide
  exact this v (List.mem_cons.2 hv)

theorem boardIs_abs {p : Position} (hI : Inv p) : BoardIs (abs p) p.board := by
  refine ⟨hI.board.size, fun i hi => ?_, fun i hi hv => ?_⟩
  · rw [abs_at p hi]
    obtain ⟨h1, h2⟩ := mem_sq88.1 (to88_mem hi)
    obtain ⟨v, hv, hc⟩ := hI.board.codes _ h1 h2
    rw [getD_of_some hv, optCode_decode hc]
  · exact getD_of_some (hI.offBoard i hi (by rw [isValid_iff i hi]; simpa using hv))

theorem valid_of_man {p : Position} (hI : Inv p) {s v : Nat} (h : p.board[s]? = some v) (hv : v ≠ 0) :
    s < 128 ∧ isValid s = true :=
  InvFen.valid_of_ne_zero hI.board.size hI.offBoard h hv

theorem counts_abs {p : Position} (hI : Inv p) (w : Bool) :
    Spec.kingsOf (abs p) (colorOf w) = 1 ∧ Spec.pawnsOf (abs p) (colorOf w) ≤ 8 ∧
    Spec.pawnsOf (abs p) (colorOf w) + Spec.othersOf (abs p) (colorOf w) ≤ 15 := by
  have hb := boardIs_abs hI
  have hsz := hI.board.size
  obtain ⟨hs, pn, on, pl, ol⟩ := hI.sideInv w
  obtain ⟨zp, zk, zo, _⟩ := class_facts w
  -- the lists of one side hold exactly the squares with that side's codes
  have hp : ∀ s, s ∈ (p.side w).pawns ↔ ∃ c ∈ [pawnOf w], p.board[s]? = some c := fun s =>
    ⟨fun h => ⟨_, List.mem_singleton_self _, ((hs.pawns s).1 h).2.2⟩, fun ⟨c, hc, h⟩ => by
      rw [List.mem_singleton.1 hc] at h
      exact (hs.pawns s).2 ⟨(valid_of_man hI h zp).1, (valid_of_man hI h zp).2, h⟩⟩
  have ho : ∀ s, s ∈ (p.side w).pieces ↔ ∃ c ∈ officersOf w, p.board[s]? = some c := fun s =>
    ⟨fun h => ((hs.pieces s).1 h).2.2, fun ⟨c, hc, h⟩ =>
      (hs.pieces s).2 ⟨(valid_of_man hI h (fun e => zo (e ▸ hc))).1, (valid_of_man hI h (fun e => zo (e ▸ hc))).2, c, hc, h⟩⟩
  have hk : ∀ s, s ∈ [(p.side w).king] ↔ ∃ c ∈ [kingOf w], p.board[s]? = some c := fun s =>
    ⟨fun h => ⟨_, List.mem_singleton_self _, ((hs.king s).1 (List.mem_singleton.1 h)).2.2⟩, fun ⟨c, hc, h⟩ => by
      rw [List.mem_singleton.1 hc] at h
      exact List.mem_singleton.2 ((hs.king s).2 ⟨(valid_of_man hI h zk).1, (valid_of_man hI h zk).2, h⟩)⟩
  obtain ⟨e2, _, e3⟩ := side_counts w hsz pn hp on ho
  have e1 : (1 : Nat) = countCodes p.board [kingOf w] := length_eq_countCodes hsz (by simp) hk
  have k1 : countCodes p.board [kingOf w] = Spec.kingsOf (abs p) (colorOf w) :=
    countCodes_boardIs hb _ _ (by apply man_cases; cases w <;> decide) (by simpa using zk.symm)
  have k2 : countCodes p.board [pawnOf w] = Spec.pawnsOf (abs p) (colorOf w) :=
    countCodes_boardIs hb _ _ (by apply man_cases; cases w <;> decide) (by simpa using zp.symm)
  have k3 : countCodes p.board (pawnOf w :: officersOf w) =
      Spec.pawnsOf (abs p) (colorOf w) + Spec.othersOf (abs p) (colorOf w) := by
    rw [countCodes_boardIs hb _ (fun m => m.color == colorOf w && m.kind != .king)
      (by apply man_cases; cases w <;> decide) (by simpa using ⟨zp.symm, zo⟩)]
    exact countMen_add (abs p) _ _ _ (by apply man_cases; cases w <;> decide)
  exact ⟨by rw [← k1, ← e1], by rw [← k2, ← e2]; exact pl, by rw [← k3, ← e3]; exact ol⟩

theorem backPawn_abs {p : Position} (hI : Inv p) (s : Nat) (hs : s < 64) (c : Spec.Color)
    (h : (abs p).at s = some ⟨c, .pawn⟩) : Spec.rankOf s ≠ 0 ∧ Spec.rankOf s ≠ 7 := by
  have hb := (boardIs_abs hI).2.1 s hs
  rw [h] at hb
  have hne : optCode (some (⟨c, .pawn⟩ : Spec.Man)) ≠ 0 := manCode_ne_zero _
  have hget := getElem?_of_getD hb hne
  have hp : p.board[to88 s]? = some Gen.WPawn ∨ p.board[to88 s]? = some Gen.BPawn := by
    cases c
    · exact Or.inl hget
    · exact Or.inr hget
  obtain ⟨r1, r8⟩ := hI.noBackPawn (to88 s) hp
  rw [rankOf_eq _ (by simp only [to88]; omega)] at r1 r8
  simp only [Gen.Rank1, Gen.Rank8, to88] at r1 r8
  exact ⟨fun e : s / 8 = 0 => by omega, fun e : s / 8 = 7 => by omega⟩

theorem ep_of_abs {p : Position} (hI : Inv p) {e : Nat} (he : (abs p).ep = some e) :
    e < 64 ∧ p.ep = to88 e ∧ EpOk p := by
  have he' : (if isValid p.ep = true then some (to64 p.ep) else none) = some e := he
  have hv : isValid p.ep = true := by
    cases h : isValid p.ep with
    | true => rfl
    | false => rw [h] at he'; cases he'
  rw [if_pos hv] at he'
  have hee : to64 p.ep = e := Option.some.inj he'
  have hEp : EpOk p := hI.ep.resolve_left fun h => by rw [h] at hv; exact absurd hv (by decide)
  have hm : p.ep ∈ sq88 := mem_sq88.2 ⟨hEp.1, hv⟩
  exact ⟨hee ▸ to64_lt hm, hee ▸ (to88_to64 hm).symm, hEp⟩

theorem legalFacts_of_inv {p : Position} (hI : Inv p) (hS : MM.OppSafe p) : LegalFacts (abs p) := by
  obtain ⟨wk1, wp, wm⟩ := counts_abs hI true
  obtain ⟨bk1, bp, bm⟩ := counts_abs hI false
  obtain ⟨c1, c2, c3, c4⟩ := (castling_iff p (boardIs_abs hI) rfl rfl rfl rfl).1 hI.castling
  exact
    { size := by simp [abs, absBoard]
      wKing := wk1, bKing := bk1
      safe := (LegalMoves.oppSafe_iff hI).1 hS
      backPawn := backPawn_abs hI
      wPawns := wp, bPawns := bp, wMen := wm, bMen := bm
      wk := c1, wq := c2, bk := c3, bq := c4
      ep := fun e he =>
        have ⟨h64, hep, hEp⟩ := ep_of_abs hI he
        ⟨h64, (ep_iff p (boardIs_abs hI) (by unfold abs; cases whiteTurn p <;> rfl) h64 hep).1 hEp⟩ }

theorem legal_of_inv {p : Position} (hI : Inv p) (hS : MM.OppSafe p) : Spec.Legal (abs p) = true :=
  legal_of_facts (legalFacts_of_inv hI hS)

theorem legal_iff_oppSafe {p : Position} (hI : Inv p) : Spec.Legal (abs p) = true ↔ MM.OppSafe p :=
  ⟨LegalMoves.oppSafe_of_legal hI, legal_of_inv hI⟩

theorem ply_of_faithful {s : Bytes} {p : Position} (h : FenFaithful s p) :
    ∃ n : Int, 1 ≤ n ∧ n ≤ (Gen.maxFullMoveCounter : Int) ∧ p.ply = 2 * (n - 1) + (if whiteTurn p then 0 else 1) := by
  obtain ⟨_, _, _, _, _, _, _, _, _, _, _, _, _, _, _, _, _, _, _, n, _, h1, h2, h3⟩ := h
  exact ⟨n, h1, h2, h3⟩

end Magog.FenLegal
