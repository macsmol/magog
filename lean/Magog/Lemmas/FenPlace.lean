import Magog.Spec.FenInv
import Magog.Lemmas.Attack

/-! Helper lemmas for property C08 (FEN loading is total and sound): the letter table, the capacity test,
    the placement step as a pure function, and the invariant of the placement scan. A piece code is some
    colour's pawn, king or officer (`code_cases`); what concerns one colour is stated for `p.side w`. -/

namespace Magog.FenLemmas
open Magog Magog.Model Magog.FenSpec Magog.Atk

theorem ite_mem {α : Type} {S : List α} {c : Prop} [Decidable c] {a b : α} (ha : a ∈ S) (hb : b ∈ S) :
    (if c then a else b) ∈ S := by
  split <;> assumption

theorem charToPiece_codes (c : Nat) : charToPiece c = 0 ∨ charToPiece c ∈ pieceCodes := by
  rw [← List.mem_cons]
  unfold charToPiece
  repeat (refine ite_mem (by decide) ?_)
  decide

theorem code_cases : ∀ pc ∈ pieceCodes, ∃ w, pc = pawnOf w ∨ pc = kingOf w ∨ pc ∈ officersOf w := by decide

theorem class_facts : ∀ w : Bool,
    pawnOf w ≠ 0 ∧ kingOf w ≠ 0 ∧ (0 : Nat) ∉ officersOf w ∧ pawnOf w ∉ officersOf w := by decide

theorem pawn_code : ∀ pc ∈ pieceCodes, ((pc &&& Colorless == Pawn) = true ↔ (pc = Gen.WPawn ∨ pc = Gen.BPawn)) := by
  decide

theorem hasRoomFor_pawn (p : Position) (w : Bool) : hasRoomFor p (pawnOf w) =
    (decide ((p.side w).pawns.length < pawnCap) &&
      decide ((p.side w).pawns.length + (p.side w).pieces.length < pieceCap)) := by
  cases w <;> rfl

theorem hasRoomFor_king (p : Position) (w : Bool) : hasRoomFor p (kingOf w) = true := by
  cases w <;> rfl

theorem hasRoomFor_officer (p : Position) {w : Bool} {pc : Nat} (h : pc ∈ officersOf w) :
    hasRoomFor p pc = decide ((p.side w).pawns.length + (p.side w).pieces.length < pieceCap) := by
  have bits : ∀ w : Bool, ∀ pc ∈ officersOf w,
      (pc &&& WhiteBit != 0) = w ∧ (pc &&& Colorless == King) = false ∧ (pc &&& Colorless == Pawn) = false := by
    decide
  obtain ⟨h1, h2, h3⟩ := bits w pc h
  unfold hasRoomFor
  simp only [h1, h2, h3, Bool.false_eq_true, if_false]

theorem room_spec {p : Position} {pc : Nat} (hr : hasRoomFor p pc = true) (w : Bool) :
    (pc = pawnOf w → (p.side w).pawns.length < pawnCap ∧
      (p.side w).pawns.length + (p.side w).pieces.length < pieceCap) ∧
    (pc ∈ officersOf w → (p.side w).pawns.length + (p.side w).pieces.length < pieceCap) := by
  constructor
  · intro e
    rw [e, hasRoomFor_pawn] at hr
    simpa using hr
  · intro m
    rw [hasRoomFor_officer p m] at hr
    simpa using hr

def placePure (p : Position) (sq pc : Nat) : Position :=
  { p with
    board := p.board.setIfInBounds sq pc
    blackKing := if pc = Gen.BKing then sq else p.blackKing
    whiteKing := if pc = Gen.WKing then sq else p.whiteKing
    whitePawns := if pc = Gen.WPawn then p.whitePawns ++ [sq] else p.whitePawns
    blackPawns := if pc = Gen.BPawn then p.blackPawns ++ [sq] else p.blackPawns
    whitePieces := if pc ∈ whitePieceCodes then p.whitePieces ++ [sq] else p.whitePieces
    blackPieces := if pc ∈ blackPieceCodes then p.blackPieces ++ [sq] else p.blackPieces }

theorem fenPlace_ok (p : Position) (sq pc : Nat) (hc : pc ∈ pieceCodes) (hs : p.board.size = 128)
    (hsq : sq < 128) (hr : hasRoomFor p pc = true) : fenPlace p sq pc = .ok (placePure p sq pc) := by
  simp only [pieceCodes, List.mem_cons, List.not_mem_nil, or_false] at hc
  rcases hc with rfl | rfl | rfl | rfl | rfl | rfl | rfl | rfl | rfl | rfl | rfl | rfl
  all_goals
    simp [hasRoomFor, Position.side, WhiteBit, Colorless, King, Pawn, Gen.WhitePieceBit, Gen.ColorlessPiece,
      Gen.King, Gen.Pawn, Gen.WPawn, Gen.WKnight, Gen.WBishop, Gen.WRook, Gen.WQueen, Gen.WKing,
      Gen.BPawn, Gen.BKnight, Gen.BBishop, Gen.BRook, Gen.BQueen, Gen.BKing] at hr
    simp [fenPlace, bset, hs, hsq, placePure, appendCap, WhiteBit, Gen.WhitePieceBit, whitePieceCodes, blackPieceCodes,
      Gen.WPawn, Gen.WKnight, Gen.WBishop, Gen.WRook, Gen.WQueen, Gen.WKing,
      Gen.BPawn, Gen.BKnight, Gen.BBishop, Gen.BRook, Gen.BQueen, Gen.BKing, bind, Except.bind, pure, Except.pure]
    try rw [if_pos (by omega)]

def placeSide (sd : Side) (w : Bool) (sq pc : Nat) : Side :=
  { pieces := if pc ∈ officersOf w then sd.pieces ++ [sq] else sd.pieces
    pawns := if pc = pawnOf w then sd.pawns ++ [sq] else sd.pawns
    king := if pc = kingOf w then sq else sd.king }

theorem placePure_side (p : Position) (sq pc : Nat) (w : Bool) :
    (placePure p sq pc).side w = placeSide (p.side w) w sq pc := by
  cases w <;> rfl

theorem placePure_size (p : Position) (sq v : Nat) : (placePure p sq v).board.size = p.board.size :=
  Array.size_setIfInBounds

theorem placeSide_pawns_length (sd : Side) (w : Bool) (sq pc : Nat) :
    (placeSide sd w sq pc).pawns.length = sd.pawns.length + if pc = pawnOf w then 1 else 0 := by
  by_cases h : pc = pawnOf w <;> simp [placeSide, h]

theorem placeSide_pieces_length (sd : Side) (w : Bool) (sq pc : Nat) :
    (placeSide sd w sq pc).pieces.length = sd.pieces.length + if pc ∈ officersOf w then 1 else 0 := by
  by_cases h : pc ∈ officersOf w <;> simp [placeSide, h]

/-- One colour's lists against the board during the scan, in `getD` reads. The same agreement has two more forms
    downstream: `finalInv` (in `Fen`) turns this one into `ListSound` / `ListComplete` of `Spec/FenInv` (checked
    reads, what C08 claims), and `InvFen.sideOk_of_lists` turns those into `Atk.SideOk`, the form inside `Inv`. -/
structure SidePInv (b : Array Nat) (sd : Side) (w : Bool) : Prop where
  pawns : ∀ i, i ∈ sd.pawns ↔ b.getD i 0 = pawnOf w
  pieces : ∀ i, i ∈ sd.pieces ↔ b.getD i 0 ∈ officersOf w
  pawnsN : sd.pawns.Nodup
  piecesN : sd.pieces.Nodup
  pawnsLen : sd.pawns.length ≤ pawnCap
  len : sd.pawns.length + sd.pieces.length ≤ pieceCap
  king : (∃ i, b.getD i 0 = kingOf w) → b.getD sd.king 0 = kingOf w

/-- Invariant of the placement scan. `K` = number of the rank being filled plus one (ranks `≥ K` are
    complete), `f` = file counter: every non-empty slot lies in the already scanned region.
    The rank being filled, counted as the board rank `i / 16` of its squares, goes under four coordinates:
    `K` = rank + 1 here; `k` = rank in `Faith`, `LetterOk`, `fenRank_spec`; `idx` = 7 − rank, the place of its
    string in the text, in `fenRanks_spec`, `RanksFaith`; `r` = rank · 16, its a-file square, in `Model.fenRank`. -/
structure PInv (K f : Nat) (p : Position) : Prop where
  size : p.board.size = 128
  region : ∀ i, p.board.getD i 0 ≠ 0 → i < 128 ∧ i % 16 < 8 ∧ (K ≤ i / 16 ∨ (i / 16 + 1 = K ∧ i % 16 < f))
  codes : ∀ i, p.board.getD i 0 = 0 ∨ p.board.getD i 0 ∈ pieceCodes
  backPawn : ∀ i, (p.board.getD i 0 = Gen.WPawn ∨ p.board.getD i 0 = Gen.BPawn) → i / 16 ≠ 0 ∧ i / 16 ≠ 7
  side : ∀ w, SidePInv p.board (p.side w) w

theorem PInv.mono {K f f' p} (h : PInv K f p) (hf : f ≤ f') : PInv K f' p :=
  { h with region := fun i hi => by have := h.region i hi; omega }

theorem PInv.empty_at {K f p} (h : PInv K f p) {i : Nat} (hi : ¬ (K ≤ i / 16 ∨ (i / 16 + 1 = K ∧ i % 16 < f))) :
    p.board.getD i 0 = 0 :=
  Decidable.byContradiction fun he => hi (h.region i he).2.2

theorem PInv_empty : PInv 8 0 emptyPosition := by
  have hb : ∀ i, emptyPosition.board.getD i 0 = 0 := by
    intro i
    simp only [emptyPosition, Array.getD_eq_getD_getElem?, Array.getElem?_replicate]
    split <;> rfl
  refine ⟨Array.size_replicate, fun i hi => absurd (hb i) hi, fun i => Or.inl (hb i), fun i hi => ?_, fun w => ?_⟩
  · rw [hb] at hi; exact absurd hi (by decide)
  · obtain ⟨z1, z2, z3, _⟩ := class_facts w
    have e : emptyPosition.side w = ⟨[], [], 0⟩ := by cases w <;> rfl
    rw [e]
    refine ⟨fun i => ?_, fun i => ?_, List.nodup_nil, List.nodup_nil, Nat.zero_le _, Nat.zero_le _, fun ⟨i, hi⟩ => ?_⟩
    · rw [hb]; exact ⟨fun h => (nomatch h), fun h => absurd h.symm z1⟩
    · rw [hb]; exact ⟨fun h => (nomatch h), fun h => absurd h z3⟩
    · rw [hb] at hi; exact absurd hi.symm z2

end Magog.FenLemmas
