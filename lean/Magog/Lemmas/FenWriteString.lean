import Magog.Lemmas.FenWriteTail

/-! C08 round trip: the byte writer `Spec.toFenBytes` IS the UTF-8 byte view of the `String` writer
    `Spec.toFen`, for every legal position (general proof; the text is pure ASCII). -/

namespace Magog.FenWrite
open Magog Magog.Model Magog.FenSpec Magog.FenLemmas

theorem byteArray_loop (data : Array UInt8) : ∀ (k i : Nat) (r : List UInt8), data.size - i = k →
    ByteArray.toList.loop ⟨data⟩ i r = r.reverse ++ data.toList.drop i := by
  intro k
  induction k with
  | zero =>
    intro i r h
    have hs : (ByteArray.mk data).size = data.size := rfl
    rw [ByteArray.toList.loop.eq_def, hs, if_neg (by omega)]
    have : data.toList.length ≤ i := by rw [Array.length_toList]; omega
    rw [List.drop_of_length_le this, List.append_nil]
  | succ k ih =>
    intro i r h
    have hi : i < data.size := by omega
    have hs : (ByteArray.mk data).size = data.size := rfl
    rw [ByteArray.toList.loop.eq_def, hs, if_pos hi, ih (i + 1) _ (by omega)]
    have hlen : i < data.toList.length := by rw [Array.length_toList]; exact hi
    rw [List.drop_eq_getElem_cons hlen]
    have hget : (ByteArray.mk data).get! i = data.toList[i] := by
      show data[i]! = _
      rw [getElem!_pos data i hi, Array.getElem_toList]
    rw [hget, List.reverse_cons, List.append_assoc]
    rfl

theorem byteArray_toList (bs : ByteArray) : bs.toList = bs.data.toList := by
  cases bs with
  | mk data =>
    rw [ByteArray.toList, byteArray_loop data _ 0 [] rfl]
    rfl

theorem encode_ascii : ∀ (l : List Char), (∀ c ∈ l, c.toNat < 128) →
    (l.flatMap String.utf8EncodeChar).map (·.toNat) = l.map Char.toNat := by
  intro l
  induction l with
  | nil => intro _; rfl
  | cons c l ih =>
    intro h
    have hc : c.toNat < 128 := h c (by simp)
    have hsz : c.utf8Size = 1 := by
      have : c.val.toNat < 128 := hc
      simp only [Char.utf8Size]
      rw [if_pos]
      rw [UInt32.le_iff_toNat_le]
      simp only [UInt32.toNat_ofNatLT]
      omega
    rw [List.flatMap_cons, String.utf8EncodeChar_eq_singleton hsz, List.map_append,
      ih (fun c' hc' => h c' (List.mem_cons_of_mem _ hc'))]
    have : c.val.toUInt8.toNat = c.toNat := by
      have : c.val.toNat < 128 := hc
      simp only [Char.toNat, UInt32.toNat_toUInt8]
      omega
    rw [List.map_cons, List.map_nil, this]
    rfl

theorem strBytes_ascii (s : String) (h : ∀ c ∈ s.toList, c.toNat < 128) :
    strBytes s = s.toList.map Char.toNat := by
  unfold strBytes String.toUTF8
  conv => lhs; rw [← String.ofList_toList (s := s)]
  rw [String.toByteArray_ofList, List.utf8Encode.eq_1, byteArray_toList, List.data_toByteArray]
  exact encode_ascii _ h

theorem digits_chars : ∀ (fuel n : Nat) (acc : Bytes), n < fuel →
    Spec.natDigitsAux fuel n acc = (Nat.toDigits 10 n).map Char.toNat ++ acc := by
  have hd : ∀ d, d < 10 → (Nat.digitChar d).toNat = 48 + d := by decide
  intro fuel
  induction fuel with
  | zero => intro n _ h; omega
  | succ fuel ih =>
    intro n acc h
    rw [Spec.natDigitsAux, Nat.toDigits_eq_if (by decide)]
    split
    · next hn => simp [hd n hn]
    · next hn =>
      rw [ih (n / 10) _ (by omega)]
      simp [hd (n % 10) (by omega)]

theorem natDigits_chars (n : Nat) : (toString n).toList.map Char.toNat = Spec.natDigits n := by
  show (Nat.repr n).toList.map Char.toNat = _
  rw [Nat.repr_eq_ofList_toDigits, String.toList_ofList, Spec.natDigits, digits_chars (n + 1) n [] (by omega),
    List.append_nil]

theorem manChar_code (m : Spec.Man) : (Spec.manChar m).toNat = Spec.manByte m := by
  revert m; apply man_cases; decide

theorem gapChar_code : ∀ g, g ≤ 8 → (Char.ofNat (48 + g)).toNat = 48 + g := by decide

theorem rank_chars (P : Spec.Pos) (r : Nat) : ∀ (fuel f gap : Nat), gap + fuel ≤ 8 →
    (Spec.fenRankChars.go P r f fuel gap).map Char.toNat = Spec.fenRankBytes.go P r f fuel gap := by
  intro fuel
  induction fuel with
  | zero =>
    intro f gap h
    rw [Spec.fenRankChars.go, Spec.fenRankBytes.go]
    split
    · simp [gapChar_code gap (by omega)]
    · rfl
  | succ fuel ih =>
    intro f gap h
    rw [Spec.fenRankChars.go, Spec.fenRankBytes.go]
    cases hm : P.at (Spec.mkSq f r) with
    | none => exact ih (f + 1) (gap + 1) (by omega)
    | some m =>
      dsimp only
      rw [List.map_append, List.map_cons, ih (f + 1) 0 (by omega), manChar_code]
      by_cases hg : gap > 0
      · simp [hg, gapChar_code gap (by omega)]
      · simp [hg]

theorem rankChars_code (P : Spec.Pos) (r : Nat) :
    (Spec.fenRankChars P r).map Char.toNat = Spec.fenRankBytes P r :=
  rank_chars P r 8 0 0 (by omega)

theorem castle_chars (wk wq bk bq : Bool) :
    ((let c := (if wk then "K" else "") ++ (if wq then "Q" else "") ++ (if bk then "k" else "") ++ (if bq then "q" else "")
      if c == "" then "-" else c).toList.map Char.toNat) =
    (let c : Bytes := (if wk then [75] else []) ++ (if wq then [81] else []) ++ (if bk then [107] else []) ++
        (if bq then [113] else [])
      if c == [] then [45] else c) := by
  cases wk <;> cases wq <;> cases bk <;> cases bq <;> decide +kernel

theorem sqName_chars (s : Nat) (hs : s < 64) : (Spec.sqName s).toList.map Char.toNat = Spec.sqNameBytes s := by
  have h1 : ∀ f, f < 8 → (Char.ofNat (97 + f)).toNat = 97 + f := by decide
  have h2 : ∀ r, r < 8 → (Char.ofNat (49 + r)).toNat = 49 + r := by decide
  have hf : Spec.fileOf s < 8 := by show s % 8 < 8; omega
  have hr : Spec.rankOf s < 8 := by show s / 8 < 8; omega
  simp [Spec.sqName, Spec.sqNameBytes, h1 _ hf, h2 _ hr]

theorem toFen_chars (P : Spec.Pos) (n : Nat) (hep : ∀ e : Nat, P.ep = some e → e < 64) :
    (Spec.toFen P n).toList.map Char.toNat = Spec.toFenBytes P n := by
  have s1 : (" " : String).toList = [' '] := by decide
  have s2 : (" 0 " : String).toList = [' ', '0', ' '] := by decide
  have s3 : ("/" : String).toList = ['/'] := by decide
  have hturn : (if P.turn == .white then "w" else "b").toList.map Char.toNat =
      (if P.turn == .white then [119] else [98]) := by
    cases P.turn <;> decide
  have hc := castle_chars P.wk P.wq P.bk P.bq
  have c32 : ' '.toNat = 32 := rfl
  have c47 : '/'.toNat = 47 := rfl
  have c48 : '0'.toNat = 48 := rfl
  unfold Spec.toFen Spec.toFenBytes Spec.epBytes
  cases he : P.ep with
  | none =>
    have s4 : ("-" : String).toList = ['-'] := by decide
    have c45 : '-'.toNat = 45 := rfl
    simp only [String.toList_append, String.toList_intercalate, List.map_append, hturn, natDigits_chars, s1, s2, s3, s4]
    rw [hc]
    simp only [List.map_cons, List.map_nil, String.toList_ofList, List.intercalate, List.intersperse, List.flatten_cons,
      List.flatten_nil, List.map_append, rankChars_code, Spec.joinBytes, Spec.castleBytes, List.append_assoc,
      List.cons_append, List.nil_append, List.append_nil, c32, c47, c48, c45]
  | some e =>
    have hsq := sqName_chars e (hep e he)
    simp only [String.toList_append, String.toList_intercalate, List.map_append, hturn, natDigits_chars, s1, s2, s3, hsq]
    rw [hc]
    simp only [List.map_cons, List.map_nil, String.toList_ofList, List.intercalate, List.intersperse, List.flatten_cons,
      List.flatten_nil, List.map_append, rankChars_code, Spec.joinBytes, Spec.castleBytes, List.append_assoc,
      List.cons_append, List.nil_append, List.append_nil, c32, c47, c48]

theorem toFen_bytes {P : Spec.Pos} (hLegal : Spec.Legal P = true) (n : Nat) :
    strBytes (Spec.toFen P n) = Spec.toFenBytes P n := by
  have hL := legalFacts hLegal
  have hchars := toFen_chars P n (fun e he => (hL.ep e he).1)
  rw [strBytes_ascii, hchars]
  intro c hc
  have : c.toNat ∈ Spec.toFenBytes P n := by
    rw [← hchars]; exact List.mem_map.2 ⟨c, hc, rfl⟩
  have := (split_fields hL n).2 _ this
  omega

end Magog.FenWrite
