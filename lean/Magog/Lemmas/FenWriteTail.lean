import Magog.Lemmas.FenWriteCount
import Magog.Lemmas.FenFaithful

/-! C08 round trip, assembly: the text written by `Spec.toFenBytes` for a legal position passes every test
    of the loader, and the loaded position abstracts to the position written. -/

namespace Magog.FenWrite
open Magog Magog.Model Magog.FenSpec Magog.FenLemmas Magog.Atk

theorem optCode_pawn {o : Option Spec.Man} (h : optCode o = Gen.WPawn ∨ optCode o = Gen.BPawn) :
    ∃ c, o = some ⟨c, .pawn⟩ := by
  cases o with
  | none => exact absurd h (by decide)
  | some m =>
    obtain ⟨c, k⟩ := m
    cases k
    · exact ⟨c, rfl⟩
    all_goals (cases c <;> exact absurd h (by decide))

theorem expand_rank_get (P : Spec.Pos) (r j : Nat) (hj : j < 8) :
    (expandRank (Spec.fenRankBytes P r))[j]? = some (optCode (P.at (Spec.mkSq j r))) := by
  rw [expand_rank, List.getElem?_map, List.getElem?_range hj]
  rfl

theorem rank_noPawn {P : Spec.Pos} (hL : LegalFacts P) {r : Nat} (hr : r = 0 ∨ r = 7) :
    NoPawn (expandRank (Spec.fenRankBytes P r)) := by
  intro v hv
  rw [expand_rank, List.mem_map] at hv
  obtain ⟨x, hx, rfl⟩ := hv
  have hx8 : x < 8 := List.mem_range.1 hx
  have key : ¬ (optCode (P.at (Spec.mkSq x r)) = Gen.WPawn ∨ optCode (P.at (Spec.mkSq x r)) = Gen.BPawn) := by
    intro hp
    obtain ⟨c, hc⟩ := optCode_pawn hp
    have := hL.backPawn (Spec.mkSq x r) (show (r * 8 + x : Nat) < 64 by omega) c hc
    rw [show Spec.rankOf (Spec.mkSq x r) = (r * 8 + x) / 8 from rfl] at this
    omega
  exact ⟨fun e => key (Or.inl e), fun e => key (Or.inr e)⟩

theorem placement_accept {P : Spec.Pos} (hL : LegalFacts P) :
    ∃ p0, fenRanks (rankRows P) 0 emptyPosition = .ok (.ok p0) ∧ PInv 0 0 p0 ∧ BoardIs P p0.board := by
  obtain ⟨r, hp0, hspec, hacc⟩ := fenRanks_spec (rankRows P) 0 emptyPosition rfl PInv_empty
  obtain ⟨p0, rfl⟩ := hacc
    (fun row hrow => by
      obtain ⟨r, _, rfl⟩ := rankRows_mem P row hrow
      exact ⟨fun c hc => (rank_bytes P r c hc).2.2.2, by simp [expand_rank]⟩)
    (fun m row hrow hm => by
      obtain ⟨hm8, rfl⟩ := rankRows_get_inv P m row hrow
      exact rank_noPawn hL (by omega))
    (room_of_legal hL)
  obtain ⟨hP, hF, _⟩ := hspec p0 rfl
  refine ⟨p0, hp0, hP, hP.size, ?_, ?_⟩
  · intro i hi
    obtain ⟨_, hrow⟩ := hF (7 - i / 8) _ (rankRows_get P (7 - i / 8) (by omega))
    have e7 : 7 - (7 - i / 8) = i / 8 := by omega
    rw [e7] at hrow
    have := hrow (i % 8) _ (expand_rank_get P (i / 8) (i % 8) (by omega))
    simp only [Nat.zero_add, e7] at this
    have e2 : Spec.mkSq (i % 8) (i / 8) = i := by
      show (i / 8 * 8 + i % 8 : Nat) = i
      omega
    rw [e2] at this
    exact this
  · intro i hi hv
    by_cases hz : p0.board.getD i 0 = 0
    · exact hz
    · have := hP.region i hz; omega

theorem BoardIs.abs {P : Spec.Pos} {b : Array Nat} (hb : BoardIs P b) (hs : P.board.size = 64) :
    absBoard b = P.board := by
  apply Array.ext
  · simp [absBoard, hs]
  · intro i h1 h2
    simp only [absBoard, Array.size_ofFn] at h1
    simp only [absBoard, Array.getElem_ofFn, hb.2.1 i h1, decode_optCode, Spec.Pos.at]
    simp [Array.getD_eq_getD_getElem?, h2]

def turnBytes (P : Spec.Pos) : Bytes := if P.turn == .white then [119] else [98]

def fieldsOf (P : Spec.Pos) (n : Nat) : List Bytes :=
  [Spec.joinBytes 47 (rankRows P), turnBytes P, Spec.castleBytes P, Spec.epBytes P, [48], Spec.natDigits n]

/-- sixteen cases: which letters the castling field written for four rights contains, and that it is ASCII without
    a space -/
theorem castle_sweep : ∀ wk wq bk bq : Bool,
    let c := Spec.castleBytes ⟨#[], .white, wk, wq, bk, bq, none⟩
    containsByte c 75 = wk ∧ containsByte c 81 = wq ∧ containsByte c 107 = bk ∧ containsByte c 113 = bq ∧
    ∀ x ∈ c, x ≠ 32 ∧ x ≤ 127 := by decide

theorem castle_facts (P : Spec.Pos) :
    containsByte (Spec.castleBytes P) 75 = P.wk ∧ containsByte (Spec.castleBytes P) 81 = P.wq ∧
    containsByte (Spec.castleBytes P) 107 = P.bk ∧ containsByte (Spec.castleBytes P) 113 = P.bq ∧
    ∀ c ∈ Spec.castleBytes P, c ≠ 32 ∧ c ≤ 127 := castle_sweep P.wk P.wq P.bk P.bq

theorem turn_bytes (P : Spec.Pos) :
    (turnBytes P = [119] ∨ turnBytes P = [98]) ∧ (turnBytes P == [119]) = (P.turn == .white) ∧
    ∀ c ∈ turnBytes P, c ≠ 32 ∧ c ≤ 127 := by
  unfold turnBytes
  cases P.turn <;> decide

def epOf (P : Spec.Pos) : Nat := match P.ep with | some e => to88 e | none => InvalidSq

theorem ep_rank {P : Spec.Pos} (hL : LegalFacts P) {e : Nat} (he : P.ep = some e) : e < 64 ∧ (e / 8 = 5 ∨ e / 8 = 2) := by
  obtain ⟨h64, hw, hb⟩ := hL.ep e he
  refine ⟨h64, ?_⟩
  cases ht : P.turn with
  | white => exact Or.inl (hw ht).1
  | black => exact Or.inr (hb ht).1

theorem ep_field {P : Spec.Pos} (hL : LegalFacts P) :
    epParse (Spec.epBytes P) = .ok (epOf P) ∧ (Spec.epBytes P).length ≤ 2 ∧
    ∀ c ∈ Spec.epBytes P, c ≠ 32 ∧ c ≤ 127 := by
  unfold Spec.epBytes epOf
  cases he : P.ep with
  | none => exact ⟨rfl, by decide, by decide⟩
  | some e =>
    obtain ⟨h64, hr⟩ := ep_rank hL he
    refine ⟨(epParse_ok_iff _ _).2 (Or.inr ⟨97 + e % 8, 49 + e / 8, rfl, by omega, by omega, by omega, ?_⟩),
      Nat.le_refl 2, fun c hc => ?_⟩
    · simp only [to88]; omega
    · have : c = 97 + e % 8 ∨ c = 49 + e / 8 := by simpa [Spec.sqNameBytes, Spec.fileOf, Spec.rankOf] using hc
      omega

theorem optCode_inj {o o' : Option Spec.Man} : optCode o = optCode o' ↔ o = o' :=
  ⟨fun h => by rw [← decode_optCode o, h, decode_optCode], congrArg _⟩

theorem BoardIs.read {P : Spec.Pos} {b : Array Nat} (hb : BoardIs P b) {i : Nat} (hi : i < 64) (o : Option Spec.Man) :
    b[to88 i]? = some (optCode o) ↔ P.at i = o := by
  rw [getElem?_iff_getD (d := 0) (by rw [hb.1]; simp only [to88]; omega), hb.2.1 _ hi]
  exact optCode_inj

theorem ep_iff {P : Spec.Pos} {e : Nat} (p : Position) (hb : BoardIs P p.board)
    (hw : whiteTurn p = (P.turn == .white)) (h64 : e < 64) (hep : p.ep = to88 e) :
    EpOk p ↔
      (P.turn = .white → Spec.rankOf e = 5 ∧ P.at e = none ∧ P.at (e - 8) = some ⟨.black, .pawn⟩ ∧ P.at (e + 8) = none) ∧
      (P.turn = .black → Spec.rankOf e = 2 ∧ P.at e = none ∧ P.at (e + 8) = some ⟨.white, .pawn⟩ ∧ P.at (e - 8) = none) := by
  obtain ⟨h128, hv⟩ := Geo.mem_sq88.1 (to88_mem h64)
  have g : to88 e - 16 = to88 (e - 8) ∧ to88 e + 16 = to88 (e + 8) := by simp only [to88]; omega
  -- one colour: on rank `r`, the pawn `m` on `f` in front of `e`, nothing on `k` behind. Only the rank tells that
  -- `f` and `k` are squares of the board, so it is brought to the front and the three reads are translated under it
  have side : ∀ (r f k : Nat) (m : Spec.Man), (e / 8 = r → f < 64 ∧ k < 64) →
      (p.board[to88 e]? = some 0 ∧ to88 e / 16 * 16 = r * 16 ∧ p.board[to88 f]? = some (manCode m) ∧
          p.board[to88 k]? = some 0 ↔
        Spec.rankOf e = r ∧ P.at e = none ∧ P.at f = some m ∧ P.at k = none) := by
    intro r f k m hg
    have hr : to88 e / 16 * 16 = r * 16 ↔ e / 8 = r := by simp only [to88]; omega
    rw [hr, and_left_comm]
    refine and_congr_right fun hr => ?_
    obtain ⟨g1, g2⟩ := hg hr
    exact and_congr (hb.read h64 none) (and_congr (hb.read g1 (some m)) (hb.read g2 none))
  unfold EpOk
  rw [hep, hw, rankOf_eq _ h128]
  simp only [h128, hv, true_and, Gen.UnitRank, g.1, g.2]
  cases P.turn
  · simp only [beq_self_eq_true, if_true, forall_const, reduceCtorEq, false_imp_iff, and_true]
    exact side 5 (e - 8) (e + 8) ⟨.black, .pawn⟩ fun h => by omega
  · simp only [show (Spec.Color.black == Spec.Color.white) = false from rfl, Bool.false_eq_true, if_false, forall_const,
      reduceCtorEq, false_imp_iff, true_and]
    exact side 2 (e + 8) (e - 8) ⟨.white, .pawn⟩ fun h => by omega

theorem epConsistent_of {P : Spec.Pos} (hL : LegalFacts P) {p0 : Position} (hP : PInv 0 0 p0)
    (hb : BoardIs P p0.board) (flags : Nat) (hw : (flags &&& FWhiteTurn != 0) = (P.turn == .white)) :
    epOf P = InvalidSq ∨ epConsistent { p0 with flags := flags, ep := epOf P } = .ok true := by
  unfold epOf
  cases he : P.ep with
  | none => exact Or.inl rfl
  | some e =>
    obtain ⟨h64, hr⟩ := ep_rank hL he
    refine Or.inr (Iff.mpr (epConsistent_iff _ hb.1 (by simp only [to88]; omega) (by simp only [to88]; omega)
      fun i hi => ⟨(hP.region i hi).1, (hP.region i hi).2.1⟩) ?_)
    exact Iff.mpr (ep_iff _ hb hw h64 rfl) (hL.ep e he).2

/-- one clause of `castlingConsistent` -/
theorem corner_iff {flag : Bool} {a b ka kb : Nat} :
    (!(flag && (a != ka || b != kb))) = true ↔ (flag = true → a = ka ∧ b = kb) := by
  cases flag <;> simp

theorem castling_iff {P : Spec.Pos} (p : Position) (hb : BoardIs P p.board)
    (h1 : (p.flags &&& FWK != 0) = P.wk) (h2 : (p.flags &&& FWQ != 0) = P.wq)
    (h3 : (p.flags &&& FBK != 0) = P.bk) (h4 : (p.flags &&& FBQ != 0) = P.bq) :
    castlingConsistent p = true ↔
      (P.wk = true → P.at 4 = some ⟨.white, .king⟩ ∧ P.at 7 = some ⟨.white, .rook⟩) ∧
      (P.wq = true → P.at 4 = some ⟨.white, .king⟩ ∧ P.at 0 = some ⟨.white, .rook⟩) ∧
      (P.bk = true → P.at 60 = some ⟨.black, .king⟩ ∧ P.at 63 = some ⟨.black, .rook⟩) ∧
      (P.bq = true → P.at 60 = some ⟨.black, .king⟩ ∧ P.at 56 = some ⟨.black, .rook⟩) := by
  have home : ∀ {i j : Nat} (m m' : Spec.Man) {flag : Bool}, i < 64 → j < 64 →
      ((flag = true → p.board.getD (to88 i) 0 = manCode m ∧ p.board.getD (to88 j) 0 = manCode m') ↔
        (flag = true → P.at i = some m ∧ P.at j = some m')) := fun m m' _ hi hj => by
    rw [hb.2.1 _ hi, hb.2.1 _ hj]
    exact imp_congr_right fun _ => and_congr (optCode_inj (o' := some m)) (optCode_inj (o' := some m'))
  unfold castlingConsistent
  dsimp only
  rw [h1, h2, h3, h4]
  simp only [Bool.and_eq_true, corner_iff, and_assoc]
  exact and_congr (home (i := 4) (j := 7) ⟨.white, .king⟩ ⟨.white, .rook⟩ (by omega) (by omega))
    (and_congr (home (i := 4) (j := 0) ⟨.white, .king⟩ ⟨.white, .rook⟩ (by omega) (by omega))
    (and_congr (home (i := 60) (j := 63) ⟨.black, .king⟩ ⟨.black, .rook⟩ (by omega) (by omega))
      (home (i := 60) (j := 56) ⟨.black, .king⟩ ⟨.black, .rook⟩ (by omega) (by omega))))

theorem oppCheck_of {P : Spec.Pos} (hL : LegalFacts P) {p0 : Position} (hP : PInv 0 0 p0)
    (hb : BoardIs P p0.board) (flags ep : Nat) (hw : (flags &&& FWhiteTurn != 0) = (P.turn == .white)) :
    MM.OppSafe { p0 with flags := flags, ep := ep } := by
  obtain ⟨hbo, hs⟩ := placed_sides p0 hP (by rw [← hL.wKing]; exact countKings_boardIs hb .white)
    (by rw [← hL.bKing]; exact countKings_boardIs hb .black)
  rw [MM.OppSafe, oppCheck_eq { p0 with flags := flags, ep := ep } hbo hs,
    show whiteTurn { p0 with flags := flags, ep := ep } = (P.turn == .white) from hw, hb.abs hL.size,
    show Atk.colorOf (!(P.turn == .white)) = P.turn.other by cases P.turn <;> rfl, hL.safe]

theorem toFenBytes_eq (P : Spec.Pos) (n : Nat) : Spec.toFenBytes P n = Spec.joinBytes 32 (fieldsOf P n) := by
  simp only [Spec.toFenBytes, fieldsOf, Spec.joinBytes, rankRows, turnBytes, List.append_assoc, List.cons_append,
    List.nil_append]

theorem field_bytes {P : Spec.Pos} (hL : LegalFacts P) (n : Nat) : ∀ r ∈ fieldsOf P n, ∀ c ∈ r, c ≠ 32 ∧ c ≤ 127 := by
  intro r hr c hc
  simp only [fieldsOf, List.mem_cons, List.not_mem_nil, or_false] at hr
  rcases hr with rfl | rfl | rfl | rfl | rfl | rfl
  · rcases mem_join _ hc with rfl | ⟨row, hrow, hcr⟩
    · decide
    · obtain ⟨r, _, rfl⟩ := rankRows_mem P row hrow
      exact ⟨(rank_bytes P r c hcr).2.1, (rank_bytes P r c hcr).2.2.1⟩
  · exact (turn_bytes P).2.2 c hc
  · exact (castle_facts P).2.2.2.2 c hc
  · exact (ep_field hL).2.2 c hc
  · rw [List.mem_singleton.1 hc]; decide
  · have := (natDigits_spec n).2.1 c hc
    omega

theorem split_fields {P : Spec.Pos} (hL : LegalFacts P) (n : Nat) :
    splitOn 32 (Spec.toFenBytes P n) = fieldsOf P n ∧ ∀ c ∈ Spec.toFenBytes P n, c ≤ 127 := by
  rw [toFenBytes_eq]
  refine ⟨splitOn_join 32 _ (by simp [fieldsOf]) fun r hr h => (field_bytes hL n r hr 32 h).1 rfl, fun c hc => ?_⟩
  rcases mem_join _ hc with rfl | ⟨r, hr, hcr⟩
  · decide
  · exact (field_bytes hL n r hr c hcr).2

theorem split_ranks (P : Spec.Pos) : splitOn 47 (Spec.joinBytes 47 (rankRows P)) = rankRows P := by
  apply splitOn_join 47 (rankRows P) (by simp [rankRows])
  intro row hrow h
  obtain ⟨r, _, rfl⟩ := rankRows_mem P row hrow
  exact (rank_bytes P r 47 h).1 rfl

theorem abs_loaded {P : Spec.Pos} (hL : LegalFacts P) {p0 : Position} (hb : BoardIs P p0.board) (flags : Nat) (ply : Int)
    (h0 : (flags &&& FWhiteTurn != 0) = (P.turn == .white))
    (h1 : (flags &&& FWK != 0) = P.wk) (h2 : (flags &&& FWQ != 0) = P.wq)
    (h3 : (flags &&& FBK != 0) = P.bk) (h4 : (flags &&& FBQ != 0) = P.bq) :
    abs { p0 with flags := flags, ep := epOf P, ply := ply } = P := by
  apply pos_ext
  · exact hb.abs hL.size
  · show (if (flags &&& FWhiteTurn != 0) = true then Spec.Color.white else Spec.Color.black) = P.turn
    rw [h0]
    cases P.turn <;> rfl
  · exact h1
  · exact h2
  · exact h3
  · exact h4
  · show (if isValid (epOf P) = true then some (to64 (epOf P)) else none) = P.ep
    unfold epOf
    cases he : P.ep with
    | none => rfl
    | some e =>
      have h64 := (hL.ep e he).1
      rw [if_pos (Geo.mem_sq88.1 (Atk.to88_mem h64)).2, Atk.to64_to88 h64]

theorem roundtrip {P : Spec.Pos} {n : Nat} (hLegal : Spec.Legal P = true) (h1 : 1 ≤ n)
    (h2 : n ≤ Gen.maxFullMoveCounter) :
    ∃ p, parseFen (Spec.toFenBytes P n) = .ok (.ok p) ∧ abs p = P ∧
      p.ply = 2 * ((n : Int) - 1) + (if P.turn = .white then 0 else 1) := by
  have hL := legalFacts hLegal
  obtain ⟨hsplit, hascii⟩ := split_fields hL n
  obtain ⟨p0, hp0, hP, hb⟩ := placement_accept hL
  obtain ⟨ht1, ht2, _⟩ := turn_bytes P
  obtain ⟨he1, he2, _⟩ := ep_field hL
  obtain ⟨c1, c2, c3, c4, _⟩ := castle_facts P
  obtain ⟨g0, g1, g2, g3, g4, _⟩ := flagsOf_bits (fieldsOf P n)
  have g0 := g0.trans ht2
  have g1 := g1.trans c1
  have g2 := g2.trans c2
  have g3 := g3.trans c3
  have g4 := g4.trans c4
  have hrows : splitOn 47 ((fieldsOf P n).getD 0 []) = rankRows P := split_ranks P
  -- from here on the flags are a variable: only their five bits matter, and the term `flagsOf (fieldsOf P n)` is
  -- dear to unify against
  generalize hfl : flagsOf (fieldsOf P n) = fl at g0 g1 g2 g3 g4
  have hacc : Accepts (Spec.toFenBytes P n)
      { p0 with flags := fl, ep := epOf P, ply := 2 * ((n : Int) - 1) + (if fl &&& FWhiteTurn = 0 then 1 else 0) } := by
    unfold Accepts TailOk EpStageOk PlyOk
    rw [hsplit, hrows, hfl]
    -- one component per test, in the order listed at `Accepts`
    exact ⟨hascii, rfl, rfl, p0, hp0,
      ⟨by rw [← hL.wKing]; exact countKings_boardIs hb .white, by rw [← hL.bKing]; exact countKings_boardIs hb .black⟩,
      ht1, he2, epOf P, he1, epConsistent_of hL hP hb fl g0,
      Iff.mpr (castling_iff { p0 with flags := fl, ep := epOf P } hb g1 g2 g3 g4) ⟨hL.wk, hL.wq, hL.bk, hL.bq⟩,
      oppCheck_of hL hP hb fl (epOf P) g0,
      n, (atoi_natDigits n).trans (if_pos (by simp only [Gen.maxFullMoveCounter] at h2; omega)), by omega,
      by exact_mod_cast h2, rfl⟩
  refine ⟨_, ok_of_accepts hacc, abs_loaded hL hb _ _ g0 g1 g2 g3 g4, ?_⟩
  show 2 * ((n : Int) - 1) + (if fl &&& FWhiteTurn = 0 then 1 else 0) = _
  cases ht : P.turn <;> rw [ht] at g0
  · have g0 : (fl &&& FWhiteTurn != 0) = true := g0
    rw [if_neg (by simpa using g0), if_pos rfl]
  · have g0 : (fl &&& FWhiteTurn != 0) = false := g0
    rw [if_pos (by simpa using g0), if_neg (by decide)]

def fenPrefix (P : Spec.Pos) : Bytes :=
  Spec.joinBytes 47 (rankRows P) ++ [32] ++ turnBytes P ++ [32] ++ Spec.castleBytes P ++ [32] ++
    Spec.epBytes P ++ [32, 48, 32]

theorem toFenBytes_prefix (P : Spec.Pos) (n : Nat) : Spec.toFenBytes P n = fenPrefix P ++ Spec.natDigits n := rfl

theorem natDigits_inj {n m : Nat} (h : Spec.natDigits n = Spec.natDigits m) : n = m := by
  rw [← (natDigits_spec n).2.2, ← (natDigits_spec m).2.2, h]

theorem toFenBytes_inj {P Q : Spec.Pos} {n m : Nat} (hP : Spec.Legal P = true) (hQ : Spec.Legal Q = true)
    (h : Spec.toFenBytes P n = Spec.toFenBytes Q m) : P = Q ∧ n = m := by
  have s1 := (split_fields (legalFacts hP) n).1
  have s2 := (split_fields (legalFacts hQ) m).1
  rw [h, s2] at s1
  have hd : Spec.natDigits m = Spec.natDigits n := by
    have := congrArg (fun l => l.getD 5 []) s1
    exact this
  have hnm := (natDigits_inj hd).symm
  subst hnm
  refine ⟨?_, rfl⟩
  rw [toFenBytes_prefix, toFenBytes_prefix] at h
  have hpre := List.append_cancel_right h
  have h1 : Spec.toFenBytes P 1 = Spec.toFenBytes Q 1 := by rw [toFenBytes_prefix, toFenBytes_prefix, hpre]
  obtain ⟨p, hp, hpa, _⟩ := roundtrip hP (Nat.le_refl 1) (by decide)
  obtain ⟨q, hq, hqa, _⟩ := roundtrip hQ (Nat.le_refl 1) (by decide)
  rw [h1, hq] at hp
  have : q = p := Except.ok.inj (Except.ok.inj hp)
  rw [← hpa, ← hqa, this]

theorem range_necessary {P : Spec.Pos} {n : Nat} (hLegal : Spec.Legal P = true)
    (hn : n < 1 ∨ Gen.maxFullMoveCounter < n) : ∀ p, parseFen (Spec.toFenBytes P n) ≠ .ok (.ok p) := by
  intro p hp
  -- of `Accepts`, only the `PlyOk` end: the move number `k` and its two bounds
  obtain ⟨_, _, _, _, _, _, _, _, _, _, _, _, _, k, hk, hk1, hk2, _⟩ := accepts_of_ok hp
  rw [(split_fields (legalFacts hLegal) n).1] at hk
  change atoi (Spec.natDigits n) = some k at hk
  rw [atoi_natDigits] at hk
  split at hk
  · have : (n : Int) = k := Option.some.inj hk
    have hk2' : k ≤ 9999 := by simpa [Gen.maxFullMoveCounter] using hk2
    simp only [Gen.maxFullMoveCounter] at hn
    omega
  · cases hk

end Magog.FenWrite
