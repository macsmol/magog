import Magog.Spec.FenBytes
import Magog.Lemmas.FenPlace
import Magog.Abs

/-! C08 round trip, text level: the byte writer `Spec.toFenBytes` against the loader's text primitives
    (`splitOn`, `atoi`, `charToPiece`, `expandRank`). -/

namespace Magog.FenWrite
open Magog Magog.Model Magog.FenSpec Magog.FenLemmas

theorem splitOn_ne_nil (sep : Nat) (s : Bytes) : splitOn sep s ≠ [] := by
  induction s with
  | nil => simp [splitOn]
  | cons c cs ih =>
    rw [splitOn]
    split
    · simp
    · split <;> simp

theorem splitOn_prefix (sep : Nat) {rest f : Bytes} {fs : List Bytes} (h : splitOn sep rest = f :: fs) :
    ∀ (a : Bytes), sep ∉ a → splitOn sep (a ++ rest) = (a ++ f) :: fs := by
  intro a
  induction a with
  | nil => intro _; exact h
  | cons c cs ih =>
    intro hn
    simp only [List.mem_cons, not_or] at hn
    have hc : (c == sep) = false := by simpa using fun e => hn.1 e.symm
    rw [List.cons_append, splitOn, hc, ih hn.2]
    rfl

theorem splitOn_noSep (sep : Nat) (a : Bytes) (h : sep ∉ a) : splitOn sep a = [a] := by
  have := splitOn_prefix sep (rest := []) rfl a h
  rwa [List.append_nil] at this

theorem splitOn_append (sep : Nat) (b a : Bytes) (h : sep ∉ a) :
    splitOn sep (a ++ sep :: b) = a :: splitOn sep b := by
  have := splitOn_prefix sep (rest := sep :: b) (by rw [splitOn, if_pos (beq_self_eq_true sep)]) a h
  rwa [List.append_nil] at this

theorem splitOn_join (sep : Nat) : ∀ (rows : List Bytes), rows ≠ [] → (∀ r ∈ rows, sep ∉ r) →
    splitOn sep (Spec.joinBytes sep rows) = rows := by
  intro rows
  induction rows with
  | nil => intro h; exact absurd rfl h
  | cons x rest ih =>
    intro _ hs
    cases rest with
    | nil => exact splitOn_noSep sep x (hs x (by simp))
    | cons y rest =>
      rw [Spec.joinBytes, splitOn_append sep _ x (hs x (by simp)),
        ih (by simp) (fun r hr => hs r (List.mem_cons_of_mem _ hr))]

theorem mem_join {sep c : Nat} : ∀ (rows : List Bytes), c ∈ Spec.joinBytes sep rows →
    c = sep ∨ ∃ r ∈ rows, c ∈ r := by
  intro rows
  induction rows with
  | nil => intro h; simp [Spec.joinBytes] at h
  | cons x rest ih =>
    intro h
    cases rest with
    | nil => exact Or.inr ⟨x, by simp, by simpa [Spec.joinBytes] using h⟩
    | cons y rest =>
      rw [Spec.joinBytes] at h
      rcases List.mem_append.1 h with h | h
      · exact Or.inr ⟨x, by simp, h⟩
      · rcases List.mem_cons.1 h with h | h
        · exact Or.inl h
        · rcases ih h with h | ⟨r, hr, hc⟩
          · exact Or.inl h
          · exact Or.inr ⟨r, List.mem_cons_of_mem _ hr, hc⟩

theorem digitsVal_append (ds es : Bytes) (a : Nat) : digitsVal (ds ++ es) a = digitsVal es (digitsVal ds a) := by
  induction ds generalizing a with
  | nil => rfl
  | cons d ds ih => simp only [List.cons_append, digitsVal, ih]

theorem natDigitsAux_spec : ∀ (fuel n : Nat) (acc : Bytes), n < fuel →
    ∃ ds : Bytes, Spec.natDigitsAux fuel n acc = ds ++ acc ∧ ds ≠ [] ∧ (∀ d ∈ ds, 48 ≤ d ∧ d ≤ 57) ∧
      digitsVal ds 0 = n := by
  intro fuel
  induction fuel with
  | zero => intro n _ h; omega
  | succ fuel ih =>
    intro n acc h
    rw [Spec.natDigitsAux]
    split
    · next hn =>
      refine ⟨[48 + n], rfl, by simp, ?_, ?_⟩
      · intro d hd; simp only [List.mem_singleton] at hd; omega
      · simp [digitsVal]
    · next hn =>
      obtain ⟨ds, h1, h2, h3, h4⟩ := ih (n / 10) ((48 + n % 10) :: acc) (by omega)
      refine ⟨ds ++ [48 + n % 10], by rw [h1]; simp, by simp, ?_, ?_⟩
      · intro d hd
        rcases List.mem_append.1 hd with hd | hd
        · exact h3 d hd
        · simp only [List.mem_singleton] at hd; omega
      · rw [digitsVal_append, h4]
        simp only [digitsVal]
        omega

theorem natDigits_spec (n : Nat) :
    Spec.natDigits n ≠ [] ∧ (∀ d ∈ Spec.natDigits n, 48 ≤ d ∧ d ≤ 57) ∧ digitsVal (Spec.natDigits n) 0 = n := by
  obtain ⟨ds, h1, h2, h3, h4⟩ := natDigitsAux_spec (n + 1) n [] (by omega)
  unfold Spec.natDigits
  rw [h1, List.append_nil]
  exact ⟨h2, h3, h4⟩

theorem atoi_of_digits {ds : Bytes} (hne : ds ≠ []) (hd : ∀ d ∈ ds, 48 ≤ d ∧ d ≤ 57) :
    atoi ds = if digitsVal ds 0 ≤ 9223372036854775807 then some (digitsVal ds 0 : Int) else none := by
  have hall : ds.all isDigit = true := List.all_eq_true.2 fun d h => by simp [isDigit, hd d h]
  have hemp : ds.isEmpty = false := by
    cases ds with
    | nil => exact absurd rfl hne
    | cons _ _ => rfl
  unfold atoi
  split
  next neg ds' heq =>
    split at heq
    · have := (hd 45 (List.mem_cons_self ..)).1; omega
    · have := (hd 43 (List.mem_cons_self ..)).1; omega
    · obtain ⟨rfl, rfl⟩ := Prod.mk.inj heq
      simp only [hemp, hall, Bool.not_true, Bool.or_self, Bool.false_eq_true, if_false]
      by_cases hv : digitsVal ds 0 ≤ 9223372036854775807
      · rw [if_pos hv, if_neg (by simp only [Bool.or_eq_true, decide_eq_true_eq]; omega)]
      · rw [if_neg hv, if_pos (by simp only [Bool.or_eq_true, decide_eq_true_eq]; omega)]

theorem atoi_natDigits (n : Nat) :
    atoi (Spec.natDigits n) = if n ≤ 9223372036854775807 then some (n : Int) else none := by
  obtain ⟨h1, h2, h3⟩ := natDigits_spec n
  rw [atoi_of_digits h1 h2, h3]

def manCode : Spec.Man → Nat
  | ⟨.white, .pawn⟩ => Gen.WPawn | ⟨.white, .knight⟩ => Gen.WKnight | ⟨.white, .bishop⟩ => Gen.WBishop
  | ⟨.white, .rook⟩ => Gen.WRook | ⟨.white, .queen⟩ => Gen.WQueen | ⟨.white, .king⟩ => Gen.WKing
  | ⟨.black, .pawn⟩ => Gen.BPawn | ⟨.black, .knight⟩ => Gen.BKnight | ⟨.black, .bishop⟩ => Gen.BBishop
  | ⟨.black, .rook⟩ => Gen.BRook | ⟨.black, .queen⟩ => Gen.BQueen | ⟨.black, .king⟩ => Gen.BKing

def optCode : Option Spec.Man → Nat
  | none => 0
  | some m => manCode m

theorem man_cases (P : Spec.Man → Prop)
    (h : ∀ c ∈ [Spec.Color.white, .black], ∀ k ∈ [Spec.Kind.pawn, .knight, .bishop, .rook, .queen, .king], P ⟨c, k⟩)
    (m : Spec.Man) : P m := by
  obtain ⟨c, k⟩ := m
  cases c <;> cases k <;> exact h _ (by simp) _ (by simp)

theorem charToPiece_manByte (m : Spec.Man) : charToPiece (Spec.manByte m) = manCode m := by
  revert m; apply man_cases; decide

theorem manCode_mem (m : Spec.Man) : manCode m ∈ Atk.pieceCodes := by
  revert m; apply man_cases; decide

theorem decode_manCode (m : Spec.Man) : decodePiece (manCode m) = some m := by
  revert m; apply man_cases; decide

theorem decode_optCode (o : Option Spec.Man) : decodePiece (optCode o) = o := by
  cases o with
  | none => decide
  | some m => exact decode_manCode m

theorem manByte_class (m : Spec.Man) :
    65 ≤ Spec.manByte m ∧ Spec.manByte m ≤ 122 := by
  revert m; apply man_cases; decide

theorem manCode_ne_zero (m : Spec.Man) : manCode m ≠ 0 := by
  revert m; apply man_cases; decide

theorem gap_bytes {gap : Nat} (h : gap ≤ 8) (rest : Bytes) :
    expandRank ((if gap > 0 then [48 + gap] else []) ++ rest) = List.replicate gap 0 ++ expandRank rest ∧
    ∀ c ∈ (if gap > 0 then [48 + gap] else [] : Bytes), 49 ≤ c ∧ c ≤ 56 := by
  split
  · next hg =>
    have hd : (49 ≤ 48 + gap && 48 + gap ≤ 56) = true := by simp; omega
    refine ⟨by rw [List.singleton_append, expandRank, hd, if_pos rfl, Nat.add_sub_cancel_left], fun c hc => ?_⟩
    rw [List.mem_singleton.1 hc]; omega
  · next hg =>
    rw [show gap = 0 by omega]
    exact ⟨rfl, fun c hc => nomatch hc⟩

theorem expand_go (P : Spec.Pos) (r : Nat) : ∀ (fuel f gap : Nat), gap + fuel ≤ 8 →
    expandRank (Spec.fenRankBytes.go P r f fuel gap) =
      List.replicate gap 0 ++ (List.range' f fuel).map (fun x => optCode (P.at (Spec.mkSq x r))) := by
  intro fuel
  induction fuel with
  | zero =>
    intro f gap h
    have := (gap_bytes (show gap ≤ 8 by omega) []).1
    rw [List.append_nil] at this
    rw [Spec.fenRankBytes.go, this]
    rfl
  | succ fuel ih =>
    intro f gap h
    rw [Spec.fenRankBytes.go]
    split
    · next hnone =>
      rw [ih (f + 1) (gap + 1) (by omega)]
      simp [List.range'_succ, hnone, optCode, List.replicate_succ']
    · next m hm =>
      have hmb := manByte_class m
      have hnd : (49 ≤ Spec.manByte m && Spec.manByte m ≤ 56) = false := by
        simp only [Bool.and_eq_false_iff, decide_eq_false_iff_not]; omega
      rw [(gap_bytes (show gap ≤ 8 by omega) _).1, expandRank, hnd, ih (f + 1) 0 (by omega)]
      simp [List.range'_succ, hm, optCode, charToPiece_manByte]

theorem expand_rank (P : Spec.Pos) (r : Nat) :
    expandRank (Spec.fenRankBytes P r) = (List.range 8).map (fun x => optCode (P.at (Spec.mkSq x r))) := by
  unfold Spec.fenRankBytes
  rw [expand_go P r 8 0 0 (by omega)]
  simp [List.range_eq_range']

theorem go_class (P : Spec.Pos) (r : Nat) : ∀ (fuel f gap : Nat), gap + fuel ≤ 8 →
    ∀ c ∈ Spec.fenRankBytes.go P r f fuel gap, (49 ≤ c ∧ c ≤ 56) ∨ ∃ m : Spec.Man, c = Spec.manByte m := by
  intro fuel
  induction fuel with
  | zero =>
    intro f gap h c hc
    rw [Spec.fenRankBytes.go] at hc
    exact Or.inl ((gap_bytes (show gap ≤ 8 by omega) []).2 c hc)
  | succ fuel ih =>
    intro f gap h c hc
    rw [Spec.fenRankBytes.go] at hc
    split at hc
    · exact ih (f + 1) (gap + 1) (by omega) c hc
    · next m hm =>
      rcases List.mem_append.1 hc with hc | hc
      · exact Or.inl ((gap_bytes (show gap ≤ 8 by omega) []).2 c hc)
      · rcases List.mem_cons.1 hc with hc | hc
        · exact Or.inr ⟨m, hc⟩
        · exact ih (f + 1) 0 (by omega) c hc

theorem rank_bytes (P : Spec.Pos) (r : Nat) (c : Nat) (hc : c ∈ Spec.fenRankBytes P r) :
    c ≠ 47 ∧ c ≠ 32 ∧ c ≤ 127 ∧ ((49 ≤ c ∧ c ≤ 56) ∨ charToPiece c ∈ Atk.pieceCodes) := by
  rcases go_class P r 8 0 0 (by omega) c hc with h | ⟨m, rfl⟩
  · exact ⟨by omega, by omega, by omega, Or.inl h⟩
  · have := manByte_class m
    exact ⟨by omega, by omega, by omega, Or.inr (by rw [charToPiece_manByte]; exact manCode_mem m)⟩

end Magog.FenWrite
