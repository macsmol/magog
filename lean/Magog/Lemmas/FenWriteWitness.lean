import Magog.Lemmas.FenWriteTail
import Magog.Spec.FenRoundTrip

/-! C08 round trip: witness positions for the non-vacuity examples, the Boolean checks (`sameText`,
    `sameTextOn`) by which kernel evaluation ties the byte writer `Spec.toFenBytes` to the `String` writer
    `Spec.toFen`, and the evaluated facts about concrete FEN texts that the examples of several property files
    share (each text is loaded once here; `UciFenWitness` loads the Black-to-move check text a second time, to
    compare the result with `checkWitnessPos`). -/

namespace Magog.FenWrite
open Magog Magog.Model Magog.FenSpec

/-- after 1. e4 from the start position, but with only White's king-side and Black's queen-side castling
    rights left: Black to move, en-passant square e3 (`rnbqkbnr/pppppppp/8/8/4P3/8/PPPP1PPP/RNBQKBNR b Kq e3`) -/
def epWitness : Spec.Pos :=
  let back : List Spec.Kind := [.rook, .knight, .bishop, .queen, .king, .bishop, .knight, .rook]
  let row (c : Spec.Color) : List (Option Spec.Man) := back.map fun k => some ⟨c, k⟩
  let wp : Option Spec.Man := some ⟨.white, .pawn⟩
  let rank2 : List (Option Spec.Man) := [wp, wp, wp, wp, none, wp, wp, wp]
  let rank4 : List (Option Spec.Man) := [none, none, none, none, wp, none, none, none]
  { board := (row .white ++ rank2 ++ List.replicate 8 none ++ rank4 ++ List.replicate 16 none ++
      List.replicate 8 (some (Spec.Man.mk .black .pawn)) ++ row .black).toArray,
    turn := .black, wk := true, wq := false, bk := false, bq := true, ep := some 20 }

/-- a sparse endgame position (`8/2p5/3p4/KP5r/1R3p1k/8/4P1P1/8 w - -`), no castling rights -/
def sparseWitness : Spec.Pos :=
  let e : Option Spec.Man := none
  let W (k : Spec.Kind) : Option Spec.Man := some ⟨.white, k⟩
  let B (k : Spec.Kind) : Option Spec.Man := some ⟨.black, k⟩
  { board := ([e, e, e, e, e, e, e, e,
               e, e, e, e, W .pawn, e, W .pawn, e,
               e, e, e, e, e, e, e, e,
               e, W .rook, e, e, e, B .pawn, e, B .king,
               W .king, W .pawn, e, e, e, e, e, B .rook,
               e, e, e, B .pawn, e, e, e, e,
               e, e, B .pawn, e, e, e, e, e,
               e, e, e, e, e, e, e, e] : List (Option Spec.Man)).toArray,
    turn := .white, wk := false, wq := false, bk := false, bq := false, ep := none }

theorem startPos_legal : Spec.Legal Spec.startPos = true := by decide +kernel

set_option maxRecDepth 100000 in
theorem epWitness_legal : Spec.Legal epWitness = true := by decide +kernel

set_option maxRecDepth 100000 in
theorem sparseWitness_legal : Spec.Legal sparseWitness = true := by decide +kernel

def sameText (P : Spec.Pos) (n : Nat) : Bool := strBytes (Spec.toFen P n) == Spec.toFenBytes P n

def sameTextOn (s : String) (n : Nat) : Bool :=
  match parseFen (strBytes s) with
  | .ok (.ok p) => sameText (abs p) n && Spec.toFen (abs p) n == s
  | _ => false

theorem roundTrips_of_sameTextOn {s : String} {n : Nat} (h : sameTextOn s n = true) : roundTrips s n = true := by
  unfold sameTextOn at h
  unfold roundTrips
  split at h
  · next p hp =>
    rw [hp]
    exact (Bool.and_eq_true _ _ ▸ h : _ ∧ _).2
  · cases h

theorem kiwipete_sameText :
    sameTextOn "r3k2r/p1ppqpb1/bn2pnp1/3PN3/1p2P3/2N2Q1p/PPPBBPPP/R3K2R w KQkq - 0 1" 1 = true := by decide +kernel

theorem epText_sameText :
    sameTextOn "rnbqkbnr/ppp1pppp/8/8/3pP3/8/PPPP1PPP/RNBQKBNR b KQkq e3 0 3" 3 = true := by decide +kernel

theorem epWitness_text :
    Spec.toFenBytes epWitness 3 = strBytes "rnbqkbnr/pppppppp/8/8/4P3/8/PPPP1PPP/RNBQKBNR b Kq e3 0 3" := by
  decide +kernel

theorem startFen_accepted :
    ∃ p, parseFen (strBytes "rnbqkbnr/pppppppp/8/8/8/8/PPPPPPPP/RNBQKBNR w KQkq - 0 1") = .ok (.ok p) ∧
      p.whitePawns.length = 8 ∧ p.blackPieces.length = 7 ∧ p.ply = 0 := by
  obtain ⟨p, hp, h⟩ := okAnd'_elim₂ (show okAnd' (okAnd' fun p : Position =>
      p.whitePawns.length == 8 && p.blackPieces.length == 7 && p.ply == 0)
    (parseFen (strBytes "rnbqkbnr/pppppppp/8/8/8/8/PPPPPPPP/RNBQKBNR w KQkq - 0 1")) = true by decide +kernel)
  simp only [Bool.and_eq_true, beq_iff_eq] at h
  exact ⟨p, hp, h.1.1, h.1.2, h.2⟩

/-- White to move with Black in check on the e-file: rejected in an orderly way -/
theorem checkText_rejected : parseFen (strBytes "4k3/8/8/8/8/8/8/4RK2 w - - 0 1") =
    .ok (.error (.invalid "side not to move in check")) :=
  FenLemmas.rejectedWith_iff.1 (by decide +kernel)

theorem checkTextBlack_accepted : ∃ p, parseFen (strBytes "4k3/8/8/8/8/8/8/4RK2 b - - 0 1") = .ok (.ok p) :=
  FenLemmas.accepted_iff.1 (by decide +kernel)

end Magog.FenWrite
