import Magog.Lemmas.GenPseudo

/-! Concrete witnesses (kernel-evaluated) for the non-vacuity examples of property C01. -/

namespace Magog.GenExamples
open Magog Magog.Model Magog.Count



/-- reader form for kernel evaluation: the length of a generated list, 0 for a panic (so `0 < okLen x` implies success) -/
def okLen (x : M (List RMove)) : Nat :=
  match x with
  | .ok l => l.length
  | .error _ => 0

theorem okLen_pos {x : M (List RMove)} (h : 0 < okLen x) : ∃ l, x = .ok l ∧ l.length = okLen x := by
  cases x with
  | error e => simp [okLen] at h
  | ok l => exact ⟨l, rfl, rfl⟩

theorem start_len : okLen (genPseudo Killers.empty startPosition) = 20 := by rw [startPosition_eq]; decide +kernel

/-- e2-e4 in the start position: allowed by the movement rules, a quiet double push skipping e3 -/
theorem start_e2e4 :
    Spec.pseudo (abs startPosition) ⟨12, 28, none⟩ = true ∧
    Spec.kingStepAttacked (abs startPosition) ⟨12, 28, none⟩ = false ∧
    Spec.isTactical (abs startPosition) ⟨12, 28, none⟩ = false ∧
    (Spec.apply (abs startPosition) ⟨12, 28, none⟩).ep = some 20 ∧ to88 20 = Gen.E3 := by
  rw [startPosition_eq]; decide +kernel

theorem start_e2e4_legal : Spec.legal (abs startPosition) ⟨12, 28, none⟩ = true := by
  rw [startPosition_eq]; decide +kernel

/-- `c06Witness` (1.e4 e5 2.Nf3 Nc6 3.Bc4 Bc5 4.a4 a6 5.a5 b5, White to move) is well formed -/
theorem inv_c06Witness : Inv c06Witness := inv_of_invC (by rw [c06Witness_eq]; decide +kernel)

theorem c06Witness_oppSafe : MM.OppSafe c06Witness := okVal_eq_some (by rw [c06Witness_eq]; decide +kernel)

theorem c06Witness_len : okLen (genPseudo Killers.empty c06Witness) = 35 := by rw [c06Witness_eq]; decide +kernel

/-- in `c06Witness`: the en-passant capture a5xb6 and king-side castling e1-g1 are allowed by the rules;
    the former is tactical, the latter is not -/
theorem c06Witness_moves :
    Spec.pseudo (abs c06Witness) ⟨32, 41, none⟩ = true ∧
    Spec.kingStepAttacked (abs c06Witness) ⟨32, 41, none⟩ = false ∧
    Spec.isTactical (abs c06Witness) ⟨32, 41, none⟩ = true ∧
    Spec.pseudo (abs c06Witness) ⟨4, 6, none⟩ = true ∧
    Spec.kingStepAttacked (abs c06Witness) ⟨4, 6, none⟩ = false ∧
    Spec.isTactical (abs c06Witness) ⟨4, 6, none⟩ = false := by
  rw [c06Witness_eq]; decide +kernel

/-- `c06PromoWitness` (white Ke1 Pa7, black Kh6 Rb8, White to move) is well formed -/
theorem inv_c06PromoWitness : Inv c06PromoWitness := good_c06PromoWitness.1

theorem c06PromoWitness_oppSafe : MM.OppSafe c06PromoWitness := good_c06PromoWitness.2

/-- a7xb8=N is allowed by the rules and tactical -/
theorem c06PromoWitness_moves :
    Spec.pseudo (abs c06PromoWitness) ⟨48, 57, some .knight⟩ = true ∧
    Spec.kingStepAttacked (abs c06PromoWitness) ⟨48, 57, some .knight⟩ = false ∧
    Spec.isTactical (abs c06PromoWitness) ⟨48, 57, some .knight⟩ = true := by
  decide +kernel

/-- 1.e4 f5 2.Qh5+ : Black to move, the king step e8-f7 goes onto a square attacked by the queen -/
def checkWitness : Position :=
  match afterMoves startPosition
    [⟨Gen.E2, Gen.E4, 0, Gen.E3⟩, ⟨Gen.F7, Gen.F5, 0, Gen.F6⟩, ⟨Gen.D1, Gen.H5, 0, InvalidSq⟩] with
  | .ok p => p
  | .error _ => startPosition

theorem checkWitness_eq : checkWitness =
    { board := #[136, 130, 132, 0, 160, 132, 130, 136, 0, 0, 0, 0, 0, 0, 0, 0, 129, 129, 129, 129, 0, 129, 129,
      129, 0, 0, 0, 0, 0, 0, 0, 0, 0, 0, 0, 0, 0, 0, 0, 0, 0, 0, 0, 0, 0, 0, 0, 0, 0, 0, 0, 0, 129, 0, 0, 0, 0, 0,
      0, 0, 0, 0, 0, 0, 0, 0, 0, 0, 0, 65, 0, 144, 0, 0, 0, 0, 0, 0, 0, 0, 0, 0, 0, 0, 0, 0, 0, 0, 0, 0, 0, 0, 0,
      0, 0, 0, 65, 65, 65, 65, 65, 0, 65, 65, 0, 0, 0, 0, 0, 0, 0, 0, 72, 66, 68, 80, 96, 68, 66, 72, 0, 0, 0, 0,
      0, 0, 0, 0], blackPieces := [112, 113, 114, 115, 117, 118, 119], whitePieces := [0, 1, 2, 71, 5, 6, 7],
      blackPawns := [96, 97, 98, 99, 100, 69, 102, 103], whitePawns := [16, 17, 18, 19, 52, 21, 22, 23], blackKing
      := 116, whiteKing := 4, flags := 30, ep := 136, ply := 3 } := by
  unfold checkWitness; rw [startPosition_eq]; decide +kernel

theorem inv_checkWitness : Inv checkWitness := inv_of_invC (by rw [checkWitness_eq]; decide +kernel)

theorem checkWitness_len : okLen (genPseudo Killers.empty checkWitness) = 19 := by
  rw [checkWitness_eq]; decide +kernel

/-- `Spec.pseudo'` (what the pseudo-legal generator emits) is properly smaller than the movement rules
    `Spec.pseudo`: Ke8-f7 satisfies the movement rules but is a king step onto an attacked square -/
theorem checkWitness_kf7 :
    Spec.pseudo (abs checkWitness) ⟨60, 53, none⟩ = true ∧
    Spec.kingStepAttacked (abs checkWitness) ⟨60, 53, none⟩ = true ∧
    Spec.pseudo' (abs checkWitness) ⟨60, 53, none⟩ = false := by
  rw [checkWitness_eq]; decide +kernel

end Magog.GenExamples
