import Magog.Lemmas.MMSpecial
import Magog.Lemmas.GenGeometry

/-! Geometry of the generators in the terms `makeMove` and the counters need: where pawn moves land (`PawnSq`: the
    generator's `PawnGeo` and the byte-level facts, evaluated over the 64 squares), that a king step is an attack in
    the sense of the attack table. -/

namespace Magog.GenGeo
open Magog Magog.Model Magog.Atk Magog.Geo Magog.Count Magog.MM
open Magog.GenGeoO (advOf startRankOf notBack PawnGeo pawnGeo)

def pawnFlag (w : Bool) : Nat := if w then Gen.WPawnAttacks else Gen.BPawnAttacks
/-- rank of the en-passant square when `w` is to move -/
def epRank (w : Bool) : Nat := if w then Gen.Rank6 else Gen.Rank3
theorem _root_.Magog.MM.epOk_rank {p : Position} {w : Bool} (hw : whiteTurn p = w) (h : FenSpec.EpOk p) :
    rankOf p.ep = epRank w := by
  have := h.2.2.2
  rw [hw] at this
  cases w
  · exact this.1
  · exact this.1

/-- the squares of a pawn of colour `w` on `frm` (not on a back rank): what the generator's `PawnGeo` says of them,
    and in byte terms their ranks, the square behind a push, and for a capture square on an en-passant rank the
    square of the pawn passed (`δ` = 255 queen side, 1 king side) -/
structure PawnSq (w : Bool) (frm : Nat) : Prop extends PawnGeo w frm where
  rank1 : rankOf (addb frm (advOf w)) ≠ homeRank w
  from1 : behind w (addb frm (advOf w)) = frm
  ne1 : addb frm (advOf w) ≠ frm
  /-- of a double push over `to1` to `to2`, in order: `to2` is on no back rank (two conjuncts: no promotion,
      `Inv.noBackPawn` after the move) and on neither en-passant rank, so `to2 ≠ p.ep` for the mover
      (`Total.epFacts_ok`) and after `flipTurn` (`Total.epFacts_flip`); `FenSpec.EpOk` of the new en-passant square
      `to1`: its rank, the pawn one `UnitRank` beyond it in `EpOk`'s spelling; `to1 ≠ to2` (`MM.pawn_dbl_spec`) -/
  dbl88 : rankOf frm = startRankOf w →
    rankOf (addb (addb frm (advOf w)) (advOf w)) ≠ Gen.Rank1 ∧
    rankOf (addb (addb frm (advOf w)) (advOf w)) ≠ Gen.Rank8 ∧
    rankOf (addb (addb frm (advOf w)) (advOf w)) ≠ epRank w ∧
    rankOf (addb (addb frm (advOf w)) (advOf w)) ≠ epRank (!w) ∧
    rankOf (addb frm (advOf w)) = epRank (!w) ∧
    (if w then addb frm (advOf w) + Gen.UnitRank = addb (addb frm (advOf w)) (advOf w)
     else addb frm (advOf w) - Gen.UnitRank = addb (addb frm (advOf w)) (advOf w)) ∧
    addb frm (advOf w) ≠ addb (addb frm (advOf w)) (advOf w)
  /-- of a capture square on the board: a pawn does not land on its own home rank; on the mover's en-passant rank the
      byte `makeMove` computes for the captured pawn is the square `EpOk` names (`MM.pawn_ep_spec`); on the
      opponent's en-passant rank the pawn comes from its start rank, which `pawnCount`'s strict test excludes
      (`Total.epFacts_flip`) -/
  cap88 : ∀ δ, δ = 0xFF ∨ δ = 1 → addb (addb frm (advOf w)) δ ∈ sq88 →
    rankOf (addb (addb frm (advOf w)) δ) ≠ homeRank w ∧
    (rankOf (addb (addb frm (advOf w)) δ) = epRank w →
      (fileOf (addb (addb frm (advOf w)) δ) + rankOf frm) % 256 = behind w (addb (addb frm (advOf w)) δ)) ∧
    (rankOf (addb (addb frm (advOf w)) δ) = epRank (!w) → rankOf frm = startRankOf w)

theorem pawnSq (w : Bool) {frm : Nat} (hf : frm ∈ sq88) (hb : notBack frm = true) : PawnSq w frm := by
  have fin : ∀ w : Bool, ∀ frm ∈ sq88, notBack frm = true →
      rankOf (addb frm (advOf w)) ≠ homeRank w ∧ behind w (addb frm (advOf w)) = frm ∧ addb frm (advOf w) ≠ frm ∧
      (rankOf frm = startRankOf w →
        rankOf (addb (addb frm (advOf w)) (advOf w)) ≠ Gen.Rank1 ∧
        rankOf (addb (addb frm (advOf w)) (advOf w)) ≠ Gen.Rank8 ∧
        rankOf (addb (addb frm (advOf w)) (advOf w)) ≠ epRank w ∧
        rankOf (addb (addb frm (advOf w)) (advOf w)) ≠ epRank (!w) ∧
        rankOf (addb frm (advOf w)) = epRank (!w) ∧
        (if w then addb frm (advOf w) + Gen.UnitRank = addb (addb frm (advOf w)) (advOf w)
         else addb frm (advOf w) - Gen.UnitRank = addb (addb frm (advOf w)) (advOf w)) ∧
        addb frm (advOf w) ≠ addb (addb frm (advOf w)) (advOf w)) ∧
      ∀ δ ∈ [0xFF, 1], onBoard (addb (addb frm (advOf w)) δ) = true →
        rankOf (addb (addb frm (advOf w)) δ) ≠ homeRank w ∧
        (rankOf (addb (addb frm (advOf w)) δ) = epRank w →
          (fileOf (addb (addb frm (advOf w)) δ) + rankOf frm) % 256 = behind w (addb (addb frm (advOf w)) δ)) ∧
        (rankOf (addb (addb frm (advOf w)) δ) = epRank (!w) → rankOf frm = startRankOf w) := by decide +kernel
  obtain ⟨a, b, c, d, e⟩ := fin w frm hf hb
  -- `onBoard`, not `∈ sq88`: evaluating membership in the list of squares makes the sweep three times as dear
  exact ⟨pawnGeo w hf hb, a, b, c, d, fun δ hδ hm =>
    e δ (by rcases hδ with rfl | rfl <;> simp) (onBoard_iff.2 (mem_sq88.1 hm))⟩

theorem king_geo {frm d : Nat} (hf : frm ∈ sq88) (hd : d ∈ kingDirs) (ht : addb frm d ∈ sq88) :
    attackAt frm (addb frm d) &&& Gen.KingAttacks ≠ 0 := by
  have := (GenGeoO.king_bit hf ht).1 (GenGeoO.stepSqs_iff.2 ⟨d, hd, rfl, (mem_sq88.1 ht).2⟩)
  simpa [hasBit] using this

end Magog.GenGeo
