import Magog.Lemmas.GenPure
import Magog.Lemmas.PseudoSpec
import Magog.Lemmas.KingStep
import Magog.AbsMove
import Magog.Spec.MakeMove
import Mathlib.Data.List.Nodup

/-! The pure pseudo-legal move list `GenPure.genList` against the rules of chess (`Spec.pseudo'`), for
    property C01: per origin square (`OriginOk`; for a pawn per target square, `TgtOk`) the generated moves are
    exactly the specification's, without duplicates, with the right tactical flag and en-passant auxiliary field
    (`AuxOk`); hence for the whole list (`genList_spec`; for the generator's own result `genPseudo_spec`). At the
    end: `OppSafe` in the rules' terms (`oppSafe_iff`), and that no generated move captures the king then, argued
    on the specification: a move of the rules onto an occupied square attacks it (`pseudo_attacks`). -/

set_option linter.unusedSimpArgs false
set_option linter.unusedVariables false

namespace Magog.GenPseudo
open Magog Magog.Model Magog.Geo Magog.Atk Magog.GenGeoO Magog.GenPure Magog.PseudoSpec Magog.Count

/-- the abstraction of an en-passant / skipped-square field, as in `abs` -/
def absEp (e : Nat) : Option Nat := if isValid e then some (to64 e) else none

def AuxOk (P : Spec.Pos) (y : Move × Bool) : Prop :=
  y.2 = Spec.isTactical P (absMove y.1) ∧ (y.1.ep = InvalidSq ∨ y.1.ep ∈ sq88) ∧
    absEp y.1.ep = (Spec.apply P (absMove y.1)).ep

/-- `G`, the moves listed for the man on `x` (a 0x88 square), against the rules: `sound` (with flag and `ep` field,
    `AuxOk`), `complete` for the rules' moves from `x`, `nodup` after abstraction. `frm` keys the members by their
    origin, so that `spec_of_origins` concatenates the lists of distinct origins without duplicates. -/
structure OriginOk (P : Spec.Pos) (x : Nat) (G : List (Move × Bool)) : Prop where
  frm : ∀ y ∈ G, (absMove y.1).frm = to64 x
  sound : ∀ y ∈ G, Spec.pseudo' P (absMove y.1) = true ∧ AuxOk P y
  complete : ∀ sm : Spec.Move, sm.frm = to64 x → Spec.pseudo' P sm = true → ∃ y ∈ G, absMove y.1 = sm
  nodup : (G.map fun y => absMove y.1).Nodup

theorem turn_eq (p : Position) : (abs p).turn = colorOf (whiteTurn p) := by
  unfold abs colorOf; rfl

theorem absEp_invalid : absEp InvalidSq = none := by decide

section Dict
variable {p : Position} {kt : Killers} (env : Env p p.ctx (whiteTurn p) kt)
include env

theorem at_eq {s : Nat} (hs : s ∈ sq88) : (abs p).at (to64 s) = decodePiece (cell p.board s) := by
  simp only [Spec.Pos.at, abs]
  exact absBoard_at hs (some_cell (lt_size env.board hs))

theorem isSome_eq {s : Nat} (hs : s ∈ sq88) :
    ((abs p).at (to64 s)).isSome = (cell p.board s &&& Colorless != 0) := by
  rw [at_eq env hs, (code_facts (cell_code env.board hs) true).1]

theorem isNone_eq {s : Nat} (hs : s ∈ sq88) : ((abs p).at (to64 s)).isNone = (cell p.board s == 0) := by
  rw [at_eq env hs, (code_facts (cell_code env.board hs) true).2.2.2]

theorem tgtOk_eq {t : Nat} (ht : t ∈ sq88) :
    tgtOk (abs p) (to64 t) = (cell p.board t &&& p.ctx.curBit == 0) := by
  have key : (cell p.board t &&& colorBit (whiteTurn p) == 0) = !(cell p.board t &&& colorBit (whiteTurn p) != 0) := by
    simp [bne]
  unfold tgtOk
  rw [at_eq env ht, turn_eq, env.curBit, key, (code_facts (cell_code env.board ht) (whiteTurn p)).2.1]
  cases decodePiece (cell p.board t) <;> simp [bne]

end Dict

theorem rayTargets_sublist (board : Array Nat) (cb eb : Nat) : ∀ l, List.Sublist (rayTargets board cb eb l) l := by
  intro l
  induction l with
  | nil => exact List.Sublist.slnil
  | cons a l ih =>
    simp only [rayTargets]
    split
    · exact List.nil_sublist _
    · split
      · exact List.Sublist.cons_cons a (List.nil_sublist _)
      · exact List.Sublist.cons_cons a ih

theorem flatMap_sublist {α β} {f g : α → List β} (h : ∀ x, List.Sublist (f x) (g x)) :
    ∀ l : List α, List.Sublist (l.flatMap f) (l.flatMap g) := by
  intro l
  induction l with
  | nil => exact List.Sublist.slnil
  | cons a l ih => simp only [List.flatMap_cons]; exact List.Sublist.append (h a) ih

def slideTargets (board : Array Nat) (c : Ctx) (frm : Nat) (dirs : List Nat) : List Nat :=
  dirs.flatMap fun d => rayTargets board c.curBit c.enBit (rayOf frm d)

theorem slideList_eq (board : Array Nat) (c : Ctx) (frm : Nat) (dirs : List Nat) :
    slideList board c frm dirs = (slideTargets board c frm dirs).map (plainMv board frm) := by
  simp [slideList, slideTargets, List.map_flatMap]

theorem slideTargets_nodup (board : Array Nat) (c : Ctx) {frm : Nat} {dirs : List Nat}
    (h : (dirs.flatMap (rayOf frm)).Nodup) : (slideTargets board c frm dirs).Nodup :=
  List.Nodup.sublist (flatMap_sublist (fun d => rayTargets_sublist board c.curBit c.enBit (rayOf frm d)) dirs) h

section Slide
variable {p : Position} {kt : Killers} (env : Env p p.ctx (whiteTurn p) kt)
include env

theorem ray_clear {x d t : Nat} {pre post : List Nat} (hx : x ∈ sq88) (hd : d ∈ kingDirs)
    (heq : rayOf x d = pre ++ t :: post) :
    Spec.clear (absBoard p.board) (to64 x) (to64 t) = true ↔ ∀ s ∈ pre, cell p.board s = 0 := by
  have hprev : ∀ s ∈ pre, s ∈ sq88 := fun s hs =>
    rayOf_valid hx hd (by rw [heq]; exact List.mem_append_left _ hs)
  rw [clear_eq env.board hprev (ray_between hx hd heq).symm, List.all_eq_true]
  simp only [cell, beq_iff_eq]

theorem slide_spec {x t : Nat} (hx : x ∈ sq88) {dirs : List Nat}
    (hd : ∀ d ∈ dirs, d ∈ kingDirs) {rel : Bool} (hrel : rel = true ↔ ∃ d ∈ dirs, t ∈ rayOf x d) :
    t ∈ slideTargets p.board p.ctx x dirs ↔
      ((cell p.board t &&& p.ctx.curBit == 0) &&
        (rel && Spec.clear (absBoard p.board) (to64 x) (to64 t))) = true := by
  unfold slideTargets
  rw [env.curBit, env.enBit]
  simp only [List.mem_flatMap, Bool.and_eq_true, beq_iff_eq]
  have hval : ∀ d ∈ dirs, ∀ s ∈ rayOf x d, s ∈ sq88 := fun d hdd s hs => rayOf_valid hx (hd d hdd) hs
  constructor
  · rintro ⟨d, hdd, hmem⟩
    obtain ⟨pre, post, heq, hpre, hfree⟩ := (mem_rayTargets env.board (whiteTurn p) _ (hval d hdd)).1 hmem
    exact ⟨hfree, hrel.2 ⟨d, hdd, by rw [heq]; simp⟩, (ray_clear env hx (hd d hdd) heq).2 hpre⟩
  · rintro ⟨hfree, hr, hclear⟩
    obtain ⟨d, hdd, hmemr⟩ := hrel.1 hr
    obtain ⟨pre, post, heq⟩ := List.append_of_mem hmemr
    exact ⟨d, hdd, (mem_rayTargets env.board (whiteTurn p) _ (hval d hdd)).2
      ⟨pre, post, heq, (ray_clear env hx (hd d hdd) heq).1 hclear, hfree⟩⟩

omit env in
theorem slideTargets_valid {x t : Nat} (hx : x ∈ sq88) {dirs : List Nat} (hd : ∀ d ∈ dirs, d ∈ kingDirs)
    (h : t ∈ slideTargets p.board p.ctx x dirs) : t ∈ sq88 := by
  unfold slideTargets at h
  obtain ⟨d, hdd, hmem⟩ := List.mem_flatMap.1 h
  exact rayOf_valid hx (hd d hdd) ((rayTargets_sublist _ _ _ _).subset hmem)

end Slide

theorem decodePromo_zero : decodePromo 0 = none := by decide

theorem plain_abs (board : Array Nat) (x t : Nat) :
    absMove (plainMv board x t).1 = ⟨to64 x, to64 t, none⟩ := by
  simp only [plainMv, absMove, decodePromo_zero]

section Plain
variable {p : Position} {kt : Killers} (env : Env p p.ctx (whiteTurn p) kt)
include env

theorem plain_aux {x t : Nat} (hx : x ∈ sq88) (ht : t ∈ sq88) {man : Spec.Man}
    (hman : decodePiece (cell p.board x) = some man) (hp : man.kind ≠ .pawn) :
    AuxOk (abs p) (plainMv p.board x t) := by
  have hat : (abs p).at (absMove (plainMv p.board x t).1).frm = some man := by
    rw [plain_abs]; simp only; rw [at_eq env hx, hman]
  refine ⟨?_, .inl rfl, ?_⟩
  · rw [isTactical_nonpawn hat hp, plain_abs]
    simp only [isSome_eq env ht, Option.isSome_none, Bool.or_false, plainMv]
  · rw [apply_ep hat]
    have : (man.kind == Spec.Kind.pawn) = false := by simpa using hp
    simp only [this, Bool.false_and, Bool.false_eq_true, if_false]
    exact absEp_invalid

theorem plain_originOk {x : Nat} (hx : x ∈ sq88) {man : Spec.Man}
    (hman : decodePiece (cell p.board x) = some man) (hp : man.kind ≠ .pawn)
    (T : List Nat) (hT : T.Nodup) (hTv : ∀ t ∈ T, t ∈ sq88)
    (hmem : ∀ t ∈ sq88, t ∈ T ↔ Spec.pseudo' (abs p) ⟨to64 x, to64 t, none⟩ = true) :
    OriginOk (abs p) x (T.map (plainMv p.board x)) := by
  refine ⟨?_, ?_, ?_, ?_⟩
  · intro y hy
    obtain ⟨t, _, rfl⟩ := List.mem_map.1 hy
    rw [plain_abs]
  · intro y hy
    obtain ⟨t, ht, rfl⟩ := List.mem_map.1 hy
    refine ⟨?_, plain_aux env hx (hTv t ht) hman hp⟩
    rw [plain_abs]
    exact (hmem t (hTv t ht)).1 ht
  · intro sm hf hs
    obtain ⟨hpr, hlt⟩ := pseudo'_plain (by rw [hf, at_eq env hx, hman]) hp hs
    have ht := to88_mem hlt
    have hsm : sm = ⟨to64 x, to64 (to88 sm.to), none⟩ := by
      rw [to64_to88 hlt, ← hf, ← hpr]
    refine ⟨plainMv p.board x (to88 sm.to), List.mem_map.2 ⟨_, (hmem _ ht).2 (by rw [← hsm]; exact hs), rfl⟩, ?_⟩
    rw [plain_abs]; exact hsm.symm
  · rw [List.map_map]
    refine List.Nodup.map_on ?_ hT
    intro a ha b hb hab
    simp only [Function.comp, plain_abs, Spec.Move.mk.injEq, and_true, true_and] at hab
    exact to64_inj (hTv a ha) (hTv b hb) hab

end Plain

theorem manAttacks_knight (B : Array (Option Spec.Man)) (c : Spec.Color) (a b : Nat) :
    Spec.manAttacks B ⟨c, .knight⟩ a b = Spec.manAttacks emptyBoard ⟨.white, .knight⟩ a b := rfl
theorem manAttacks_king (B : Array (Option Spec.Man)) (c : Spec.Color) (a b : Nat) :
    Spec.manAttacks B ⟨c, .king⟩ a b = Spec.manAttacks emptyBoard ⟨.white, .king⟩ a b := rfl

section Officer
variable {p : Position} {kt : Killers} (env : Env p p.ctx (whiteTurn p) kt)
include env

theorem officer_pseudo {x t : Nat} (hx : x ∈ sq88) (ht : t ∈ sq88) {k : Spec.Kind}
    (hman : decodePiece (cell p.board x) = some ⟨colorOf (whiteTurn p), k⟩) (hp : k ≠ .pawn) (hk : k ≠ .king) :
    Spec.pseudo' (abs p) ⟨to64 x, to64 t, none⟩ =
      ((cell p.board t &&& p.ctx.curBit == 0) &&
        Spec.manAttacks (absBoard p.board) ⟨colorOf (whiteTurn p), k⟩ (to64 x) (to64 t)) := by
  have hat : (abs p).at (to64 x) = some ⟨colorOf (whiteTurn p), k⟩ := by rw [at_eq env hx, hman]
  rw [pseudo'_officer (m := ⟨to64 x, to64 t, none⟩) hat hp hk]
  simp only [common, turn_eq, beq_self_eq_true, to64_lt hx, to64_lt ht, decide_true, Bool.true_and,
    tgtOk_eq env ht]
  rfl

theorem slider_originOk {x : Nat} (hx : x ∈ sq88) {k : Spec.Kind}
    (hdec : decodePiece (cell p.board x) = some ⟨colorOf (whiteTurn p), k⟩) (hp : k ≠ .pawn) (hk : k ≠ .king)
    {dirs : List Nat} (hn : dirs.Nodup) (hd : ∀ d ∈ dirs, d ∈ kingDirs) {rel : Nat → Nat → Bool}
    (hrel : ∀ t ∈ sq88, rel (to64 x) (to64 t) = true ↔ ∃ d ∈ dirs, t ∈ rayOf x d)
    (hman : ∀ B a b, Spec.manAttacks B ⟨colorOf (whiteTurn p), k⟩ a b = (rel a b && Spec.clear B a b)) :
    OriginOk (abs p) x (slideList p.board p.ctx x dirs) := by
  rw [slideList_eq]
  refine plain_originOk env hx hdec hp _ (slideTargets_nodup _ _ (rays_nodup hx hn hd))
    (fun t ht => slideTargets_valid hx hd ht) fun t ht => ?_
  rw [officer_pseudo env hx ht hdec hp hk, slide_spec env hx hd (hrel t ht), hman]

theorem officer_originOk {x : Nat} (hf : x ∈ p.ctx.cur.pieces) :
    OriginOk (abs p) x (officerList p.board p.ctx x) := by
  obtain ⟨hx, hoff⟩ := officer_mem env hf
  unfold officerList
  rcases officer_cases hoff with
    ⟨h1, _, hdec⟩ | ⟨h1, h2, _, hdec⟩ | ⟨h1, h2, h3, _, hdec⟩ | ⟨h1, h2, h3, _, _, hdec⟩
  · simp only [h1, if_true, stepList]
    refine plain_originOk env hx hdec (by simp) _
      (List.Nodup.filter _ (step_nodup (by decide) x))
      (fun t ht => stepSqs_mem (List.mem_filter.1 ht).1) ?_
    intro t ht
    rw [officer_pseudo env hx ht hdec (by simp) (by simp), List.mem_filter, knight_step hx ht,
      manAttacks_knight (absBoard p.board)]
    simp only [Bool.and_true, Bool.and_eq_true, and_comm]
  · simp only [h1, h2, Bool.false_eq_true, if_false, if_true]
    exact slider_originOk env hx hdec (by simp) (by simp) (by decide) (fun d hd => bishopDirs_sub hd)
      (fun t ht => diag_iff hx ht) (fun _ _ _ => rfl)
  · simp only [h1, h2, h3, Bool.false_eq_true, if_false, if_true]
    exact slider_originOk env hx hdec (by simp) (by simp) (by decide) (fun d hd => rookDirs_sub hd)
      (fun t ht => line_iff hx ht) (fun _ _ _ => rfl)
  · simp only [h1, h2, h3, Bool.false_eq_true, if_false]
    exact slider_originOk env hx hdec (by simp) (by simp) (by decide) (fun d hd => hd)
      (rel := fun a b => Spec.onLine a b || Spec.onDiag a b) (fun t ht => queen_iff hx ht) (fun _ _ _ => rfl)

end Officer

theorem castle_far (w : Bool) :
    (Spec.adiff (Spec.fileOf (to64 (kingHome w))) (Spec.fileOf (to64 (kingHome w - 2))) == 2) = true ∧
    (Spec.adiff (Spec.fileOf (to64 (kingHome w))) (Spec.fileOf (to64 (kingHome w + 2))) == 2) = true := by
  cases w <;> decide

theorem decode_rook (w : Bool) :
    decodePiece (if w then Gen.WRook else Gen.BRook) = some ⟨colorOf w, .rook⟩ := by
  cases w <;> decide

theorem canCastleK_eq (p : Position) : Spec.canCastleK (abs p) = p.ctx.kOk := by
  unfold Spec.canCastleK abs Position.ctx
  cases whiteTurn p <;> rfl

theorem canCastleQ_eq (p : Position) : Spec.canCastleQ (abs p) = p.ctx.qOk := by
  unfold Spec.canCastleQ abs Position.ctx
  cases whiteTurn p <;> rfl

theorem attacked_eq (p : Position) (s : Nat) :
    Spec.attacked (abs p).board (colorOf (whiteTurn p)).other (to64 s) = !safeSq p.board (whiteTurn p) s := by
  rw [other_colorOf]
  simp only [safeSq, Bool.not_not]
  rfl

section King
variable {p : Position} {kt : Killers} (env : Env p p.ctx (whiteTurn p) kt)
include env

theorem castleK_iff {t : Nat} (ht : t ∈ sq88) :
    castleKClause (abs p) ⟨to64 p.ctx.cur.king, to64 t, none⟩ = true ↔
      (p.ctx.kOk = true ∧ t = p.ctx.cur.king + 2 ∧
        castleKCond p.board (whiteTurn p) p.ctx.cur.king = true) := by
  simp only [castleKClause, canCastleK_eq, Bool.and_eq_true, and_assoc]
  refine and_congr_right fun hk => ?_
  obtain ⟨hhome, hrook⟩ := env.castleK hk
  obtain ⟨c0, c1, c2, c3, c4, c5, c6, c7⟩ := castle_to64 (whiteTurn p)
  obtain ⟨m0, m1, m2, m3, m4, m5, m6, m7⟩ := castle_sq (whiteTurn p)
  simp only [turn_eq, ← c0, ← c5, ← c6, ← c7, hhome, at_eq env m7, hrook, decode_rook, isNone_eq env m4,
    isNone_eq env m5, attacked_eq, castleKCond, Bool.and_eq_true, beq_iff_eq, Bool.not_not, to64_eq_iff ht m5,
    true_and]

theorem castleQ_iff {t : Nat} (ht : t ∈ sq88) :
    castleQClause (abs p) ⟨to64 p.ctx.cur.king, to64 t, none⟩ = true ↔
      (p.ctx.qOk = true ∧ t = p.ctx.cur.king - 2 ∧
        castleQCond p.board (whiteTurn p) p.ctx.cur.king = true) := by
  simp only [castleQClause, canCastleQ_eq, Bool.and_eq_true, and_assoc]
  refine and_congr_right fun hk => ?_
  obtain ⟨hhome, hrook⟩ := env.castleQ hk
  obtain ⟨c0, c1, c2, c3, c4, c5, c6, c7⟩ := castle_to64 (whiteTurn p)
  obtain ⟨m0, m1, m2, m3, m4, m5, m6, m7⟩ := castle_sq (whiteTurn p)
  simp only [turn_eq, ← c0, ← c1, ← c2, ← c3, ← c4, hhome, at_eq env m6, hrook, decode_rook, isNone_eq env m1,
    isNone_eq env m2, isNone_eq env m3, attacked_eq, castleQCond, Bool.and_eq_true, beq_iff_eq, Bool.not_not,
    to64_eq_iff ht m2, true_and]

theorem king_mem_iff {t : Nat} (ht : t ∈ sq88) :
    t ∈ (stepSqs p.ctx.cur.king kingDirs).filter
          (fun t => cell p.board t &&& p.ctx.curBit == 0 && safeSq p.board (whiteTurn p) t) ++
        castleTargets p.board p.ctx (whiteTurn p) ↔
      Spec.pseudo' (abs p) ⟨to64 p.ctx.cur.king, to64 t, none⟩ = true := by
  obtain ⟨hx, hcell⟩ := king_mem env
  have hat : (abs p).at (to64 p.ctx.cur.king) = some ⟨colorOf (whiteTurn p), .king⟩ := by
    rw [at_eq env hx, hcell]; exact decode_king _
  rw [pseudo'_king (m := ⟨to64 p.ctx.cur.king, to64 t, none⟩) hat]
  -- both sides as propositions. Left: step ∧ free ∧ safe, or queen-side, or king-side castling; right: free ∧ (step ∨
  -- K ∨ Q) ∧ (two files apart ∨ safe). A castling target is free (empty by `castleQCond`/`castleKCond`) and two files
  -- away (`castle_far`), which waives "safe"; a step is never two files away (`king_near`).
  simp only [common, turn_eq, beq_self_eq_true, to64_lt hx, to64_lt ht, decide_true, Bool.true_and,
    tgtOk_eq env ht, manAttacks_king (abs p).board, attacked_eq, Bool.and_eq_true, Bool.or_eq_true,
    castleK_iff env ht, castleQ_iff env ht, List.mem_append, List.mem_filter, king_step hx ht,
    mem_castleTargets, Bool.not_eq_true', Bool.and_eq_false_iff, Bool.not_eq_false']
  constructor
  · rintro (⟨hm, hfree, hsafe⟩ | ⟨hq, rfl, hc⟩ | ⟨hk, rfl, hc⟩)
    · exact ⟨⟨hfree, .inl (.inl hm)⟩, .inr hsafe⟩
    · obtain ⟨hhome, _⟩ := env.castleQ hq
      have h0 : cell p.board (p.ctx.cur.king - 2) = 0 := by
        simp only [castleQCond, Bool.and_eq_true, beq_iff_eq] at hc
        exact hc.2.1
      refine ⟨⟨by rw [h0]; simp, .inr ⟨hq, rfl, hc⟩⟩, .inl ?_⟩
      rw [hhome]; exact (castle_far _).1
    · obtain ⟨hhome, _⟩ := env.castleK hk
      have h0 : cell p.board (p.ctx.cur.king + 2) = 0 := by
        simp only [castleKCond, Bool.and_eq_true, beq_iff_eq] at hc
        exact hc.2.1
      refine ⟨⟨by rw [h0]; simp, .inl (.inr ⟨hk, rfl, hc⟩)⟩, .inl ?_⟩
      rw [hhome]; exact (castle_far _).2
  · rintro ⟨⟨hfree, (hm | hk) | hq⟩, hfs⟩
    · rcases hfs with hfar | hsafe
      · rw [king_near hm] at hfar; cases hfar
      · exact .inl ⟨hm, hfree, hsafe⟩
    · exact .inr (.inr hk)
    · exact .inr (.inl hq)

theorem king_originOk :
    OriginOk (abs p) p.ctx.cur.king
      (kingList p.board p.ctx (whiteTurn p) ++ castleList p.board p.ctx (whiteTurn p)) := by
  obtain ⟨hx, hcell⟩ := king_mem env
  have hdec : decodePiece (cell p.board p.ctx.cur.king) = some ⟨colorOf (whiteTurn p), .king⟩ := by
    rw [hcell]; exact decode_king _
  rw [castleList_eq, kingList, stepList, ← List.map_append]
  have hCT : ∀ t ∈ castleTargets p.board p.ctx (whiteTurn p),
      p.ctx.cur.king = kingHome (whiteTurn p) ∧ (t = p.ctx.cur.king - 2 ∨ t = p.ctx.cur.king + 2) := by
    intro t ht
    rcases mem_castleTargets.1 ht with ⟨hq, rfl, _⟩ | ⟨hk, rfl, _⟩
    · exact ⟨(env.castleQ hq).1, .inl rfl⟩
    · exact ⟨(env.castleK hk).1, .inr rfl⟩
  refine plain_originOk env hx hdec (by simp) _ ?_ ?_ fun t ht => king_mem_iff env ht
  · rw [List.nodup_append]
    refine ⟨List.Nodup.filter _ (step_nodup (by decide) _), ?_, ?_⟩
    · unfold castleTargets
      split <;> split <;> simp
      omega
    · intro a ha b hb hab
      subst hab
      have hstep := (List.mem_filter.1 ha).1
      obtain ⟨hhome, hb'⟩ := hCT a hb
      rw [hhome] at hstep hb'
      rcases hb' with rfl | rfl
      · exact (castle_not_step _).1 hstep
      · exact (castle_not_step _).2 hstep
  · intro t ht
    rcases List.mem_append.1 ht with ht | ht
    · exact stepSqs_mem (List.mem_filter.1 ht).1
    · obtain ⟨hhome, hb'⟩ := hCT t ht
      obtain ⟨m0, m1, m2, m3, m4, m5, m6, m7⟩ := castle_sq (whiteTurn p)
      rw [hhome] at hb'
      rcases hb' with rfl | rfl
      · exact m2
      · exact m5

end King

theorem decodePromo_codes :
    decodePromo Queen = some .queen ∧ decodePromo Rook = some .rook ∧ decodePromo Bishop = some .bishop ∧
    decodePromo Knight = some .knight := by decide

theorem pawnTo_spec (w : Bool) (x : Nat) {t : Nat} (ht : t ∈ sq88) (tac : Bool) :
    (∀ y ∈ pawnTo (promoRankOf w) x t tac,
      (absMove y.1).frm = to64 x ∧ (absMove y.1).to = to64 t ∧ promoOkB (colorOf w) (absMove y.1) = true ∧
      y.1.ep = InvalidSq ∧ y.2 = (tac || (absMove y.1).promo.isSome)) ∧
    (∀ sm : Spec.Move, sm.frm = to64 x → sm.to = to64 t → promoOkB (colorOf w) sm = true →
      ∃ y ∈ pawnTo (promoRankOf w) x t tac, absMove y.1 = sm) ∧
    ((pawnTo (promoRankOf w) x t tac).map fun y => absMove y.1).Nodup := by
  obtain ⟨dq, dr, db, dn⟩ := decodePromo_codes
  have hpr := promoRank_iff w ht
  unfold pawnTo
  cases hr : (rankOf t == promoRankOf w)
  · rw [hr] at hpr
    simp only [Bool.false_eq_true, if_false, List.mem_singleton, List.map_cons, List.map_nil]
    refine ⟨?_, ?_, by simp⟩
    · rintro y rfl
      simp [absMove, promoOkB, hpr, decodePromo_zero]
    · intro sm hf ht' hp
      refine ⟨_, rfl, ?_⟩
      simp only [promoOkB, ht', hpr, Bool.false_eq_true, if_false, beq_iff_eq] at hp
      cases sm
      simp_all [absMove, decodePromo_zero]
  · rw [hr] at hpr
    simp only [if_true, promoList, List.mem_cons, List.not_mem_nil, or_false, List.map_cons, List.map_nil]
    refine ⟨?_, ?_, ?_⟩
    · rintro y (rfl | rfl | rfl | rfl) <;> simp [absMove, promoOkB, hpr, dq, dr, db, dn]
    · intro sm hf ht' hp
      simp only [promoOkB, ht', hpr, if_true, Bool.or_eq_true, beq_iff_eq] at hp
      cases sm
      simp only at hf ht'
      subst hf ht'
      rcases hp with ((hp | hp) | hp) | hp
      · exact ⟨_, .inl rfl, by simp only [absMove, dq]; exact congrArg _ hp.symm⟩
      · exact ⟨_, .inr (.inl rfl), by simp only [absMove, dr]; exact congrArg _ hp.symm⟩
      · exact ⟨_, .inr (.inr (.inl rfl)), by simp only [absMove, db]; exact congrArg _ hp.symm⟩
      · exact ⟨_, .inr (.inr (.inr rfl)), by simp only [absMove, dn]; exact congrArg _ hp.symm⟩
    · simp [absMove, dq, dr, db, dn]

/-- "the pawn on `x` may go to `t`" in the generator's terms (push, double push, capture or en passant), the
    promotion field left aside: for a pawn `Spec.pseudo' = promoOkB && pawnTgt` (`pawn_pseudo`), and the guards of
    `capList`, `push1`, `push2` are `pawnTgt` at their square (`pawnTgt_eq`). -/
def pawnTgt (p : Position) (x t : Nat) : Bool :=
  (t == addb x p.ctx.adv && cell p.board t == 0) ||
  (rankOf x == p.ctx.startRank && t == addb (addb x p.ctx.adv) p.ctx.adv && cell p.board t == 0 &&
    cell p.board (addb x p.ctx.adv) == 0) ||
  ((t == addb (addb x p.ctx.adv) 0xFF || t == addb (addb x p.ctx.adv) 1) &&
    (cell p.board t &&& p.ctx.enBit != 0 || t == p.ep))

/-- the Boolean core of `pawn_pseudo`, over all well-formed target cells `v`: `pseudo'_pawn` after the dictionary
    rewrites (left) is `promoOkB && pawnTgt` (right). With `x`, `t` of `pawn_pseudo`: `w` the mover is white, `A` `t` is
    the push square, `D` `x` is on the start rank and `t` the double-push square, `Z1` the push square is empty, `C`
    `t` is a capture square, `E` `t` is the en-passant square (then empty), `PR` is `promoOkB`. -/
theorem pawn_bool : ∀ v ∈ 0 :: pieceCodes, ∀ w A D Z1 C E PR : Bool, (E = true → v = 0) →
    (v &&& colorBit w == 0 &&
      (PR && (A && v == 0 || D && v == 0 && Z1 || C && v &&& Colorless != 0 || C && v == 0 && E))) =
    (PR && (A && v == 0 || D && v == 0 && Z1 || C && ((v &&& colorBit !w) != 0 || E))) := by
  decide +kernel

/-- `OriginOk` per target square `t`, for the pawn: its list is no `plainMv` image of a list of targets (four
    promotions share a target), so it is cut by target and glued by `OriginOk.of_tgts`, keyed by `to`. -/
structure TgtOk (P : Spec.Pos) (x t : Nat) (G : List (Move × Bool)) : Prop where
  frm_to : ∀ y ∈ G, (absMove y.1).frm = to64 x ∧ (absMove y.1).to = to64 t
  sound : ∀ y ∈ G, Spec.pseudo' P (absMove y.1) = true ∧ AuxOk P y
  complete : ∀ sm : Spec.Move, sm.frm = to64 x → sm.to = to64 t → Spec.pseudo' P sm = true →
    ∃ y ∈ G, absMove y.1 = sm
  nodup : (G.map fun y => absMove y.1).Nodup

theorem addb_ne {a d1 d2 : Nat} (h1 : d1 < 256) (h2 : d2 < 256) (h : d1 ≠ d2) : addb a d1 ≠ addb a d2 := by
  unfold addb; omega

theorem addb_ne_self {a d : Nat} (ha : a < 256) (h1 : 0 < d) (h2 : d < 256) : addb a d ≠ a := by
  unfold addb; omega

theorem advOf_lt (w : Bool) : 1 < advOf w ∧ advOf w < 255 := by cases w <;> decide

def push1 (board : Array Nat) (c : Ctx) (x : Nat) : List (Move × Bool) :=
  if cell board (addb x c.adv) == 0 then pawnTo c.promoRank x (addb x c.adv) false else []

def push2 (board : Array Nat) (c : Ctx) (x : Nat) : List (Move × Bool) :=
  if cell board (addb x c.adv) == 0 && (rankOf x == c.startRank && cell board (addb (addb x c.adv) c.adv) == 0)
  then [(⟨x, addb (addb x c.adv) c.adv, 0, addb x c.adv⟩, false)] else []

theorem pushList_eq (board : Array Nat) (c : Ctx) (x : Nat) :
    pushList board c x = push1 board c x ++ push2 board c x := by
  unfold pushList push1 push2
  cases h1 : (cell board (addb x c.adv) == 0) <;> simp [h1]

/-- `L` is the moves from `x` to `t` whose promotion field fits the rank of `t` (`promoOkB`). In order: every member
    is such a move and `AuxOk`; every such move of the rules is a member's abstraction; no duplicates. With
    `pawnTgt p x t` as guard this is `TgtOk` (`pawn_tgtOk`). -/
def PromoList (P : Spec.Pos) (c : Spec.Color) (x t : Nat) (L : List (Move × Bool)) : Prop :=
  (∀ y ∈ L, (absMove y.1).frm = to64 x ∧ (absMove y.1).to = to64 t ∧ promoOkB c (absMove y.1) = true ∧ AuxOk P y) ∧
  (∀ sm : Spec.Move, sm.frm = to64 x → sm.to = to64 t → promoOkB c sm = true → ∃ y ∈ L, absMove y.1 = sm) ∧
  (L.map fun y => absMove y.1).Nodup

theorem OriginOk.of_tgts {P : Spec.Pos} {x : Nat} (TG : List (Nat × List (Move × Bool)))
    (hT : (TG.map (·.1)).Nodup) (hv : ∀ tg ∈ TG, ∀ y ∈ tg.2, tg.1 ∈ sq88)
    (h : ∀ tg ∈ TG, tg.1 ∈ sq88 → TgtOk P x tg.1 tg.2)
    (hc : ∀ sm : Spec.Move, sm.frm = to64 x → Spec.pseudo' P sm = true →
      ∃ tg ∈ TG, tg.1 ∈ sq88 ∧ sm.to = to64 tg.1) :
    OriginOk P x (TG.flatMap (·.2)) := by
  refine ⟨fun y hy => ?_, fun y hy => ?_, fun sm hf hs => ?_, ?_⟩
  · obtain ⟨tg, ht, hy⟩ := List.mem_flatMap.1 hy
    exact ((h tg ht (hv tg ht y hy)).frm_to y hy).1
  · obtain ⟨tg, ht, hy⟩ := List.mem_flatMap.1 hy
    exact (h tg ht (hv tg ht y hy)).sound y hy
  · obtain ⟨tg, ht, ht88, hto⟩ := hc sm hf hs
    obtain ⟨y, hy, e⟩ := (h tg ht ht88).complete sm hf hto hs
    exact ⟨y, List.mem_flatMap.2 ⟨tg, ht, hy⟩, e⟩
  · have hn : ∀ tg ∈ TG, (tg.2.map fun y => absMove y.1).Nodup := by
      intro tg ht
      cases hG : tg.2 with
      | nil => exact List.nodup_nil
      | cons a l => rw [← hG]; exact (h tg ht (hv tg ht a (by rw [hG]; exact List.mem_cons_self))).nodup
    rw [List.map_flatMap]
    refine nodup_flatMap_keyed (·.1) (fun sm => to88 sm.to) hT hn fun tg ht sm hsm => ?_
    obtain ⟨y, hy, rfl⟩ := List.mem_map.1 hsm
    have v := hv tg ht y hy
    rw [((h tg ht v).frm_to y hy).2, to88_to64 v]

section Pawn
variable {p : Position} {kt : Killers} (env : Env p p.ctx (whiteTurn p) kt)
include env

theorem ep_eq {t : Nat} (ht : t ∈ sq88) : ((abs p).ep == some (to64 t)) = (t == p.ep) := by
  rcases env.ep with h | ⟨h, _⟩
  · have hv : isValid p.ep = false := by rw [h]; decide
    have hne : (t == p.ep) = false := by
      rw [h, beq_eq_false_iff_ne]; rintro rfl; exact ne_invalid ht rfl
    simp [abs, hv, hne]
  · have hv : isValid p.ep = true := (mem_sq88.1 h).2
    simp only [abs, hv, if_true]
    rw [Bool.eq_iff_iff]
    simp only [beq_iff_eq, Option.some.injEq]
    rw [to64_eq_iff h ht]
    exact eq_comm

theorem pawn_at {x : Nat} (hf : x ∈ p.ctx.cur.pawns) {sm : Spec.Move} (h1 : sm.frm = to64 x) :
    (abs p).at sm.frm = some ⟨colorOf (whiteTurn p), .pawn⟩ := by
  obtain ⟨hx, hcell, _⟩ := pawn_mem env hf
  rw [h1, at_eq env hx, hcell]; exact decode_pawn _

theorem pawn_pseudo {x t : Nat} (hf : x ∈ p.ctx.cur.pawns) (ht : t ∈ sq88) (sm : Spec.Move)
    (h1 : sm.frm = to64 x) (h2 : sm.to = to64 t) :
    Spec.pseudo' (abs p) sm = (promoOkB (colorOf (whiteTurn p)) sm && pawnTgt p x t) := by
  obtain ⟨hx, _, hg⟩ := pawn_mem env hf
  have hat := pawn_at env hf h1
  have hnp : (Spec.rankOf (to64 x) != Spec.promoRank (colorOf (whiteTurn p))) = true := by
    simpa using hg.notPromo
  rw [pseudo'_pawn hat]
  simp only [common, turn_eq, h1, h2, beq_self_eq_true, to64_lt hx, to64_lt ht, decide_true, Bool.true_and,
    tgtOk_eq env ht, hg.push t ht, hg.dbl t ht, hg.cap t ht, hg.mid, isNone_eq env ht, isNone_eq env hg.to1_mem,
    isSome_eq env ht, ep_eq env ht, hnp, Bool.and_true, pawnTgt, env.adv, env.startRank, env.enBit, env.curBit]
  have hE : (t == p.ep) = true → cell p.board t = 0 := by
    intro h
    rcases env.ep with h' | ⟨_, h'⟩
    · rw [beq_iff_eq] at h; rw [h, h'] at ht; exact absurd rfl (ne_invalid ht)
    · rw [beq_iff_eq] at h; rw [h]; exact h'
  have hcode := cell_code env.board ht
  generalize cell p.board t = v at hcode hE ⊢
  exact pawn_bool v (List.mem_cons.2 hcode) _ _ _ _ _ _ _ hE

theorem pawn_distinct (x : Nat) :
    let to1 := addb x p.ctx.adv
    addb to1 0xFF ≠ to1 ∧ addb to1 1 ≠ to1 ∧ addb to1 p.ctx.adv ≠ to1 ∧ addb to1 0xFF ≠ addb to1 1 ∧
      addb to1 0xFF ≠ addb to1 p.ctx.adv ∧ addb to1 1 ≠ addb to1 p.ctx.adv := by
  have h := advOf_lt (whiteTurn p)
  have hlt := addb_lt x p.ctx.adv
  rw [env.adv] at hlt ⊢
  refine ⟨addb_ne_self hlt (by omega) (by omega), addb_ne_self hlt (by omega) (by omega),
    addb_ne_self hlt (by omega) (by omega), addb_ne (by omega) (by omega) (by omega),
    addb_ne (by omega) (by omega) (by omega), addb_ne (by omega) (by omega) (by omega)⟩

theorem pawnTgt_eq (x : Nat) :
    pawnTgt p x (addb x p.ctx.adv) = (cell p.board (addb x p.ctx.adv) == 0) ∧
    pawnTgt p x (addb (addb x p.ctx.adv) p.ctx.adv) =
      (rankOf x == p.ctx.startRank && cell p.board (addb (addb x p.ctx.adv) p.ctx.adv) == 0 &&
        cell p.board (addb x p.ctx.adv) == 0) ∧
    ∀ t, t = addb (addb x p.ctx.adv) 0xFF ∨ t = addb (addb x p.ctx.adv) 1 →
      pawnTgt p x t = (cell p.board t &&& p.ctx.enBit != 0 || t == p.ep) := by
  obtain ⟨d1, d2, d3, d4, d5, d6⟩ := pawn_distinct env x
  have b : ∀ {a c : Nat}, a ≠ c → (a == c) = false := fun h => beq_eq_false_iff_ne.2 h
  refine ⟨?_, ?_, ?_⟩
  · simp only [pawnTgt, b d3.symm, b d1.symm, b d2.symm, beq_self_eq_true, Bool.true_and, Bool.false_and,
      Bool.and_false, Bool.or_false, Bool.false_or]
  · simp only [pawnTgt, b d3, b d5.symm, b d6.symm, beq_self_eq_true, Bool.true_and, Bool.and_true, Bool.false_and,
      Bool.and_false, Bool.or_false, Bool.false_or]
  · rintro t (rfl | rfl)
    · simp only [pawnTgt, b d1, b d5, beq_self_eq_true, Bool.true_or, Bool.true_and, Bool.false_and,
        Bool.and_false, Bool.false_or]
    · simp only [pawnTgt, b d2, b d6, beq_self_eq_true, Bool.or_true, Bool.true_and, Bool.false_and,
        Bool.and_false, Bool.false_or]

theorem capList_valid {x t : Nat} (hne : t ≠ InvalidSq) (hlt : t < 256) {y : Move × Bool}
    (hy : y ∈ capList p.board p.ctx p.ep x t) : t ∈ sq88 := by
  rcases (capList_mem hy).2 with hc | hc
  · exact mem_sq88.2 ⟨valid_lt128 hlt hc.1, hc.1⟩
  · rcases env.ep with h | ⟨h, _⟩
    · exact absurd (hc.trans h) hne
    · rw [hc]; exact h

omit env in
theorem capList_eq {x t : Nat} (ht : t ∈ sq88) :
    capList p.board p.ctx p.ep x t =
      if (cell p.board t &&& p.ctx.enBit != 0 || t == p.ep) then pawnTo p.ctx.promoRank x t true else [] := by
  unfold capList
  rw [(mem_sq88.1 ht).2, Bool.true_and]

theorem pawn_tgtOk {x t : Nat} (hf : x ∈ p.ctx.cur.pawns) (ht : t ∈ sq88) {L : List (Move × Bool)}
    (hL : pawnTgt p x t = true → PromoList (abs p) (colorOf (whiteTurn p)) x t L) :
    TgtOk (abs p) x t (if pawnTgt p x t then L else []) := by
  cases hc : pawnTgt p x t
  · refine ⟨by simp, by simp, fun sm h1 h2 hs => ?_, by simp⟩
    rw [pawn_pseudo env hf ht sm h1 h2, hc, Bool.and_false] at hs
    cases hs
  · obtain ⟨A1, A2, A3⟩ := hL hc
    simp only [if_true]
    refine ⟨fun y hy => ⟨(A1 y hy).1, (A1 y hy).2.1⟩, fun y hy => ?_, fun sm h1 h2 hs => ?_, A3⟩
    · obtain ⟨a1, a2, a3, a4⟩ := A1 y hy
      exact ⟨by rw [pawn_pseudo env hf ht _ a1 a2, a3, hc]; rfl, a4⟩
    · rw [pawn_pseudo env hf ht sm h1 h2, Bool.and_eq_true] at hs
      exact A2 sm h1 h2 hs.1

theorem pawnTo_ok {x t : Nat} (ht : t ∈ sq88) (tac : Bool)
    (haux : ∀ sm : Spec.Move, sm.frm = to64 x → sm.to = to64 t →
      Spec.isTactical (abs p) sm = (tac || sm.promo.isSome) ∧ (Spec.apply (abs p) sm).ep = none) :
    PromoList (abs p) (colorOf (whiteTurn p)) x t (pawnTo p.ctx.promoRank x t tac) := by
  rw [env.promoRank]
  obtain ⟨A1, A2, A3⟩ := pawnTo_spec (whiteTurn p) x ht tac
  refine ⟨fun y hy => ?_, A2, A3⟩
  obtain ⟨a1, a2, a3, a4, a5⟩ := A1 y hy
  obtain ⟨b1, b2⟩ := haux _ a1 a2
  exact ⟨a1, a2, a3, by rw [a5, b1], .inl a4, by rw [a4, absEp_invalid, b2]⟩

theorem cap_tgtOk {x t : Nat} (hf : x ∈ p.ctx.cur.pawns) (ht : t ∈ sq88)
    (hcap : t = addb (addb x p.ctx.adv) 0xFF ∨ t = addb (addb x p.ctx.adv) 1) :
    TgtOk (abs p) x t (capList p.board p.ctx p.ep x t) := by
  obtain ⟨hx, hcell, hg⟩ := pawn_mem env hf
  have hrel : capRel (colorOf (whiteTurn p)) (to64 x) (to64 t) = true := by
    rw [hg.cap t ht, ← env.adv]
    rcases hcap with h | h <;> simp [← h]
  have htgt := (pawnTgt_eq env x).2.2 t hcap
  rw [capList_eq ht, ← htgt]
  refine pawn_tgtOk env hf ht fun _ => pawnTo_ok env ht true fun sm h1 h2 => ?_
  exact pawn_cap_aux (pawn_at env hf h1) (by rw [h1, h2]; exact hrel)

theorem push1_tgtOk {x : Nat} (hf : x ∈ p.ctx.cur.pawns) :
    TgtOk (abs p) x (addb x p.ctx.adv) (push1 p.board p.ctx x) := by
  obtain ⟨hx, hcell, hg⟩ := pawn_mem env hf
  have ht : addb x p.ctx.adv ∈ sq88 := by rw [env.adv]; exact hg.to1_mem
  have hrel : pushRel (colorOf (whiteTurn p)) (to64 x) (to64 (addb x p.ctx.adv)) = true := by
    rw [hg.push _ ht, ← env.adv]; simp
  have htgt := (pawnTgt_eq env x).1
  unfold push1
  rw [← htgt]
  refine pawn_tgtOk env hf ht fun hc => pawnTo_ok env ht false fun sm h1 h2 => ?_
  rw [htgt] at hc
  exact pawn_push_aux (pawn_at env hf h1) (by rw [h1, h2]; exact hrel) (by rw [h2, isNone_eq env ht]; exact hc)

theorem push2_tgtOk {x : Nat} (hf : x ∈ p.ctx.cur.pawns) (ht : addb (addb x p.ctx.adv) p.ctx.adv ∈ sq88) :
    TgtOk (abs p) x (addb (addb x p.ctx.adv) p.ctx.adv) (push2 p.board p.ctx x) := by
  obtain ⟨hx, hcell, hg⟩ := pawn_mem env hf
  have ht1 : addb x p.ctx.adv ∈ sq88 := by rw [env.adv]; exact hg.to1_mem
  have htgt := (pawnTgt_eq env x).2.1
  have habs : absMove (⟨x, addb (addb x p.ctx.adv) p.ctx.adv, 0, addb x p.ctx.adv⟩ : Move) =
      ⟨to64 x, to64 (addb (addb x p.ctx.adv) p.ctx.adv), none⟩ := by
    simp only [absMove, decodePromo_zero]
  unfold push2
  rw [Bool.and_comm (cell p.board (addb x p.ctx.adv) == 0), ← htgt]
  -- `push2`'s guard is `pawnTgt` at this square, so `PromoList` of the one move is left. `pawnTo_ok` does not serve:
  -- the move carries the skipped square in `ep`, which `Spec.apply` has to set (`hg.dblAux`, last two parts).
  refine pawn_tgtOk env hf ht fun hc => ?_
  rw [htgt, Bool.and_eq_true, Bool.and_eq_true] at hc
  obtain ⟨⟨hstart, hc2⟩, hc1⟩ := hc
  have hstart' : rankOf x = startRankOf (whiteTurn p) := by rw [← env.startRank]; simpa using hstart
  obtain ⟨x1, x2, x3⟩ := hg.dblAux hstart'
  rw [← env.adv] at x1 x2 x3
  have hrel : dblRel (colorOf (whiteTurn p)) (to64 x) (to64 (addb (addb x p.ctx.adv) p.ctx.adv)) = true := by
    rw [hg.dbl _ ht, ← env.adv, ← env.startRank, hstart]; simp
  -- on the double-push square no promotion piece is admissible
  have hpok : ∀ sm : Spec.Move, sm.to = to64 (addb (addb x p.ctx.adv) p.ctx.adv) →
      promoOkB (colorOf (whiteTurn p)) sm = (sm.promo == none) := by
    intro sm h2
    have hnpr : (Spec.rankOf (to64 (addb (addb x p.ctx.adv) p.ctx.adv))
        == Spec.promoRank (colorOf (whiteTurn p))) = false := by
      rw [promoRank_iff _ ht, beq_eq_false_iff_ne]; exact x1
    simp only [promoOkB, h2, hnpr, Bool.false_eq_true, if_false]
  have hat := pawn_at env hf (sm := ⟨to64 x, to64 (addb (addb x p.ctx.adv) p.ctx.adv), none⟩) rfl
  refine ⟨fun y hy => ?_, fun sm h1 h2 hs => ?_, by simp⟩
  · rw [List.mem_singleton] at hy; subst hy
    refine ⟨by simp only [habs], by simp only [habs], by simp only [habs]; rw [hpok _ rfl]; rfl, ?_, .inr ht1, ?_⟩
    · simp only [habs]
      rw [isTactical_pawn hat]
      simp only [dblRel, Bool.and_eq_true, beq_iff_eq] at hrel
      have hsome : ((abs p).at (to64 (addb (addb x p.ctx.adv) p.ctx.adv))).isSome = false := by
        rw [isSome_eq env ht, beq_iff_eq.1 hc2]; rfl
      simp [hrel.1.1, hsome]
    · simp only [habs]
      rw [apply_ep hat]
      simp only [beq_self_eq_true, Bool.true_and, x2, if_true, x3, absEp, (mem_sq88.1 ht1).2]
  · rw [hpok sm h2, beq_iff_eq] at hs
    refine ⟨_, List.mem_singleton.2 rfl, ?_⟩
    rw [habs]
    cases sm
    simp only at h1 h2 hs
    rw [h1, h2, hs]

theorem pawn_originOk {x : Nat} (hf : x ∈ p.ctx.cur.pawns) :
    OriginOk (abs p) x (pawnList p.board p.ctx p.ep x) := by
  obtain ⟨hx, hcell, hg⟩ := pawn_mem env hf
  obtain ⟨d1, d2, d3, d4, d5, d6⟩ := pawn_distinct env x
  have ht1 : addb x p.ctx.adv ∈ sq88 := by rw [env.adv]; exact hg.to1_mem
  -- the list cut by target square (two captures, push, double push); `OriginOk.of_tgts` then asks: the four targets
  -- differ (`pawn_distinct`), a target with a non-empty list is on the board, `TgtOk` for each, and every move of the
  -- rules from `x` goes to one of the four (by cases on `pawnTgt`)
  have e : pawnList p.board p.ctx p.ep x =
      [(addb (addb x p.ctx.adv) 0xFF, capList p.board p.ctx p.ep x (addb (addb x p.ctx.adv) 0xFF)),
       (addb (addb x p.ctx.adv) 1, capList p.board p.ctx p.ep x (addb (addb x p.ctx.adv) 1)),
       (addb x p.ctx.adv, push1 p.board p.ctx x),
       (addb (addb x p.ctx.adv) p.ctx.adv, push2 p.board p.ctx x)].flatMap (·.2) := by
    simp only [pawnList, pushList_eq, List.flatMap_cons, List.flatMap_nil, List.append_nil, List.append_assoc]
  rw [e]
  refine OriginOk.of_tgts _ (by simp [d1, d2, d3.symm, d4, d5, d6]) (fun tg htg y hy => ?_) (fun tg htg ht => ?_)
    (fun sm hfr hs => ?_)
  · simp only [List.mem_cons, List.not_mem_nil, or_false] at htg
    rcases htg with rfl | rfl | rfl | rfl
    · exact capList_valid env (by rw [env.adv]; exact hg.toQ_ne) (addb_lt _ _) hy
    · exact capList_valid env (by rw [env.adv]; exact hg.toK_ne) (addb_lt _ _) hy
    · exact ht1
    · rw [env.adv]
      refine hg.to2_mem ?_
      rw [← env.startRank]
      cases hs : (rankOf x == p.ctx.startRank)
      · simp [push2, hs] at hy
      · simpa using hs
  · simp only [List.mem_cons, List.not_mem_nil, or_false] at htg
    rcases htg with rfl | rfl | rfl | rfl
    · exact cap_tgtOk env hf ht (.inl rfl)
    · exact cap_tgtOk env hf ht (.inr rfl)
    · exact push1_tgtOk env hf
    · exact push2_tgtOk env hf ht
  · have hlt : sm.to < 64 := by
      have := hs
      rw [pseudo'_pawn (pawn_at env hf hfr)] at this
      simp only [common, Bool.and_eq_true, decide_eq_true_eq] at this
      exact this.1.1.2
    have ht := to88_mem hlt
    have hto : sm.to = to64 (to88 sm.to) := (to64_to88 hlt).symm
    have hp := hs
    rw [pawn_pseudo env hf ht sm hfr hto, Bool.and_eq_true] at hp
    have htg := hp.2
    simp only [pawnTgt, Bool.or_eq_true, Bool.and_eq_true, beq_iff_eq] at htg
    simp only [List.mem_cons, List.not_mem_nil, or_false, exists_eq_or_imp, exists_eq_left]
    rcases htg with (⟨e, _⟩ | ⟨⟨⟨_, e⟩, _⟩, _⟩) | ⟨e | e, _⟩
    · exact .inr (.inr (.inl ⟨e ▸ ht, e ▸ hto⟩))
    · exact .inr (.inr (.inr ⟨e ▸ ht, e ▸ hto⟩))
    · exact .inl ⟨e ▸ ht, e ▸ hto⟩
    · exact .inr (.inl ⟨e ▸ ht, e ▸ hto⟩)

end Pawn

theorem pawn_not_officer (w : Bool) : pawnOf w ∉ officersOf w ∧ kingOf w ∉ officersOf w ∧ pawnOf w ≠ kingOf w := by
  cases w <;> decide

theorem spec_of_origins {P : Spec.Pos} (OG : List (Nat × List (Move × Bool)))
    (hO : (OG.map fun og => to64 og.1).Nodup) (h : ∀ og ∈ OG, OriginOk P og.1 og.2)
    (hc : ∀ sm : Spec.Move, Spec.pseudo' P sm = true → ∃ og ∈ OG, sm.frm = to64 og.1) :
    (∀ y ∈ OG.flatMap (·.2), Spec.pseudo' P (absMove y.1) = true ∧ AuxOk P y) ∧
    (∀ sm : Spec.Move, Spec.pseudo' P sm = true → ∃ y ∈ OG.flatMap (·.2), absMove y.1 = sm) ∧
    ((OG.flatMap (·.2)).map fun y => absMove y.1).Nodup := by
  refine ⟨fun y hy => ?_, fun sm hs => ?_, ?_⟩
  · obtain ⟨og, hog, hy⟩ := List.mem_flatMap.1 hy
    exact (h og hog).sound y hy
  · obtain ⟨og, hog, hf⟩ := hc sm hs
    obtain ⟨y, hy, e⟩ := (h og hog).complete sm hf hs
    exact ⟨y, List.mem_flatMap.2 ⟨og, hog, hy⟩, e⟩
  · rw [List.map_flatMap]
    refine nodup_flatMap_keyed (fun og => to64 og.1) Spec.Move.frm hO (fun og hog => (h og hog).nodup)
      fun og hog sm hsm => ?_
    obtain ⟨y, hy, rfl⟩ := List.mem_map.1 hsm
    exact (h og hog).frm y hy

def origins (p : Position) : List (Nat × List (Move × Bool)) :=
  p.ctx.cur.pawns.map (fun x => (x, pawnList p.board p.ctx p.ep x)) ++
  (p.ctx.cur.pieces.map (fun x => (x, officerList p.board p.ctx x)) ++
  [(p.ctx.cur.king, kingList p.board p.ctx (whiteTurn p) ++ castleList p.board p.ctx (whiteTurn p))])

theorem genList_eq (p : Position) : genList p = (origins p).flatMap (·.2) := by
  simp only [genList, origins, List.flatMap_append, List.flatMap_map, List.flatMap_singleton, List.append_assoc]

section Assembly
variable {p : Position} {kt : Killers} (env : Env p p.ctx (whiteTurn p) kt)
include env

omit env in
theorem map_to64_nodup {l : List Nat} (hl : l.Nodup) (hv : ∀ x ∈ l, x ∈ sq88) : (l.map to64).Nodup :=
  List.Nodup.map_on (fun a ha b hb h => to64_inj (hv a ha) (hv b hb) h) hl

/-- pawns, officers and the king stand on different squares, since the cells differ -/
theorem origins_nodup : ((origins p).map fun og => to64 og.1).Nodup := by
  obtain ⟨hkv, hkc⟩ := king_mem env
  obtain ⟨q1, q2, q3⟩ := pawn_not_officer (whiteTurn p)
  have e : (origins p).map (fun og => to64 og.1) =
      (p.ctx.cur.pawns ++ (p.ctx.cur.pieces ++ [p.ctx.cur.king])).map to64 := by
    simp [origins, Function.comp_def]
  rw [e]
  refine map_to64_nodup (List.nodup_append.2 ⟨env.pawnsNodup,
    List.nodup_append.2 ⟨env.piecesNodup, List.nodup_singleton _, ?_⟩, ?_⟩) ?_
  · intro a ha b hb e
    rw [List.mem_singleton] at hb
    exact q2 (by rw [← hkc, ← hb, ← e]; exact (officer_mem env ha).2)
  · intro a ha b hb e
    subst e
    rcases List.mem_append.1 hb with hb | hb
    · exact q1 (by rw [← (pawn_mem env ha).2.1]; exact (officer_mem env hb).2)
    · rw [List.mem_singleton] at hb
      exact q3 (by rw [← (pawn_mem env ha).2.1, hb, hkc])
  · intro x hx
    rcases List.mem_append.1 hx with hx | hx
    · exact (pawn_mem env hx).1
    · rcases List.mem_append.1 hx with hx | hx
      · exact (officer_mem env hx).1
      · rw [List.mem_singleton] at hx; rw [hx]; exact hkv

theorem genList_spec :
    (∀ y ∈ genList p, Spec.pseudo' (abs p) (absMove y.1) = true ∧ AuxOk (abs p) y) ∧
    (∀ sm : Spec.Move, Spec.pseudo' (abs p) sm = true → ∃ y ∈ genList p, absMove y.1 = sm) ∧
    ((genList p).map fun y => absMove y.1).Nodup := by
  rw [genList_eq]
  refine spec_of_origins _ (origins_nodup env) ?_ ?_
  · intro og hog
    simp only [origins, List.mem_append, List.mem_map, List.mem_singleton] at hog
    rcases hog with ⟨x, hx, rfl⟩ | ⟨x, hx, rfl⟩ | rfl
    · exact pawn_originOk env hx
    · exact officer_originOk env hx
    · exact king_originOk env
  · intro sm hs
    obtain ⟨man, hat, hcol, hlt⟩ := pseudo_origin (Spec.pseudo_of_pseudo' hs)
    have hx := to88_mem hlt
    have hfr : sm.frm = to64 (to88 sm.frm) := (to64_to88 hlt).symm
    rw [hfr, at_eq env hx] at hat
    rw [turn_eq] at hcol
    obtain ⟨h1, h2⟩ := mem_sq88.1 hx
    have hsome := some_cell (lt_size env.board hx)
    simp only [origins, List.mem_append, List.mem_map, List.mem_singleton]
    rcases classify (cell_code env.board hx) (whiteTurn p) (by rw [hat]; simp [hcol]) with hc | hc | hc
    · exact ⟨_, .inl ⟨_, (env.cur.pawns _).2 ⟨h1, h2, by rw [hsome, hc]⟩, rfl⟩, hfr⟩
    · exact ⟨_, .inr (.inl ⟨_, (env.cur.pieces _).2 ⟨h1, h2, _, hc, hsome⟩, rfl⟩), hfr⟩
    · exact ⟨_, .inr (.inr rfl), by rw [← (env.cur.king _).2 ⟨h1, h2, by rw [hsome, hc]⟩]; exact hfr⟩

end Assembly

theorem abs_unique_king {p : Position} {kt : Killers} (env : Env p p.ctx (whiteTurn p) kt) :
    ∀ s < 64, ∀ s' < 64, (abs p).at s = some ⟨(abs p).turn, .king⟩ →
      (abs p).at s' = some ⟨(abs p).turn, .king⟩ → s = s' := by
  intro s hs s' hs' h h'
  rw [turn_eq] at h h'
  simp only [Spec.Pos.at, abs] at h h'
  exact (king_at_unique env.board env.cur hs h).trans (king_at_unique env.board env.cur hs' h').symm

theorem legal_pseudo' {p : Position} {kt : Killers} (env : Env p p.ctx (whiteTurn p) kt) {sm : Spec.Move}
    (h : Spec.legal (abs p) sm = true) : Spec.pseudo' (abs p) sm = true :=
  KingStep.pseudo'_of_legal (absBoard_size p.board) (abs_unique_king env) h

/-- The generator's result against the rules, read by position downstream (`LegalMoves.pseudo_mem_iff`,
    `legal_perm`): `.1` sound, with the tactical flag and the `ep` field (`AuxOk`); `.2.1` complete; `.2.2` no two
    generated moves with one abstraction. `genList_spec` and `spec_of_origins` state the same triple in this order. -/
theorem genPseudo_spec {p : Position} (inv : Inv p) {kt : Killers} {ms : List RMove}
    (h : genPseudo kt p = .ok ms) :
    (∀ rm ∈ ms, Spec.pseudo' (abs p) (absMove rm.mov) = true ∧ AuxOk (abs p) (rm.mov, rm.tactical)) ∧
    (∀ sm : Spec.Move, Spec.pseudo' (abs p) sm = true → ∃ rm ∈ ms, absMove rm.mov = sm) ∧
    (ms.map fun rm => absMove rm.mov).Nodup := by
  obtain ⟨h1, h2, h3⟩ := genList_spec (env_of_inv inv Props.C18.killers_empty_size)
  rw [← genPseudo_view_eq inv h] at h1 h2 h3
  refine ⟨fun rm hrm => h1 (view rm) (List.mem_map.2 ⟨rm, hrm, rfl⟩), fun sm hs => ?_, by rwa [List.map_map] at h3⟩
  obtain ⟨y, hy, e⟩ := h2 sm hs
  obtain ⟨rm, hrm, rfl⟩ := List.mem_map.1 hy
  exact ⟨rm, hrm, e⟩

open Magog.MM

theorem oppSafe_iff {p : Position} (hI : Inv p) :
    OppSafe p ↔ Spec.inCheck (abs p).board (abs p).turn.other = false := by
  unfold OppSafe
  rw [oppCheck_eq p hI.board hI.side, turn_eq, other_colorOf]
  exact ⟨Except.ok.inj, congrArg _⟩

theorem generated_pseudo {p : Position} {m : Move} (hI : Inv p) (hG : Generated p m) :
    Spec.pseudo' (abs p) (absMove m) = true := by
  obtain ⟨kt, ps, hps, hm⟩ := hG
  obtain ⟨rm, hrm, rfl⟩ := List.mem_map.1 hm
  exact ((genPseudo_spec hI hps).1 rm hrm).1

theorem adiff_comm (a b : Nat) : Spec.adiff a b = Spec.adiff b a := by
  unfold Spec.adiff; split <;> split <;> omega

theorem pseudo_attacks {P : Spec.Pos} {m : Spec.Move} {t : Spec.Man} (hp : Spec.pseudo P m = true)
    (ht : P.at m.to = some t) : Spec.attacked P.board P.turn m.to = true := by
  unfold Spec.pseudo at hp
  cases hat : P.at m.frm with
  | none => simp [hat] at hp
  | some man =>
    have hgoal : ∀ (hcol : man.color = P.turn) (hfl : m.frm < 64)
        (hma : Spec.manAttacks P.board man m.frm m.to = true), Spec.attacked P.board P.turn m.to = true := by
      intro hcol hfl hma
      simp only [Spec.attacked, Spec.allSq, List.any_eq_true]
      refine ⟨m.frm, List.mem_range.2 hfl, ?_⟩
      have : P.board.getD m.frm none = some man := hat
      simp only [this, hcol, hma, beq_self_eq_true, Bool.and_self]
    obtain ⟨c, k⟩ := man
    cases k <;> simp only [hat, ht, Bool.and_eq_true, decide_eq_true_eq, beq_iff_eq] at hp <;>
      obtain ⟨⟨⟨⟨hcol, hfl⟩, _⟩, _⟩, hk⟩ := hp <;> subst hcol
    · -- pawn
      simp only [Option.isNone_some, Option.isSome_some, Bool.and_false, Bool.false_and, Bool.or_false, Bool.false_or,
        Bool.and_true, Bool.and_eq_true, beq_iff_eq, bne_iff_ne, ne_eq] at hk
      obtain ⟨⟨_, hnp⟩, hdf, hr⟩ := hk
      refine hgoal rfl hfl ?_
      simp only [Spec.manAttacks, Bool.and_eq_true, beq_iff_eq]
      refine ⟨by rw [adiff_comm]; exact hdf, ?_⟩
      cases hc : P.turn <;> simp only [hc, Spec.fwd, Spec.promoRank] at hr hnp ⊢
      · simpa using hr
      · simp only [beq_iff_eq]; omega
    · exact hgoal rfl hfl hk.2
    · exact hgoal rfl hfl hk.2
    · exact hgoal rfl hfl hk.2
    · exact hgoal rfl hfl hk.2
    · -- king: castling needs an empty destination
      simp only [Bool.and_eq_true, Bool.or_eq_true, beq_iff_eq] at hk
      rcases hk.2 with (h | h) | h
      · exact hgoal rfl hfl h
      · have h1 := h.1.1.1.2
        have h2 := h.1.1.1.1.1.1.2
        rw [← h2, ht] at h1; simp at h1
      · have h1 := h.1.1.1.1.2
        have h2 := h.1.1.1.1.1.1.1.2
        rw [← h2, ht] at h1; simp at h1

theorem generated_not_king {p : Position} {m : Move} (hI : Inv p) (hS : OppSafe p) (hG : Generated p m) :
    m.to ≠ (p.side (!whiteTurn p)).king := by
  intro e
  have env := env_of_inv hI Props.C18.killers_empty_size
  have hp := Spec.pseudo_of_pseudo' (generated_pseudo hI hG)
  have hen := hI.side (!whiteTurn p)
  obtain ⟨h1, h2, h3⟩ := (hen.king _).1 rfl
  have hk88 : (p.side (!whiteTurn p)).king ∈ sq88 := mem_sq88.2 ⟨h1, h2⟩
  have hat : (abs p).at (absMove m).to = some ⟨colorOf (!whiteTurn p), .king⟩ := by
    show (abs p).at (to64 m.to) = _
    rw [e, at_eq env hk88, cell_of_some h3]; exact decode_king _
  have hatt := pseudo_attacks hp hat
  have hchk : Spec.inCheck (abs p).board (abs p).turn.other = true := by
    rw [turn_eq] at hatt ⊢
    rw [other_colorOf]
    show Spec.inCheck (absBoard p.board) (colorOf (!whiteTurn p)) = true
    rw [Spec.inCheck, kingSq_eq hI.board hen]
    simp only [other_colorOf, Bool.not_not]
    rw [← e]
    exact hatt
  rw [(oppSafe_iff hI).1 hS] at hchk
  cases hchk

end Magog.GenPseudo
