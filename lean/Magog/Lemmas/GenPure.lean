import Magog.Lemmas.GenGeometry
import Magog.Lemmas.Inv
import Magog.Lemmas.KillerIndep
import Magog.Lemmas.CountTac
import Magog.Lemmas.CountPromo
import Magog.Lemmas.MMFlags

/-! The pseudo-legal generator as a pure list (for property C01). Under `Env` (what one side's run needs of `Inv`:
    `env_of_inv` for the side to move, `env_ctxW` for either side) every generator of `genPseudo` runs without panic
    and its result, viewed as a list of `(move, tactical flag)` pairs (`view`; rankings are dropped), is a pure list
    function of the board (`genList`): soundness, completeness and duplicate-freeness become statements about pure
    lists (`Lemmas/GenPseudo.lean`). The attack tests stand in the lists as the rules' (`safeSq`, in `kingList` and in
    the castling conditions `castleQCond`, `castleKCond`); a slider ray is the fold over `rayTargets` for any emitter
    (`ray_closed`, which `TotalCount` shares). `pawnCapQ`, `pawnCapK`, `pawnPushGen` of the `*_view` lemmas are the three
    parts into which `CountTac` (namespace `Magog.Count`) cuts `pawnGen` (`pawnGen_eq`): proof-side pieces, not model
    functions. Beside each list stands what a move in it looks like (`stepList_mem`, `slideList_mem`, `pawnTo_mem`,
    `capList_mem`, …), and `generated_mem` finds every move of a successful `genPseudo` in `genList p`: what holds of
    a generated move is read off the lists, not off the generator's text (so `generated_cases` in `MMGen`). -/

set_option linter.unusedSimpArgs false

namespace Magog.GenPure
open Magog Magog.Model Magog.Geo Magog.Atk Magog.GenGeoO Magog.Count Magog.Walk

def view (rm : RMove) : Move × Bool := (rm.mov, rm.tactical)

/-- total board read: 0 beyond the array (128 cells). The pure lists evaluate it there too (`capList` at a capture
    square such as `0xFF`, `pushList` at the double-push square of a pawn off its start rank); at those indices
    `isValid` and the start-rank test decide, whatever the value. -/
def cell (board : Array Nat) (s : Nat) : Nat := board.getD s 0

def colorBit (w : Bool) : Nat := if w then WhiteBit else BlackBit

def kinds : List Nat := [Pawn, Knight, Bishop, Rook, Queen, King]

theorem cell_of_some {board : Array Nat} {s v : Nat} (h : board[s]? = some v) : cell board s = v :=
  getD_of_some h

theorem some_cell {board : Array Nat} {s : Nat} (hs : s < board.size) : board[s]? = some (cell board s) :=
  some_getD hs 0

theorem bget_cell {board : Array Nat} {s : Nat} (hs : s < board.size) : bget board s = .ok (cell board s) :=
  bget_ok_iff.2 (some_cell hs)

theorem cell_code {board : Array Nat} (hb : BoardOk board) {s : Nat} (hs : s ∈ sq88) :
    cell board s = 0 ∨ cell board s ∈ pieceCodes := by
  obtain ⟨h1, h2⟩ := mem_sq88.1 hs
  obtain ⟨v, hv, hc⟩ := hb.codes s h1 h2
  rw [cell_of_some hv]; exact hc

theorem lt_size {board : Array Nat} (hb : BoardOk board) {s : Nat} (hs : s ∈ sq88) : s < board.size := by
  rw [hb.size]; exact (mem_sq88.1 hs).1

theorem code_facts {v : Nat} (hv : v = 0 ∨ v ∈ pieceCodes) (w : Bool) :
    ((v &&& Colorless != 0) = (decodePiece v).isSome) ∧
    ((v &&& colorBit w != 0) = (match decodePiece v with | some m => m.color == colorOf w | none => false)) ∧
    (v = 0 ∨ v &&& Colorless ∈ kinds) ∧ ((v == 0) = (decodePiece v).isNone) := by
  have : ∀ v ∈ 0 :: pieceCodes, ∀ w : Bool,
    ((v &&& Colorless != 0) = (decodePiece v).isSome) ∧
    ((v &&& colorBit w != 0) = (match decodePiece v with | some m => m.color == colorOf w | none => false)) ∧
    (v = 0 ∨ v &&& Colorless ∈ kinds) ∧ ((v == 0) = (decodePiece v).isNone) := by decide
  exact this v (List.mem_cons.2 hv) w

theorem code_empty {v : Nat} (hv : v = 0 ∨ v ∈ pieceCodes) (w : Bool)
    (h1 : v &&& colorBit w = 0) (h2 : v &&& colorBit (!w) = 0) : v = 0 := by
  have : ∀ v ∈ 0 :: pieceCodes, ∀ w : Bool, v &&& colorBit w = 0 → v &&& colorBit (!w) = 0 → v = 0 := by decide
  exact this v (List.mem_cons.2 hv) w h1 h2

theorem code_excl {v : Nat} (hv : v = 0 ∨ v ∈ pieceCodes) (w : Bool)
    (h1 : v &&& colorBit w ≠ 0) : v &&& colorBit (!w) = 0 := by
  have : ∀ v ∈ 0 :: pieceCodes, ∀ w : Bool, v &&& colorBit w ≠ 0 → v &&& colorBit (!w) = 0 := by decide
  exact this v (List.mem_cons.2 hv) w h1

theorem pieceToScore_ok {k : Nat} (hk : k ∈ kinds) : ∃ s, pieceToScore k = .ok s := by
  simp only [kinds, List.mem_cons, List.not_mem_nil, or_false] at hk
  rcases hk with rfl | rfl | rfl | rfl | rfl | rfl <;> exact ⟨_, rfl⟩

/-- What the `*_view` lemmas ask of a position `p` read through a context `c` by the side `w`: the part of `Inv` that
    one side's run of the generator touches, and the killer table's size. `c`, `w` are parameters since the counters'
    totality also runs for the side not to move (`env_ctxW`); `env_of_inv` is the case `p.ctx`, `whiteTurn p`. -/
structure Env (p : Position) (c : Ctx) (w : Bool) (kt : Killers) : Prop where
  board : BoardOk p.board
  off : ∀ i : Nat, i < 128 → isValid i = false → p.board[i]? = some 0
  cur : SideOk p.board c.cur w
  en : SideOk p.board c.en (!w)
  curBit : c.curBit = colorBit w
  enBit : c.enBit = colorBit (!w)
  adv : c.adv = advOf w
  startRank : c.startRank = startRankOf w
  promoRank : c.promoRank = promoRankOf w
  /-- read by the quiet emissions only (`quiet_total`: the killer lookup at `ply` must not panic); a consumer with no
      table at hand takes `Killers.empty` (`Props.C18.killers_empty_size`) -/
  kt : kt.size = Gen.killerMovesMaxPly
  noBack : ∀ s ∈ c.cur.pawns, notBack s = true
  castleQ : c.qOk = true → c.cur.king = kingHome w ∧ cell p.board (kingHome w - 4) = (if w then Gen.WRook else Gen.BRook)
  castleK : c.kOk = true → c.cur.king = kingHome w ∧ cell p.board (kingHome w + 3) = (if w then Gen.WRook else Gen.BRook)
  ep : p.ep = InvalidSq ∨ (p.ep ∈ sq88 ∧ cell p.board p.ep = 0)
  pawnsNodup : c.cur.pawns.Nodup
  piecesNodup : c.cur.pieces.Nodup

def plainMv (board : Array Nat) (frm to : Nat) : Move × Bool :=
  (⟨frm, to, 0, InvalidSq⟩, cell board to &&& Colorless != 0)

theorem plainMv_mem {board : Array Nat} {frm : Nat} {T : List Nat} {m : Move} {b : Bool}
    (h : (m, b) ∈ T.map (plainMv board frm)) :
    ∃ t ∈ T, m = ⟨frm, t, 0, InvalidSq⟩ ∧ b = (cell board t &&& Colorless != 0) := by
  obtain ⟨t, ht, e⟩ := List.mem_map.1 h
  exact ⟨t, ht, (congrArg Prod.fst e).symm, (congrArg Prod.snd e).symm⟩

theorem moveOrCapture_view {kt : Killers} (hk : kt.size = Gen.killerMovesMaxPly) (ply : Int) (frm to : Nat)
    {att x : Nat} (ha : att ∈ kinds) (hx : x = 0 ∨ x ∈ kinds) :
    ∃ rm, moveOrCapture kt ply frm to att x = .ok rm ∧ view rm = (⟨frm, to, 0, InvalidSq⟩, x != 0) := by
  unfold moveOrCapture
  by_cases h0 : x = 0
  · subst h0
    obtain ⟨rm, hrm⟩ := Magog.Lemmas.KillerIndep.quiet_total hk ply ⟨frm, to, 0, InvalidSq⟩
    refine ⟨rm, by simpa using hrm, ?_⟩
    obtain ⟨h1, h2⟩ := quiet_shape hrm
    simp [view, h1, h2]
  · have hx' : x ∈ kinds := by rcases hx with h | h; exact absurd h h0; exact h
    obtain ⟨s1, hs1⟩ := pieceToScore_ok hx'
    obtain ⟨s2, hs2⟩ := pieceToScore_ok ha
    have : (x == 0) = false := by simpa using h0
    refine ⟨⟨⟨frm, to, 0, InvalidSq⟩, s1 - s2 + Gen.rankingBonusTactical, true⟩,
      by simp only [this, Bool.false_eq_true, if_false, captureRM, hs1, hs2, ok_bind, pure_eq_ok], ?_⟩
    simp [view, h0]

theorem flatMapM'_view {α} {f : α → M (List RMove)} {g : α → List (Move × Bool)} (l : List α)
    (h : ∀ x ∈ l, ∃ a, f x = .ok a ∧ a.map view = g x) :
    ∃ r, flatMapM' f l = .ok r ∧ r.map view = l.flatMap g := by
  induction l with
  | nil => exact ⟨[], rfl, rfl⟩
  | cons x xs ih =>
    obtain ⟨a, ha, hav⟩ := h x List.mem_cons_self
    obtain ⟨r, hr, hrv⟩ := ih (fun y hy => h y (List.mem_cons_of_mem _ hy))
    refine ⟨a ++ r, by simp only [flatMapM', ha, hr, ok_bind, pure_eq_ok], ?_⟩
    simp [hav, hrv]

def stepList (board : Array Nat) (curBit frm : Nat) (dirs : List Nat) (extra : Nat → Bool) : List (Move × Bool) :=
  ((stepSqs frm dirs).filter fun to => cell board to &&& curBit == 0 && extra to).map (plainMv board frm)

theorem stepList_mem {board : Array Nat} {cb frm : Nat} {dirs : List Nat} {extra : Nat → Bool} {m : Move} {b : Bool}
    (h : (m, b) ∈ stepList board cb frm dirs extra) :
    ∃ d ∈ dirs, m = ⟨frm, addb frm d, 0, InvalidSq⟩ ∧ addb frm d ∈ sq88 ∧ cell board (addb frm d) &&& cb = 0 ∧
      b = (cell board (addb frm d) &&& Colorless != 0) := by
  obtain ⟨t, ht, rfl, hb⟩ := plainMv_mem h
  obtain ⟨ht, hc⟩ := List.mem_filter.1 ht
  obtain ⟨d, hd, rfl, hv⟩ := stepSqs_iff.1 ht
  rw [Bool.and_eq_true, beq_iff_eq] at hc
  exact ⟨d, hd, rfl, addb_mem hv, hc.1, hb⟩

theorem flatMap_step (frm : Nat) (P : Nat → Bool) (g : Nat → Move × Bool) (dirs : List Nat) :
    dirs.flatMap (fun d => if isValid (addb frm d) && P (addb frm d) then [g (addb frm d)] else [])
      = ((stepSqs frm dirs).filter P).map g := by
  induction dirs with
  | nil => rfl
  | cons d ds ih =>
    simp only [List.flatMap_cons, ih, stepSqs, List.map_cons, List.filter_cons]
    cases hv : isValid (addb frm d) <;> cases hp : P (addb frm d) <;> simp [hp]

theorem cell_kind {board : Array Nat} (hb : BoardOk board) {s : Nat} (hs : s ∈ sq88) :
    cell board s &&& Colorless = 0 ∨ cell board s &&& Colorless ∈ kinds := by
  rcases (code_facts (cell_code hb hs) true).2.2.1 with h | h
  · left; rw [h]; rfl
  · exact .inr h

theorem knightGen_view {p : Position} {c : Ctx} {w : Bool} {kt : Killers} (env : Env p c w kt) {frm : Nat}
    (hf : frm ∈ sq88) (hfk : cell p.board frm &&& Colorless ∈ kinds) :
    ∃ a, knightGen p c kt frm = .ok a ∧
      a.map view = stepList p.board c.curBit frm knightDirs (fun _ => true) := by
  -- a plain `flatMapM'` over the directions, unfolded and split by hand (so is `kingGen_view`): no lemma states
  -- `knightGen`, `kingGen` alone through `Count.stepBody`; only the slider, a recursion on fuel, needs `Walk.ray`
  unfold knightGen stepList
  rw [← flatMap_step frm]
  apply flatMapM'_view
  intro d _
  cases hv : isValid (addb frm d)
  · exact ⟨[], by simp only [hv, andM_false, ok_bind, Bool.false_eq_true, if_false, pure_eq_ok], by simp [hv]⟩
  · have hm := addb_mem hv
    have hlt := lt_size env.board hm
    have hfl := lt_size env.board hf
    cases hc : (cell p.board (addb frm d) &&& c.curBit == 0)
    · exact ⟨[], by simp only [hv, andM_true, bget_cell hlt, ok_bind, pure_eq_ok, hc, Bool.false_eq_true, if_false],
        by simp [hv, hc]⟩
    · obtain ⟨rm, hrm, hrv⟩ := moveOrCapture_view env.kt p.ply frm (addb frm d) hfk (cell_kind env.board hm)
      exact ⟨[rm], by simp only [hv, andM_true, bget_cell hlt, bget_cell hfl, ok_bind, pure_eq_ok, hc, if_true, hrm],
        by simp [hv, hc, hrv, plainMv]⟩

def safeSq (board : Array Nat) (w : Bool) (s : Nat) : Bool :=
  !Spec.attacked (absBoard board) (colorOf (!w)) (to64 s)

theorem notAttacked_eq {p : Position} {c : Ctx} {w : Bool} {kt : Killers} (env : Env p c w kt) {s : Nat}
    (hs : s ∈ sq88) : notAttacked p c s = .ok (safeSq p.board w s) := by
  simp only [notAttacked, isUnderCheck_eq env.board env.en hs, ok_bind, pure_eq_ok, safeSq]

def kingList (board : Array Nat) (c : Ctx) (w : Bool) : List (Move × Bool) :=
  stepList board c.curBit c.cur.king kingDirs (safeSq board w)

theorem king_mem {p : Position} {c : Ctx} {w : Bool} {kt : Killers} (env : Env p c w kt) :
    c.cur.king ∈ sq88 ∧ cell p.board c.cur.king = kingOf w := by
  obtain ⟨h, e⟩ := env.cur.king_cell
  exact ⟨h, cell_of_some e⟩

theorem kingGen_view {p : Position} {c : Ctx} {w : Bool} {kt : Killers} (env : Env p c w kt) :
    ∃ a, kingGen p c kt = .ok a ∧ a.map view = kingList p.board c w := by
  obtain ⟨hf, hfc⟩ := king_mem env
  have hfk : cell p.board c.cur.king &&& Colorless ∈ kinds := by rw [hfc]; cases w <;> decide
  unfold kingGen kingList stepList
  rw [← flatMap_step c.cur.king]
  apply flatMapM'_view
  intro d _
  cases hv : isValid (addb c.cur.king d)
  · exact ⟨[], by simp only [hv, andM_false, ok_bind, Bool.false_eq_true, if_false, pure_eq_ok], by simp⟩
  · have hm := addb_mem hv
    have hlt := lt_size env.board hm
    have hfl := lt_size env.board hf
    cases hc : (cell p.board (addb c.cur.king d) &&& c.curBit == 0)
    · exact ⟨[], by simp only [hv, andM_true, andM_false, bget_cell hlt, ok_bind, pure_eq_ok, hc,
        Bool.false_eq_true, if_false], by simp [hc]⟩
    · cases hs : safeSq p.board w (addb c.cur.king d)
      · refine ⟨[], ?_, by simp [hc, hs]⟩
        have := isUnderCheck_eq env.board env.en hm
        simp only [safeSq, Bool.not_eq_false'] at hs
        simp only [hv, andM_true, bget_cell hlt, ok_bind, pure_eq_ok, hc, this, hs, Bool.not_true,
          Bool.false_eq_true, if_false]
      · obtain ⟨rm, hrm, hrv⟩ := moveOrCapture_view env.kt p.ply c.cur.king (addb c.cur.king d) hfk
          (cell_kind env.board hm)
        refine ⟨[rm], ?_, by simp [hc, hs, hrv, plainMv]⟩
        have := isUnderCheck_eq env.board env.en hm
        simp only [safeSq, Bool.not_eq_true'] at hs
        simp only [hv, andM_true, bget_cell hlt, bget_cell hfl, ok_bind, pure_eq_ok, hc, this, hs, Bool.not_false,
          if_true, hrm]

def rayTargets (board : Array Nat) (curBit enBit : Nat) : List Nat → List Nat
  | [] => []
  | t :: ts =>
    if cell board t &&& curBit != 0 then [] else
    if cell board t &&& enBit != 0 then [t] else t :: rayTargets board curBit enBit ts

theorem rayTargets_cons {board : Array Nat} (hb : BoardOk board) (w : Bool) {a t : Nat} (ha : a ∈ sq88)
    (l : List Nat) :
    t ∈ rayTargets board (colorBit w) (colorBit (!w)) (a :: l) ↔
      (t = a ∧ cell board a &&& colorBit w = 0) ∨
      (cell board a = 0 ∧ t ∈ rayTargets board (colorBit w) (colorBit (!w)) l) := by
  have h0 : cell board a = 0 ↔ cell board a &&& colorBit w = 0 ∧ cell board a &&& colorBit (!w) = 0 :=
    ⟨fun h => by rw [h]; exact ⟨Nat.zero_and _, Nat.zero_and _⟩, fun h => code_empty (cell_code hb ha) w h.1 h.2⟩
  rw [h0]
  by_cases hown : cell board a &&& colorBit w = 0
  · by_cases hen : cell board a &&& colorBit (!w) = 0 <;> simp [rayTargets, hown, hen]
  · simp [rayTargets, hown]

theorem split_cons {α} {a t : α} {l : List α} {P : α → Prop} {Q : Prop} :
    (∃ pre post, a :: l = pre ++ t :: post ∧ (∀ s ∈ pre, P s) ∧ Q) ↔
      (t = a ∧ Q) ∨ (P a ∧ ∃ pre post, l = pre ++ t :: post ∧ (∀ s ∈ pre, P s) ∧ Q) := by
  constructor
  · rintro ⟨pre, post, heq, h1, h2⟩
    cases pre with
    | nil => exact .inl ⟨(List.cons.inj heq).1.symm, h2⟩
    | cons b pre =>
      obtain ⟨rfl, rfl⟩ := List.cons.inj heq
      exact .inr ⟨h1 _ List.mem_cons_self, pre, post, rfl, fun s hs => h1 s (List.mem_cons_of_mem _ hs), h2⟩
  · rintro (⟨rfl, h2⟩ | ⟨ha, pre, post, rfl, h1, h2⟩)
    · exact ⟨[], l, rfl, by simp, h2⟩
    · refine ⟨a :: pre, post, rfl, fun s hs => ?_, h2⟩
      rcases List.mem_cons.1 hs with rfl | hs
      · exact ha
      · exact h1 s hs

theorem mem_rayTargets {board : Array Nat} (hb : BoardOk board) (w : Bool) {t : Nat} :
    ∀ l : List Nat, (∀ s ∈ l, s ∈ sq88) →
    (t ∈ rayTargets board (colorBit w) (colorBit (!w)) l ↔
      ∃ pre post, l = pre ++ t :: post ∧ (∀ s ∈ pre, cell board s = 0) ∧ cell board t &&& colorBit w = 0)
  | [], _ => by simp [rayTargets]
  | a :: l, hl => by
    rw [rayTargets_cons hb w (hl a List.mem_cons_self), split_cons,
      mem_rayTargets hb w l (fun s hs => hl s (List.mem_cons_of_mem _ hs))]
    constructor <;> rintro (⟨rfl, h⟩ | h) <;> first | exact .inl ⟨rfl, h⟩ | exact .inr h

theorem rayTargets_free {B : Array Nat} {cb eb : Nat} {t : Nat} :
    ∀ {l : List Nat}, t ∈ rayTargets B cb eb l → t ∈ l ∧ cell B t &&& cb = 0
  | a :: l, h => by
    simp only [rayTargets] at h
    split at h
    · cases h
    · rename_i hown
      have hown' : cell B a &&& cb = 0 := by simpa using hown
      split at h
      · cases List.mem_singleton.1 h; exact ⟨List.mem_cons_self, hown'⟩
      · rcases List.mem_cons.1 h with rfl | h
        · exact ⟨List.mem_cons_self, hown'⟩
        · exact ⟨List.mem_cons_of_mem _ (rayTargets_free h).1, (rayTargets_free h).2⟩

/-- on a readable ray the walk is the fold of `here` over the squares the ray reaches -/
theorem ray_closed (E : Emitter β) (hz : ∀ v, E.add v E.zero = v) {B : Array Nat} (hB : ∀ s ∈ sq88, s < B.size)
    (c : Ctx) (frm pc dir : Nat) :
    ∀ (fuel sq : Nat) (l : List Nat), GenGeoO.ray dir fuel sq = some l → (∀ s ∈ l, s ∈ sq88) →
      Walk.ray E B c frm pc dir fuel sq
        = foldMon E.zero E.add (fun t => E.here frm pc t (cell B t)) (rayTargets B c.curBit c.enBit l) := by
  intro fuel
  induction fuel with
  | zero => intro sq l h; simp [GenGeoO.ray] at h
  | succ n ih =>
    intro sq l h hl
    simp only [GenGeoO.ray] at h
    cases hv : isValid sq
    · simp only [hv, Bool.not_false, if_true, Option.some.injEq] at h
      subst h
      simp only [Walk.ray, hv, Bool.not_false, if_true, rayTargets, foldMon]
    · simp only [hv, Bool.not_true, Bool.false_eq_true, if_false, Option.map_eq_some_iff] at h
      obtain ⟨l', hl', rfl⟩ := h
      have hlt := hB sq (hl sq List.mem_cons_self)
      simp only [Walk.ray, hv, Bool.not_true, Bool.false_eq_true, if_false, bget_cell hlt, ok_bind, rayTargets]
      cases hc : (cell B sq &&& c.curBit != 0)
      · cases he : (cell B sq &&& c.enBit != 0)
        · simp only [Bool.false_eq_true, if_false, foldMon,
            ih (addb sq dir) l' hl' fun s hs => hl s (List.mem_cons_of_mem _ hs)]
        · simp only [Bool.false_eq_true, if_false, if_true, foldMon, pure_bind, hz, bind_pure]
      · simp only [if_true, foldMon]

def slideList (board : Array Nat) (c : Ctx) (frm : Nat) (dirs : List Nat) : List (Move × Bool) :=
  dirs.flatMap fun d => (rayTargets board c.curBit c.enBit (rayOf frm d)).map (plainMv board frm)

theorem slideList_mem {board : Array Nat} {c : Ctx} {frm : Nat} (hf : frm ∈ sq88) {dirs : List Nat}
    (hd : ∀ d ∈ dirs, d ∈ kingDirs) {m : Move} {b : Bool} (h : (m, b) ∈ slideList board c frm dirs) :
    ∃ t ∈ sq88, m = ⟨frm, t, 0, InvalidSq⟩ ∧ cell board t &&& c.curBit = 0 ∧ b = (cell board t &&& Colorless != 0) := by
  obtain ⟨d, hdd, h⟩ := List.mem_flatMap.1 h
  obtain ⟨t, ht, e, hb⟩ := plainMv_mem h
  obtain ⟨hl, hfree⟩ := rayTargets_free ht
  exact ⟨t, rayOf_valid hf (hd d hdd) hl, e, hfree, hb⟩

theorem slideGen_view {p : Position} {c : Ctx} {w : Bool} {kt : Killers} (env : Env p c w kt) {frm : Nat}
    (hf : frm ∈ sq88) (hfk : cell p.board frm &&& Colorless ∈ kinds) {dirs : List Nat}
    (hd : ∀ d ∈ dirs, d ∈ kingDirs) :
    ∃ a, slideGen p c kt frm dirs = .ok a ∧ a.map view = slideList p.board c frm dirs := by
  rw [slideGen_eq kt c (bget_cell (lt_size env.board hf)), ← flatMapM'_eq]
  refine flatMapM'_view _ fun d hdd => ?_
  rw [ray_closed _ List.append_nil (fun _ => lt_size env.board) c frm _ d 8 _ _ (ray_some hf (hd d hdd))
    fun _ => rayOf_valid hf (hd d hdd)]
  obtain ⟨a, ha, hav⟩ := flatMapM'_view (f := fun t => (genE kt p c).here frm (cell p.board frm) t (cell p.board t))
    (g := fun t => [plainMv p.board frm t]) (rayTargets p.board c.curBit c.enBit (rayOf frm d)) fun t ht => by
      obtain ⟨rm, hrm, hrv⟩ := moveOrCapture_view env.kt p.ply frm t hfk
        (cell_kind env.board (rayOf_valid hf (hd d hdd) (rayTargets_free ht).1))
      exact ⟨[rm], by simp only [genE, hrm, ok_bind, pure_eq_ok], by simp only [List.map, hrv, plainMv]⟩
  exact ⟨a, flatMapM'_eq _ _ ▸ ha, by rw [hav]; exact (List.map_eq_flatMap ..).symm⟩

def officerList (board : Array Nat) (c : Ctx) (frm : Nat) : List (Move × Bool) :=
  let pc := cell board frm
  if pc == Gen.WKnight || pc == Gen.BKnight then stepList board c.curBit frm knightDirs (fun _ => true)
  else if pc == Gen.WBishop || pc == Gen.BBishop then slideList board c frm bishopDirs
  else if pc == Gen.WRook || pc == Gen.BRook then slideList board c frm rookDirs
  else slideList board c frm kingDirs

theorem officer_mem {p : Position} {c : Ctx} {w : Bool} {kt : Killers} (env : Env p c w kt) {frm : Nat}
    (hf : frm ∈ c.cur.pieces) : frm ∈ sq88 ∧ cell p.board frm ∈ officersOf w := by
  obtain ⟨h, pc, hpc, e⟩ := env.cur.piece_cell hf
  exact ⟨h, by rw [cell_of_some e]; exact hpc⟩

theorem officerList_mem {p : Position} {c : Ctx} {w : Bool} {kt : Killers} (env : Env p c w kt) {frm : Nat}
    (hf : frm ∈ c.cur.pieces) {m : Move} {b : Bool} (h : (m, b) ∈ officerList p.board c frm) :
    ∃ t ∈ sq88, m = ⟨frm, t, 0, InvalidSq⟩ ∧ cell p.board t &&& c.curBit = 0 ∧
      b = (cell p.board t &&& Colorless != 0) := by
  have hm := (officer_mem env hf).1
  simp only [officerList] at h
  split at h
  · obtain ⟨d, _, e, ht, hc⟩ := stepList_mem h
    exact ⟨_, ht, e, hc⟩
  · split at h
    · exact slideList_mem hm (fun _ => bishopDirs_sub) h
    · split at h
      · exact slideList_mem hm (fun _ => rookDirs_sub) h
      · exact slideList_mem hm (fun _ hd => hd) h

theorem officer_kind {w : Bool} {pc : Nat} (h : pc ∈ officersOf w) : pc &&& Colorless ∈ kinds := by
  revert pc
  cases w <;> decide

theorem pieceGen_view {p : Position} {c : Ctx} {w : Bool} {kt : Killers} (env : Env p c w kt) {frm : Nat}
    (hf : frm ∈ c.cur.pieces) :
    ∃ a, pieceGen p c kt frm = .ok a ∧ a.map view = officerList p.board c frm := by
  obtain ⟨hm, hoff⟩ := officer_mem env hf
  have hk := officer_kind hoff
  unfold pieceGen officerList
  simp only [bget_cell (lt_size env.board hm), ok_bind]
  rcases officer_cases hoff with ⟨h, _⟩ | ⟨h1, h2, _⟩ | ⟨h1, h2, h3, _⟩ | ⟨h1, h2, h3, h4, _⟩
  · simp only [h, if_true]
    exact knightGen_view env hm hk
  · simp only [h1, h2, Bool.false_eq_true, if_false, if_true]
    exact slideGen_view env hm hk (fun d hd => bishopDirs_sub hd)
  · simp only [h1, h2, h3, Bool.false_eq_true, if_false, if_true]
    exact slideGen_view env hm hk (fun d hd => rookDirs_sub hd)
  · simp only [h1, h2, h3, h4, Bool.false_eq_true, if_false, if_true]
    exact slideGen_view env hm hk (fun d hd => hd)

def promoList (frm to : Nat) : List (Move × Bool) :=
  [(⟨frm, to, Queen, InvalidSq⟩, true), (⟨frm, to, Rook, InvalidSq⟩, true),
   (⟨frm, to, Bishop, InvalidSq⟩, true), (⟨frm, to, Knight, InvalidSq⟩, true)]

def pawnTo (promoRank frm to : Nat) (tac : Bool) : List (Move × Bool) :=
  if rankOf to == promoRank then promoList frm to else [(⟨frm, to, 0, InvalidSq⟩, tac)]

def capList (board : Array Nat) (c : Ctx) (ep frm to : Nat) : List (Move × Bool) :=
  if (isValid to && cell board to &&& c.enBit != 0) || to == ep then pawnTo c.promoRank frm to true else []

def pushList (board : Array Nat) (c : Ctx) (frm : Nat) : List (Move × Bool) :=
  let to1 := addb frm c.adv
  let to2 := addb to1 c.adv
  if cell board to1 == 0 then
    pawnTo c.promoRank frm to1 false ++
      (if rankOf frm == c.startRank && cell board to2 == 0 then [(⟨frm, to2, 0, to1⟩, false)] else [])
  else []

def pawnList (board : Array Nat) (c : Ctx) (ep frm : Nat) : List (Move × Bool) :=
  capList board c ep frm (addb (addb frm c.adv) 0xFF) ++ capList board c ep frm (addb (addb frm c.adv) 1) ++
    pushList board c frm

def PromoShape (pr to promo : Nat) : Prop := if rankOf to = pr then promo ∈ MM.promoKinds else promo = 0

theorem pawnTo_mem {pr frm t : Nat} {tac b : Bool} {m : Move} (h : (m, b) ∈ pawnTo pr frm t tac) :
    m.frm = frm ∧ m.to = t ∧ m.ep = InvalidSq ∧ PromoShape pr t m.promo ∧ (b = tac ∨ m.promo ≠ 0) := by
  unfold pawnTo promoList at h
  unfold PromoShape
  by_cases hr : rankOf t = pr
  · have hr' : (rankOf t == pr) = true := by simpa using hr
    simp only [hr', if_true, List.mem_cons, List.not_mem_nil, or_false, Prod.mk.injEq] at h
    rw [if_pos hr]
    rcases h with ⟨rfl, _⟩ | ⟨rfl, _⟩ | ⟨rfl, _⟩ | ⟨rfl, _⟩ <;> simp [MM.promoKinds] <;> exact .inr (by decide)
  · have hr' : (rankOf t == pr) = false := by simpa using hr
    simp only [hr', Bool.false_eq_true, if_false, List.mem_cons, List.not_mem_nil, or_false, Prod.mk.injEq] at h
    rw [if_neg hr]
    obtain ⟨rfl, rfl⟩ := h
    simp

theorem capList_mem {board : Array Nat} {c : Ctx} {ep frm t : Nat} {y : Move × Bool}
    (h : y ∈ capList board c ep frm t) :
    y ∈ pawnTo c.promoRank frm t true ∧ ((isValid t = true ∧ cell board t &&& c.enBit ≠ 0) ∨ t = ep) := by
  unfold capList at h
  split at h
  · rename_i hc
    exact ⟨h, by simpa using hc⟩
  · cases h

theorem pushList_mem {board : Array Nat} {c : Ctx} {frm : Nat} {y : Move × Bool} (h : y ∈ pushList board c frm) :
    cell board (addb frm c.adv) = 0 ∧
    (y ∈ pawnTo c.promoRank frm (addb frm c.adv) false ∨
      (y = (⟨frm, addb (addb frm c.adv) c.adv, 0, addb frm c.adv⟩, false) ∧ rankOf frm = c.startRank ∧
        cell board (addb (addb frm c.adv) c.adv) = 0)) := by
  simp only [pushList] at h
  split at h
  · rename_i h1
    refine ⟨beq_iff_eq.1 h1, (List.mem_append.1 h).imp_right fun h => ?_⟩
    split at h
    · rename_i h2
      rw [Bool.and_eq_true, beq_iff_eq, beq_iff_eq] at h2
      exact ⟨List.mem_singleton.1 h, h2⟩
    · cases h
  · cases h

theorem pawnCaptures_view (frm to pr : Nat) {cap : Nat} (hc : cap ∈ kinds) :
    ∃ a, pawnCaptures frm to pr cap = .ok a ∧ a.map view = pawnTo pr frm to true := by
  obtain ⟨sc, hsc⟩ := pieceToScore_ok hc
  unfold pawnCaptures pawnTo
  simp only [hsc, ok_bind]
  cases hr : (rankOf to == pr)
  · simp only [Bool.false_eq_true, if_false, pure_eq_ok]
    exact ⟨_, rfl, by simp [view]⟩
  · simp only [if_true, pure_eq_ok]
    exact ⟨_, rfl, by simp [view, promoRMoves, promoList]⟩

theorem pawn_mem {p : Position} {c : Ctx} {w : Bool} {kt : Killers} (env : Env p c w kt) {frm : Nat}
    (hf : frm ∈ c.cur.pawns) : frm ∈ sq88 ∧ cell p.board frm = pawnOf w ∧ PawnGeo w frm := by
  obtain ⟨h, e⟩ := env.cur.pawn_cell hf
  exact ⟨h, cell_of_some e, pawnGeo w h (env.noBack frm hf)⟩

theorem enemy_kind {p : Position} {c : Ctx} {w : Bool} {kt : Killers} (env : Env p c w kt) {s : Nat}
    (hs : s ∈ sq88) (h : (cell p.board s &&& c.enBit != 0) = true) : cell p.board s &&& Colorless ∈ kinds := by
  rcases (code_facts (cell_code env.board hs) true).2.2.1 with h0 | h0
  · rw [h0] at h; simp at h
  · exact h0

theorem pawnKind : Pawn ∈ kinds := by decide

/-- the two capture branches agree from the hit test on: captured kind from the cell, or a pawn en passant -/
theorem capBody_view {p : Position} {c : Ctx} {frm to : Nat} {hit : Bool} {X : M (List RMove)}
    (hhit : hit = (isValid to && cell p.board to &&& c.enBit != 0))
    (hX : hit = true → X = pawnCaptures frm to c.promoRank (cell p.board to &&& Colorless) ∧
      cell p.board to &&& Colorless ∈ kinds) :
    ∃ a, (if hit then X else if to == p.ep then pawnCaptures frm to c.promoRank Pawn else pure []) = .ok a ∧
      a.map view = capList p.board c p.ep frm to := by
  unfold capList
  rw [← hhit]
  cases hit
  · cases he : (to == p.ep)
    · exact ⟨[], rfl, rfl⟩
    · exact pawnCaptures_view _ _ _ pawnKind
  · rw [if_pos rfl, (hX rfl).1]
    exact pawnCaptures_view _ _ _ (hX rfl).2

theorem pawnCapQ_view {p : Position} {c : Ctx} {w : Bool} {kt : Killers} (env : Env p c w kt) {frm : Nat}
    (_hf : frm ∈ c.cur.pawns) :
    ∃ a, pawnCapQ p c frm = .ok a ∧ a.map view = capList p.board c p.ep frm (addb (addb frm c.adv) 0xFF) := by
  unfold pawnCapQ
  cases hv : isValid (addb (addb frm c.adv) 0xFF)
  · simp only [hv, andM_false, ok_bind]
    exact capBody_view (by rw [hv, Bool.false_and]) (fun h => by cases h)
  · have hm := addb_mem hv
    simp only [hv, andM_true, bget_cell (lt_size env.board hm), ok_bind, pure_eq_ok]
    exact capBody_view (by rw [hv, Bool.true_and]) (fun h => ⟨rfl, enemy_kind env hm h⟩)

theorem pawnCapK_view {p : Position} {c : Ctx} {w : Bool} {kt : Killers} (env : Env p c w kt) {frm : Nat}
    (hf : frm ∈ c.cur.pawns) :
    ∃ a, pawnCapK p c frm = .ok a ∧ a.map view = capList p.board c p.ep frm (addb (addb frm c.adv) 1) := by
  obtain ⟨_, _, hg⟩ := pawn_mem env hf
  have hlt : addb (addb frm c.adv) 1 < p.board.size := by
    rw [env.adv, env.board.size]; exact hg.toK_lt
  unfold pawnCapK
  simp only [bget_cell hlt, ok_bind]
  cases hv : isValid (addb (addb frm c.adv) 1)
  · -- the unguarded read lands off the board, where every cell is 0
    have h0 : cell p.board (addb (addb frm c.adv) 1) = 0 :=
      cell_of_some (env.off _ (by rw [← env.board.size]; exact hlt) hv)
    exact capBody_view (by rw [hv, h0, Nat.zero_and]; rfl) (fun h => by rw [h0, Nat.zero_and] at h; cases h)
  · exact capBody_view (by rw [hv, Bool.true_and]) (fun h => ⟨rfl, enemy_kind env (addb_mem hv) h⟩)

theorem pawnPushes_view {kt : Killers} (hk : kt.size = Gen.killerMovesMaxPly) (ply : Int) (frm to pr : Nat) :
    ∃ a, pawnPushes kt ply frm to pr = .ok a ∧ a.map view = pawnTo pr frm to false := by
  unfold pawnPushes pawnTo
  cases hr : (rankOf to == pr)
  · obtain ⟨rm, hrm⟩ := Magog.Lemmas.KillerIndep.quiet_total hk ply ⟨frm, to, 0, InvalidSq⟩
    obtain ⟨h1, h2⟩ := quiet_shape hrm
    simp only [Bool.false_eq_true, if_false, hrm, ok_bind, pure_eq_ok]
    exact ⟨[rm], rfl, by simp [view, h1, h2]⟩
  · simp only [if_true, pure_eq_ok]
    exact ⟨_, rfl, by simp [view, promoRMoves, promoList]⟩

theorem pawnPushGen_view {p : Position} {c : Ctx} {w : Bool} {kt : Killers} (env : Env p c w kt) {frm : Nat}
    (hf : frm ∈ c.cur.pawns) :
    ∃ a, pawnPushGen p c kt frm = .ok a ∧ a.map view = pushList p.board c frm := by
  obtain ⟨_, _, hg⟩ := pawn_mem env hf
  have hlt1 : addb frm c.adv < p.board.size := by rw [env.adv]; exact lt_size env.board hg.to1_mem
  unfold pawnPushGen pushList
  simp only [bget_cell hlt1, ok_bind]
  cases hy : (cell p.board (addb frm c.adv) == 0)
  · simp only [hy, Bool.false_eq_true, if_false, pure_eq_ok]
    exact ⟨[], rfl, rfl⟩
  · obtain ⟨single, hs, hsv⟩ := pawnPushes_view env.kt p.ply frm (addb frm c.adv) c.promoRank
    simp only [hy, if_true, hs, ok_bind]
    cases hr : (rankOf frm == c.startRank)
    · simp only [hr, andM_false, ok_bind, Bool.false_eq_true, if_false, pure_eq_ok, Bool.false_and]
      exact ⟨single, rfl, by simp [hsv]⟩
    · have hlt2 : addb (addb frm c.adv) c.adv < p.board.size := by
        rw [env.adv]
        exact lt_size env.board (hg.to2_mem (by rw [← env.startRank]; simpa using hr))
      simp only [hr, andM_true, bget_cell hlt2, ok_bind, pure_eq_ok, Bool.true_and]
      cases hz : (cell p.board (addb (addb frm c.adv) c.adv) == 0)
      · simp only [hz, Bool.false_eq_true, if_false]
        exact ⟨single, rfl, by simp [hsv]⟩
      · simp only [hz, if_true]
        exact ⟨_, rfl, by simp [hsv, view]⟩

theorem pawnGen_view {p : Position} {c : Ctx} {w : Bool} {kt : Killers} (env : Env p c w kt) {frm : Nat}
    (hf : frm ∈ c.cur.pawns) :
    ∃ a, pawnGen p c kt frm = .ok a ∧ a.map view = pawnList p.board c p.ep frm := by
  obtain ⟨a, ha, hav⟩ := pawnCapQ_view env hf
  obtain ⟨b, hb, hbv⟩ := pawnCapK_view env hf
  obtain ⟨d, hd, hdv⟩ := pawnPushGen_view env hf
  exact ⟨a ++ b ++ d, by simp only [pawnGen_eq, ha, hb, hd, ok_bind, pure_eq_ok],
    by simp only [List.map_append, hav, hbv, hdv, pawnList]⟩

theorem andM_ok (a b : Bool) : andM a (Except.ok b) = .ok (a && b) := by cases a <;> rfl

def castleQCond (board : Array Nat) (w : Bool) (k : Nat) : Bool :=
  cell board (k - 1) == 0 && (cell board (k - 2) == 0 && (cell board (k - 3) == 0 &&
    (safeSq board w k && (safeSq board w (k - 1) && safeSq board w (k - 2)))))

def castleKCond (board : Array Nat) (w : Bool) (k : Nat) : Bool :=
  cell board (k + 1) == 0 && (cell board (k + 2) == 0 &&
    (safeSq board w k && (safeSq board w (k + 1) && safeSq board w (k + 2))))

def castleList (board : Array Nat) (c : Ctx) (w : Bool) : List (Move × Bool) :=
  (if c.qOk && castleQCond board w c.cur.king then [(⟨c.cur.king, c.cur.king - 2, 0, InvalidSq⟩, false)] else []) ++
  (if c.kOk && castleKCond board w c.cur.king then [(⟨c.cur.king, c.cur.king + 2, 0, InvalidSq⟩, false)] else [])

def castleTargets (board : Array Nat) (c : Ctx) (w : Bool) : List Nat :=
  (if c.qOk && castleQCond board w c.cur.king then [c.cur.king - 2] else []) ++
  (if c.kOk && castleKCond board w c.cur.king then [c.cur.king + 2] else [])

theorem castleList_eq (board : Array Nat) (c : Ctx) (w : Bool) :
    castleList board c w = (castleTargets board c w).map (plainMv board c.cur.king) := by
  unfold castleList castleTargets
  rw [List.map_append]
  congr 1
  · cases hq : (c.qOk && castleQCond board w c.cur.king)
    · simp
    · simp only [if_true, List.map_cons, List.map_nil, plainMv]
      simp only [Bool.and_eq_true, castleQCond, beq_iff_eq] at hq
      simp [hq.2.2.1]
  · cases hq : (c.kOk && castleKCond board w c.cur.king)
    · simp
    · simp only [if_true, List.map_cons, List.map_nil, plainMv]
      simp only [Bool.and_eq_true, castleKCond, beq_iff_eq] at hq
      simp [hq.2.2.1]

theorem mem_castleTargets {board : Array Nat} {c : Ctx} {w : Bool} {t : Nat} :
    t ∈ castleTargets board c w ↔
      (c.qOk = true ∧ t = c.cur.king - 2 ∧ castleQCond board w c.cur.king = true) ∨
      (c.kOk = true ∧ t = c.cur.king + 2 ∧ castleKCond board w c.cur.king = true) := by
  have one : ∀ (q c : Bool) (a : Nat), t ∈ (if q && c then [a] else []) ↔ q = true ∧ t = a ∧ c = true := by
    intro q c a; cases q <;> cases c <;> simp
  unfold castleTargets
  rw [List.mem_append, one, one]

theorem castleList_mem {board : Array Nat} {c : Ctx} {w : Bool} {m : Move} {b : Bool}
    (h : (m, b) ∈ castleList board c w) :
    (c.qOk = true ∧ m = ⟨c.cur.king, c.cur.king - 2, 0, InvalidSq⟩ ∧ cell board (c.cur.king - 1) = 0 ∧
      cell board (c.cur.king - 2) = 0) ∨
    (c.kOk = true ∧ m = ⟨c.cur.king, c.cur.king + 2, 0, InvalidSq⟩ ∧ cell board (c.cur.king + 1) = 0 ∧
      cell board (c.cur.king + 2) = 0) := by
  rw [castleList_eq] at h
  obtain ⟨t, ht, e, _⟩ := plainMv_mem h
  refine (mem_castleTargets.1 ht).imp ?_ ?_
  · rintro ⟨hq, rfl, hc⟩
    simp only [castleQCond, Bool.and_eq_true, beq_iff_eq] at hc
    exact ⟨hq, e, hc.1, hc.2.1⟩
  · rintro ⟨hk, rfl, hc⟩
    simp only [castleKCond, Bool.and_eq_true, beq_iff_eq] at hc
    exact ⟨hk, e, hc.1, hc.2.1⟩

theorem castleQOk_eq {p : Position} {c : Ctx} {w : Bool} {kt : Killers} (env : Env p c w kt)
    (hk : c.cur.king = kingHome w) : castleQOk p c = .ok (castleQCond p.board w c.cur.king) := by
  obtain ⟨m0, m1, m2, m3, _⟩ := castle_sq w
  simp only [castleQOk_home p c w hk, castleQCond, hk, bget_cell (lt_size env.board m1),
    bget_cell (lt_size env.board m2), bget_cell (lt_size env.board m3), notAttacked_eq env m0,
    notAttacked_eq env m1, notAttacked_eq env m2, ok_bind, andM_ok]

theorem castleKOk_eq {p : Position} {c : Ctx} {w : Bool} {kt : Killers} (env : Env p c w kt)
    (hk : c.cur.king = kingHome w) : castleKOk p c = .ok (castleKCond p.board w c.cur.king) := by
  obtain ⟨m0, _, _, _, m1, m2, _⟩ := castle_sq w
  simp only [castleKOk_home p c w hk, castleKCond, hk, bget_cell (lt_size env.board m1),
    bget_cell (lt_size env.board m2), notAttacked_eq env m0,
    notAttacked_eq env m1, notAttacked_eq env m2, ok_bind, andM_ok]

/-- one side of `castleGen`: castling right, path test, then the king's move as a quiet move -/
theorem castlePart_view {kt : Killers} (hk : kt.size = Gen.killerMovesMaxPly) (ply : Int) (flag cond : Bool)
    (test : M Bool) (mv mv' : Move) (h : flag = true → test = .ok cond ∧ mv = mv') :
    ∃ a, (if flag then (do
            let ok ← test
            if ok then (do let m ← quiet kt ply mv; pure [m]) else pure [])
          else pure []) = .ok a ∧ a.map view = if flag && cond then [(mv', false)] else [] := by
  cases flag
  · exact ⟨[], rfl, rfl⟩
  · obtain ⟨ht, rfl⟩ := h rfl
    simp only [if_true, ht, ok_bind, Bool.true_and]
    cases cond
    · exact ⟨[], rfl, rfl⟩
    · obtain ⟨rm, hrm⟩ := Magog.Lemmas.KillerIndep.quiet_total hk ply mv
      obtain ⟨h1, h2⟩ := quiet_shape hrm
      exact ⟨[rm], by simp only [if_true, hrm, ok_bind, pure_eq_ok], by simp [view, h1, h2]⟩

theorem castleGen_view {p : Position} {c : Ctx} {w : Bool} {kt : Killers} (env : Env p c w kt) :
    ∃ a, castleGen p c kt = .ok a ∧ a.map view = castleList p.board c w := by
  obtain ⟨a, ha, hav⟩ := castlePart_view env.kt p.ply c.qOk (castleQCond p.board w c.cur.king) (castleQOk p c)
    ⟨c.cur.king, toByte (add8 (int8 c.cur.king) (-2)), 0, InvalidSq⟩ ⟨c.cur.king, c.cur.king - 2, 0, InvalidSq⟩
    (fun hq => by
      obtain ⟨hk, _⟩ := env.castleQ hq
      exact ⟨castleQOk_eq env hk, by rw [hk, (castle_bytes w).2.1]⟩)
  obtain ⟨b, hb, hbv⟩ := castlePart_view env.kt p.ply c.kOk (castleKCond p.board w c.cur.king) (castleKOk p c)
    ⟨c.cur.king, toByte (add8 (int8 c.cur.king) 2), 0, InvalidSq⟩ ⟨c.cur.king, c.cur.king + 2, 0, InvalidSq⟩
    (fun hq => by
      obtain ⟨hk, _⟩ := env.castleK hq
      exact ⟨castleKOk_eq env hk, by rw [hk, (castle_bytes w).2.2.2]⟩)
  have ha' : castleQPart p c kt = .ok a := ha
  have hb' : castleKPart p c kt = .ok b := hb
  exact ⟨a ++ b, by rw [castleGen_eq, ha', hb']; rfl, by simp only [List.map_append, hav, hbv, castleList]⟩

def genList (p : Position) : List (Move × Bool) :=
  let c := p.ctx
  let w := whiteTurn p
  c.cur.pawns.flatMap (pawnList p.board c p.ep) ++ c.cur.pieces.flatMap (officerList p.board c) ++
    kingList p.board c w ++ castleList p.board c w

/-- the environment of a run for the side `w` (which need not be the side to move) -/
theorem env_ctxW {p : Position} (inv : Inv p) (w : Bool) {kt : Killers} (hk : kt.size = Gen.killerMovesMaxPly) :
    Env p (MM.ctxW w p) w kt := by
  obtain ⟨hK, hQ⟩ := (MM.castlingConsistent_iff inv.board.size).mp inv.castling w
  -- a set castling flag of colour `w`: that king stands on its home square, the rook in its corner
  have home : ∀ {r : Nat}, p.board[MM.kingHome w]? = some (kingOf w) ∧ p.board[r]? = some (MM.rookOf w) →
      (p.side w).king = kingHome w ∧ cell p.board r = (if w then Gen.WRook else Gen.BRook) := fun h =>
    ⟨(((inv.side w).king _).2 ⟨(mem_sq88.1 (castle_sq w).1).1, (mem_sq88.1 (castle_sq w).1).2, h.1⟩).symm,
      cell_of_some h.2⟩
  refine ⟨inv.board, inv.offBoard, inv.side w, inv.side (!w), rfl, rfl, rfl, rfl, rfl, hk, fun s hs => ?_, ?_, ?_, ?_,
    ?_, ?_⟩
  · obtain ⟨_, _, h3⟩ := ((inv.side w).pawns s).1 hs
    exact notBack_iff.2 (inv.noBackPawn s (by
      cases w
      · exact .inr h3
      · exact .inl h3))
  · intro hq
    have := home (hQ (bne_iff_ne.1 hq))
    cases w <;> exact this
  · intro hq
    have := home (hK (bne_iff_ne.1 hq))
    cases w <;> exact this
  · rcases inv.ep with h | ⟨h1, h2, h3, _⟩
    · exact .inl h
    · exact .inr ⟨mem_sq88.2 ⟨h1, h2⟩, cell_of_some h3⟩
  · exact (inv.sideInv w).ndPawns
  · exact (inv.sideInv w).ndPieces

theorem env_of_inv {p : Position} (inv : Inv p) {kt : Killers} (hk : kt.size = Gen.killerMovesMaxPly) :
    Env p p.ctx (whiteTurn p) kt :=
  MM.ctx_eq p ▸ env_ctxW inv _ hk

theorem genPseudo_genList {p : Position} (inv : Inv p) {kt : Killers} (hkt : kt.size = Gen.killerMovesMaxPly) :
    ∃ ms, genPseudo kt p = .ok ms ∧ ms.map view = genList p := by
  have env := env_of_inv inv hkt
  obtain ⟨a, ha, hav⟩ := flatMapM'_view (f := pawnGen p p.ctx kt) p.ctx.cur.pawns (fun x hx => pawnGen_view env hx)
  obtain ⟨b, hb, hbv⟩ := flatMapM'_view (f := pieceGen p p.ctx kt) p.ctx.cur.pieces
    (fun x hx => pieceGen_view env hx)
  obtain ⟨k, hk, hkv⟩ := kingGen_view env
  obtain ⟨cs, hcs, hcsv⟩ := castleGen_view env
  exact ⟨a ++ b ++ k ++ cs, by simp only [genPseudo, ha, hb, hk, hcs, ok_bind, pure_eq_ok],
    by simp only [genList, List.map_append, hav, hbv, hkv, hcsv]⟩

theorem view_of_maps {ms ms' : List RMove} (h1 : ms.map (·.mov) = ms'.map (·.mov))
    (h2 : ms.map (·.tactical) = ms'.map (·.tactical)) : ms.map view = ms'.map view := by
  induction ms generalizing ms' with
  | nil =>
    cases ms' with
    | nil => rfl
    | cons b l => simp at h1
  | cons a l ih =>
    cases ms' with
    | nil => simp at h1
    | cons b l' =>
      simp only [List.map_cons, List.cons.injEq] at h1 h2 ⊢
      exact ⟨by simp [view, h1.1, h2.1], ih h1.2 h2.2⟩

theorem genPseudo_view_eq {p : Position} (inv : Inv p) {kt : Killers} {ms : List RMove}
    (h : genPseudo kt p = .ok ms) : ms.map view = genList p := by
  -- `kt` comes with no size, so there is no `Env` at `kt`: the generator is run on `Killers.empty`, whose view is
  -- `genList p`, and moves and tactical flags do not depend on the table (`genPseudo_movs_indep`)
  obtain ⟨ms', h', hv⟩ := genPseudo_genList inv Props.C18.killers_empty_size
  obtain ⟨e1, e2⟩ := Magog.Lemmas.KillerIndep.genPseudo_movs_indep kt Killers.empty p ms ms' h h'
  rw [view_of_maps e1 e2, hv]

theorem generated_mem {p : Position} (inv : Inv p) {kt : Killers} {ms : List RMove} (h : genPseudo kt p = .ok ms)
    {m : Move} (hm : m ∈ ms.map (·.mov)) : ∃ b, (m, b) ∈ genList p := by
  obtain ⟨rm, hrm, rfl⟩ := List.mem_map.1 hm
  rw [← genPseudo_view_eq inv h]
  exact ⟨rm.tactical, List.mem_map_of_mem (f := view) hrm⟩

end Magog.GenPure
