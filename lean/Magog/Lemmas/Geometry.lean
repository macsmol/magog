import Magog.Abs

/-! Finite geometry of the 0x88 tables regenerated from the Go source (`pairOk`): for every ordered pair of board
    squares each attack bit is exactly the piece's geometric relation, and for slider-related pairs the
    direction-table walk visits exactly the squares strictly between, all on the board. Decided by kernel
    evaluation over all 64 × 64 pairs, met in one pass over the two tables (`tablesOk`). `Nat` and `List` only
    (DESIGN §8). Consumers read `pairOk_of_valid`. -/

namespace Magog.Geo
open Magog Magog.Model

def sq88 : List Nat := (List.range 64).map to88

theorem mem_sq88 {s : Nat} : s ∈ sq88 ↔ s < 128 ∧ isValid s = true := by
  constructor
  · intro h
    simp only [sq88, List.mem_map, List.mem_range] at h
    obtain ⟨i, hi, rfl⟩ := h
    have : ∀ i < 64, to88 i < 128 ∧ isValid (to88 i) = true := by decide +kernel
    exact this i hi
  · intro ⟨h1, h2⟩
    have : ∀ s < 128, isValid s = true → s ∈ sq88 := by decide +kernel
    exact this s h1 h2

/-- `moveIndex` as a natural number (board squares never give a negative index) -/
def idxN (frm to : Nat) : Nat := Gen.lastValidSquare + to - frm

def attackAt (frm to : Nat) : Nat := Gen.attackTable.getD (idxN frm to) 0
def dirAt (frm to : Nat) : Nat := Gen.directionTable.getD (idxN frm to) 0

def hasBit (frm to bit : Nat) : Bool := attackAt frm to &&& bit != 0

/-- the squares `checkedBySlidingPiece` inspects, without a board -/
def walkList (dir dest : Nat) : Nat → Nat → Option (List Nat)
  | 0, _ => none
  | fuel + 1, sq => if sq == dest then some [] else (walkList dir dest fuel (addb sq dir)).map (sq :: ·)

def emptyBoard : Array (Option Spec.Man) := Array.replicate 64 none

def pairOk (a t : Nat) : Bool :=
  let a' := to64 a; let t' := to64 t
  idxN a t < 239 &&
  hasBit a t Gen.KnightAttacks == Spec.manAttacks emptyBoard ⟨.white, .knight⟩ a' t' &&
  hasBit a t Gen.KingAttacks == Spec.manAttacks emptyBoard ⟨.white, .king⟩ a' t' &&
  hasBit a t Gen.WPawnAttacks == Spec.manAttacks emptyBoard ⟨.white, .pawn⟩ a' t' &&
  hasBit a t Gen.BPawnAttacks == Spec.manAttacks emptyBoard ⟨.black, .pawn⟩ a' t' &&
  hasBit a t Gen.RookAttacks == Spec.onLine a' t' &&
  hasBit a t Gen.BishopAttacks == Spec.onDiag a' t' &&
  hasBit a t Gen.QueenAttacks == (Spec.onLine a' t' || Spec.onDiag a' t') &&
  (if Spec.onLine a' t' || Spec.onDiag a' t' then
     match walkList (dirAt a t) t 8 (addb a (dirAt a t)) with
     | some l => l.all (fun s => s < 128 && isValid s) && l.map to64 == Spec.between a' t'
     | none => false
   else true)

def allPairsOk : Bool := sq88.all fun a => sq88.all fun t => pairOk a t

/-- `pairOk` with the two table entries of the pair as arguments -/
def entryOk (x dir a t : Nat) : Bool :=
  let a' := to64 a; let t' := to64 t
  (x &&& Gen.KnightAttacks != 0) == Spec.manAttacks emptyBoard ⟨.white, .knight⟩ a' t' &&
  (x &&& Gen.KingAttacks != 0) == Spec.manAttacks emptyBoard ⟨.white, .king⟩ a' t' &&
  (x &&& Gen.WPawnAttacks != 0) == Spec.manAttacks emptyBoard ⟨.white, .pawn⟩ a' t' &&
  (x &&& Gen.BPawnAttacks != 0) == Spec.manAttacks emptyBoard ⟨.black, .pawn⟩ a' t' &&
  (x &&& Gen.RookAttacks != 0) == Spec.onLine a' t' &&
  (x &&& Gen.BishopAttacks != 0) == Spec.onDiag a' t' &&
  (x &&& Gen.QueenAttacks != 0) == (Spec.onLine a' t' || Spec.onDiag a' t') &&
  (if Spec.onLine a' t' || Spec.onDiag a' t' then
     match walkList dir t 8 (addb a dir) with
     | some l => l.all (fun s => s < 128 && isValid s) && l.map to64 == Spec.between a' t'
     | none => false
   else true)

/-- `allPairsOk` as one pass over the two tables instead of two lookups per pair (`getD i` costs the kernel `i`
    steps): entry `i` serves the pairs `(a, a + i - 119)`; as a byte the target is `a + i + 137`, off the board
    when `a + i < 119`. -/
def tablesOk : Bool :=
  ((List.range 239).zip (Gen.attackTable.zip Gen.directionTable)).all fun ixd =>
    sq88.all fun a => !isValid (addb (a + ixd.1) 137) || entryOk ixd.2.1 ixd.2.2 a (addb (a + ixd.1) 137)

theorem zip_mem {A D : List Nat} {n i : Nat} (hA : A.length = n) (hD : D.length = n) (hi : i < n) :
    (i, A.getD i 0, D.getD i 0) ∈ (List.range n).zip (A.zip D) := by
  refine List.mem_iff_getElem.2 ⟨i, by simp [hA, hD, hi], ?_⟩
  simp [List.getD_eq_getElem?_getD, hA, hD, hi]

theorem attack_len : Gen.attackTable.length = 239 := by decide +kernel
theorem direction_len : Gen.directionTable.length = 239 := by decide +kernel

theorem ne_invalid {s : Nat} (hs : s ∈ sq88) : s ≠ InvalidSq :=
  fun e => absurd (e ▸ (mem_sq88.mp hs).1) (by decide)

theorem valid_le {s : Nat} (hs : s ∈ sq88) : s ≤ Gen.lastValidSquare := by
  have : ∀ s ∈ sq88, s ≤ Gen.lastValidSquare := by decide +kernel
  exact this s hs

theorem idxN_lt {a d : Nat} (ha : a ∈ sq88) (hd : d ∈ sq88) : idxN a d < 239 := by
  have := valid_le ha
  have := valid_le hd
  simp only [idxN, Gen.lastValidSquare] at *
  omega

theorem pairOk_of_tables (hT : tablesOk = true) {a t : Nat} (ha : a ∈ sq88) (ht : t ∈ sq88) : pairOk a t = true := by
  have h1 := valid_le ha
  have h2 := valid_le ht
  have hi := idxN_lt ha ht
  have e : addb (a + idxN a t) 137 = t := by simp only [addb, idxN, Gen.lastValidSquare] at *; omega
  have h := List.all_eq_true.1 (List.all_eq_true.1 hT _ (zip_mem attack_len direction_len hi)) a ha
  rw [e, (mem_sq88.1 ht).2] at h
  simp only [pairOk, hi, decide_true, Bool.true_and]
  exact h

theorem allPairsOk_true : allPairsOk = true :=
  have hT : tablesOk = true := by decide +kernel
  List.all_eq_true.2 fun _ ha => List.all_eq_true.2 fun _ ht => pairOk_of_tables hT ha ht

theorem pairOk_of_valid {a t : Nat} (ha : a ∈ sq88) (ht : t ∈ sq88) : pairOk a t = true := by
  have h := allPairsOk_true
  simp only [allPairsOk, List.all_eq_true] at h
  exact h a ha t ht

end Magog.Geo
