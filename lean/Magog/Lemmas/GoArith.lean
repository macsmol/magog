import Magog.Generated.Funcs
import Magog.Model.Time

/-! Helper lemmas for the *tie theorems* (`Props/*Tie.lean`): the definitions in `Magog.Gen.Fn` are printed by the
    Go→Lean translator `harness/cmd/go2lean` from the current Go source on every run; the tie theorems equate them
    with the hand-written model, for all arguments. -/

namespace Magog.Lemmas.GoArith
open Magog Magog.Gen.Fn

theorem wrapS64_id {x : Int} (h1 : -9223372036854775808 ≤ x) (h2 : x < 9223372036854775808) : wrapS 64 x = x := by
  unfold wrapS; omega

theorem wrapS16_id {x : Int} (h1 : -32768 ≤ x) (h2 : x < 32768) : wrapS 16 x = x := by
  unfold wrapS; omega

theorem wrapS8_id {x : Int} (h1 : -128 ≤ x) (h2 : x < 128) : wrapS 8 x = x := by
  unfold wrapS; omega

theorem wrapS64_tdiv {x c : Int} (h1 : -9223372036854775808 < x) (h2 : x < 9223372036854775808) :
    wrapS 64 (Int.tdiv x c) = Int.tdiv x c := by
  have := Int.natAbs_tdiv_le_natAbs x c
  apply wrapS64_id <;> omega

theorem wrapS64_eq_wrap64 (x : Int) : wrapS 64 x = Model.wrap64 x := by
  unfold wrapS Model.wrap64; omega

theorem min_eq (a b : Int) : Gen.Fn.min a b = Min.min a b := by
  unfold Gen.Fn.min; simp only [decide_eq_true_eq]; split <;> omega

theorem max_eq (a b : Int) : Gen.Fn.max a b = Max.max a b := by
  unfold Gen.Fn.max; simp only [decide_eq_true_eq]; split <;> omega

theorem abs_eq {a : Int} (h1 : -9223372036854775808 < a) (h2 : a < 9223372036854775808) :
    Gen.Fn.abs a = (a.natAbs : Int) := by
  unfold Gen.Fn.abs; simp only [decide_eq_true_eq]
  split
  · rw [wrapS64_id (by omega) (by omega)]; omega
  · omega

def OkEq {α : Type} (a : Except String α) (b : Model.M α) : Prop :=
  match a, b with
  | .ok x, .ok y => x = y
  | .error _, .error _ => True
  | _, _ => False

end Magog.Lemmas.GoArith
