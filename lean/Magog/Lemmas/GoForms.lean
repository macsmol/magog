import Magog.Lemmas.UciTotal
import Magog.Lemmas.PositionCmd
import Magog.Props.C13
import Magog.Lemmas.FenWriteText

/-! For `Props/C03Forms.lean`: `doGo` on a rendered line `go …`: what the scanner does on well-formed `keyword value`
    fields, the deadline it yields for values in range, and exactly which token lists make it return without a search
    (`goScan_reject_iff`). Also the decimal numerals (`natText`, `intText`: every `int64` value has a text that
    `atoi` reads back), and the vocabulary in which `C03Forms.C03_go_clock` is stated (`clockFields`, `clockInc`,
    `clockMtg`). -/

namespace Magog.UciFrame
open Magog Magog.Model
open Magog.UciTotal hiding ok_bind pure_eq_ok

section goForms
open Magog.PosCmd

/-- the range holds the signs `+` (43), `-` (45) and the digits (48…57) -/
theorem atoi_bytes {s : Bytes} {v : Int} (h : atoi s = some v) : s ≠ [] ∧ ∀ c ∈ s, 42 < c ∧ c < 58 := by
  unfold atoi at h
  split at h
  next neg ds heq =>
    split at h
    · cases h
    · next hc =>
      simp only [Bool.or_eq_true, Bool.not_eq_true', not_or, Bool.not_eq_false, Bool.not_eq_true] at hc
      have hne : ds ≠ [] := by intro e; subst e; simp at hc
      have hd : ∀ c ∈ ds, 42 < c ∧ c < 58 := by
        intro c hm
        have := List.all_eq_true.1 hc.2 c hm
        simp only [isDigit, Bool.and_eq_true, decide_eq_true_eq] at this
        omega
      have sign : ∀ x, (x = 45 ∨ x = 43) → ∀ c ∈ x :: ds, 42 < c ∧ c < 58 := by
        intro x hx c hm
        rcases List.mem_cons.1 hm with rfl | hm
        · omega
        · exact hd c hm
      split at heq
      · cases heq; exact ⟨by simp, sign 45 (.inl rfl)⟩
      · cases heq; exact ⟨by simp, sign 43 (.inr rfl)⟩
      · cases heq; exact ⟨hne, hd⟩

theorem atoi_word {s : Bytes} {v : Int} (h : atoi s = some v) : Word s :=
  ⟨(atoi_bytes h).1, fun c hc => cleanByte_of_range (by have := (atoi_bytes h).2 c hc; omega)
    (by have := (atoi_bytes h).2 c hc; omega)⟩

/-- a numeral in token position is skipped by the scanner: it starts with a digit or a sign, every keyword with a
    letter -/
theorem goScan_numeral {s : Bytes} {v : Int} (h : atoi s = some v) (rest : List Bytes) (a : GoAcc) :
    goScan (s :: rest) a = goScan rest a := by
  refine goScan_other (fun hm => ?_) rest a
  have hk : ∀ k ∈ goKeywords, 97 ≤ k.headD 0 := by decide
  match s, atoi_bytes h, hk s hm with
  | c :: _, ⟨_, hb⟩, hc =>
    have := (hb c List.mem_cons_self).2
    have : 97 ≤ c := hc
    omega

/-- the empty token (as in `strings.Split("", " ")`, or between two blanks) is skipped -/
theorem goScan_empty (rest : List Bytes) (a : GoAcc) : goScan ([] :: rest) a = goScan rest a :=
  goScan_other (by decide) rest a

/-! ### decimal numerals: every `int64` value has a text that `strconv.Atoi` reads back -/

def natDigits : Nat → Nat → Bytes
  | 0, _ => []
  | f + 1, n => if n < 10 then [48 + n] else natDigits f (n / 10) ++ [48 + n % 10]

def natText (n : Nat) : Bytes := natDigits (n + 1) n

def intText (i : Int) : Bytes := if i < 0 then 45 :: natText i.natAbs else natText i.natAbs

/-- the two decimal writers of the development are one: `Spec.natDigits` (the FEN writer's) accumulates what
    `natDigits` appends -/
theorem natDigitsAux_eq : ∀ (f n : Nat) (acc : Bytes), Spec.natDigitsAux f n acc = natDigits f n ++ acc
  | 0, _, _ => rfl
  | f + 1, n, acc => by
    unfold Spec.natDigitsAux natDigits
    split
    · rfl
    · rw [natDigitsAux_eq f, List.append_assoc]; rfl

theorem natText_eq (n : Nat) : natText n = Spec.natDigits n := by
  rw [natText, Spec.natDigits, natDigitsAux_eq, List.append_nil]

theorem atoi_natText {n : Nat} (h : n ≤ 9223372036854775807) : atoi (natText n) = some (n : Int) := by
  rw [natText_eq, FenWrite.atoi_natDigits, if_pos h]

theorem atoi_neg_natText {n : Nat} (h : n ≤ 9223372036854775808) : atoi (45 :: natText n) = some (-(n : Int)) := by
  obtain ⟨hne, hd, a⟩ := FenWrite.natDigits_spec n
  have hall : (Spec.natDigits n).all isDigit = true := List.all_eq_true.2 fun d h => by simp [isDigit, hd d h]
  have hemp : (Spec.natDigits n).isEmpty = false := by
    cases hds : Spec.natDigits n with
    | nil => exact absurd hds hne
    | cons _ _ => rfl
  rw [natText_eq]
  unfold atoi
  simp only [hemp, hall, Bool.not_true, Bool.or_self, Bool.false_eq_true, if_false, a, if_true]
  rw [if_neg (by simp only [Bool.or_eq_true, decide_eq_true_eq]; omega)]

theorem atoi_intText {i : Int} (h1 : -9223372036854775808 ≤ i) (h2 : i ≤ 9223372036854775807) :
    atoi (intText i) = some i := by
  unfold intText
  by_cases hneg : i < 0
  · rw [if_pos hneg, atoi_neg_natText (by omega)]
    congr 1; omega
  · rw [if_neg hneg, atoi_natText (by omega)]
    congr 1; omega

/-- a field `keyword value` as sent (`text` is the numeral), with the value it denotes -/
structure GoField where
  key : GoKey
  text : Bytes
  val : Int

def GoField.Ok (f : GoField) : Prop := atoi f.text = some f.val ∧ f.key.admits f.val

def fieldTokens : List GoField → List Bytes
  | [] => []
  | f :: fs => f.key.bytes :: f.text :: fieldTokens fs

def storeAll : List GoField → GoAcc → GoAcc
  | [], a => a
  | f :: fs, a => storeAll fs (f.key.store f.val a)

theorem goScan_field (f : GoField) (hf : f.Ok) (rest : List Bytes) (a : GoAcc) :
    goScan (f.key.bytes :: f.text :: rest) a = goScan rest (f.key.store f.val a) := by
  rcases goScan_key f.key (f.text :: rest) a with ⟨_, hn⟩ | ⟨v, hv, _, h⟩
  · exact absurd hf.2 (hn _ hf.1)
  · cases hf.1.symm.trans hv
    rw [h, goScan_numeral hf.1]


theorem goScan_fields : ∀ (fs : List GoField), (∀ f ∈ fs, f.Ok) → ∀ (tail : List Bytes) (a : GoAcc),
    goScan (fieldTokens fs ++ tail) a = goScan tail (storeAll fs a)
  | [], _, tail, a => rfl
  | f :: fs, h, tail, a => by
    show goScan (f.key.bytes :: f.text :: (fieldTokens fs ++ tail)) a = _
    rw [goScan_field f (h f List.mem_cons_self), goScan_fields fs (fun g hg => h g (List.mem_cons_of_mem _ hg))]
    rfl


open Magog.Props.C13 (InRange allotPure)

theorem goFinish_clock (black : Bool) (a : GoAcc) (hmt : a.moveTime = -1)
    (hbl : InRange a.blackLeft) (hbi : InRange a.blackInc) (hwl : InRange a.whiteLeft) (hwi : InRange a.whiteInc)
    (hm : 0 < a.movesToGo) :
    goFinish black a = .ok ⟨allotPure (if black then a.blackLeft else a.whiteLeft)
      (if black then a.blackInc else a.whiteInc) a.movesToGo, a.depth⟩ := by
  unfold goFinish
  rw [hmt, if_neg (by decide), Props.C13.allot_eq black _ _ _ _ _ hbl hbi hwl hwi hm]
  have hb := Props.C13.allot_bounds (if black then a.blackLeft else a.whiteLeft)
    (if black then a.blackInc else a.whiteInc) a.movesToGo
  have hl : InRange (if black then a.blackLeft else a.whiteLeft) := by cases black <;> assumption
  unfold InRange at hl
  simp only [Gen.antiflagMillis] at hb
  generalize allotPure _ _ _ = x at hb
  simp only [ok_bind]
  rw [Props.C13.wrap64_id (by omega) (by omega), Int.mul_tdiv_cancel_left _ (by decide)]
  rfl

theorem inRange_default : InRange (100000000000 : Int) ∧ InRange (0 : Int) := by
  unfold InRange; omega

/-- the thinking time when no clock is given at all (`go`, `go infinite`, `go depth N`): the default clock of
    10¹¹ ms divided by the default number of moves, less the safety margin -/
def defaultMillis : Int := allotPure 100000000000 0 Gen.ExpectedFullMovesToBePlayed

theorem defaultMillis_val : defaultMillis = 100000000000 / 30 - 50 := by decide +kernel

theorem goFinish_default (black : Bool) (d : Int) : goFinish black { depth := d } = .ok ⟨defaultMillis, d⟩ := by
  rw [goFinish_clock black _ rfl inRange_default.1 inRange_default.2 inRange_default.1 inRange_default.2
    (by show (0 : Int) < ((Gen.ExpectedFullMovesToBePlayed : Nat) : Int); decide)]
  cases black <;> rfl

theorem storeAll_inv (P : GoAcc → Prop) (hkey : ∀ a k v, P a → GoKey.admits k v → P (k.store v a)) :
    ∀ (fs : List GoField), (∀ f ∈ fs, f.Ok) → ∀ a : GoAcc, P a → P (storeAll fs a)
  | [], _, _, ha => ha
  | f :: fs, h, a, ha =>
    storeAll_inv P hkey fs (fun g hg => h g (List.mem_cons_of_mem _ hg)) _
      (hkey a f.key f.val ha (h f List.mem_cons_self).2)

theorem storeAll_movesToGo (fs : List GoField) (hfs : ∀ f ∈ fs, f.Ok) (a : GoAcc) (ha : 0 < a.movesToGo) :
    0 < (storeAll fs a).movesToGo :=
  storeAll_inv (0 < ·.movesToGo) (fun _ _ _ => store_movesToGo) fs hfs a ha

theorem storeAll_depth (fs : List GoField) (hfs : ∀ f ∈ fs, f.Ok) (a : GoAcc)
    (ha : 1 ≤ a.depth ∧ a.depth ≤ Gen.MaxSearchDepth) :
    1 ≤ (storeAll fs a).depth ∧ (storeAll fs a).depth ≤ Gen.MaxSearchDepth := by
  refine storeAll_inv (fun a => 1 ≤ a.depth ∧ a.depth ≤ Gen.MaxSearchDepth) (fun a k v ha hadm => ?_) fs hfs a ha
  cases k with
  | depth =>
    have hv : 1 ≤ v := hadm
    simp only [GoKey.store, Gen.MaxSearchDepth]
    omega
  | _ => exact ha

theorem storeAll_moveTime : ∀ (fs : List GoField) (a : GoAcc), (storeAll fs a).moveTime = a.moveTime
  | [], a => rfl
  | f :: fs, a => by
    rw [storeAll, storeAll_moveTime fs]
    obtain ⟨k, s, v⟩ := f
    cases k <;> rfl

def UciState.started (st : UciState) : UciState := { st with searchAllocated := true, killers := Killers.empty }

theorem doGo_tokens {st : UciState} {p : Position} (hp : st.pos = some p) (cmd : Bytes) :
    doGo st cmd = (do
      match (← goTokens (!whiteTurn p) (splitOn 32 cmd)) with
      | none => pure ({ st with searchAllocated := true }, [])
      | some g => pure (UciState.started st, [.searchStarted g.millis g.depth])) := by
  unfold doGo goParams
  split
  · next h => rw [hp] at h; cases h
  · next q hq => rw [hp] at hq; cases hq; rfl

theorem doGo_done {st : UciState} {p : Position} (hp : st.pos = some p) {cmd : Bytes} {a : GoAcc}
    (hs : goScan (splitOn 32 cmd) {} = .ok (.done a)) {g : GoParams} (hg : goFinish (!whiteTurn p) a = .ok g) :
    doGo st cmd = .ok (UciState.started st, [.searchStarted g.millis g.depth]) := by
  rw [doGo_tokens hp]
  unfold goTokens
  simp only [hs, ok_bind, hg]
  rfl

def goLine (toks : List Bytes) : Bytes := Gen.uGo_bytes ++ 32 :: joinSp toks

theorem uciStep_goBare {ops : EngineOps} (hts : ops.str.trimSpace = trimSpace) (st : UciState) :
    uciStep ops st Gen.uGo_bytes = doGo st [] := by
  rw [uciStep_go (by decide), hts]
  rfl

theorem goKeywords_word : ∀ k ∈ goKeywords, Word k := fun k hk =>
  word_of_clean ((by decide : ∀ k ∈ goKeywords, k ≠ []) k hk)
    ((by decide : ∀ k ∈ goKeywords, k.all (fun c => decide (c < 128) && !asciiSpace c) = true) k hk)

theorem fieldTokens_words : ∀ (fs : List GoField), (∀ f ∈ fs, f.Ok) → ∀ t ∈ fieldTokens fs, Word t
  | [], _, t, ht => by cases ht
  | f :: fs, h, t, ht => by
    rcases List.mem_cons.1 ht with rfl | ht
    · exact goKeywords_word _ (by cases f.key <;> decide)
    rcases List.mem_cons.1 ht with rfl | ht
    · exact atoi_word (h f List.mem_cons_self).1
    · exact fieldTokens_words fs (fun g hg => h g (List.mem_cons_of_mem _ hg)) t ht

def valueKeywords : List Bytes := [kwMoveTime, kwWtime, kwBtime, kwWinc, kwBinc, kwMovesToGo, kwDepth]

/-- the keyword `tok` followed by the tokens `rest` makes `doGo` return: its value is missing or not a number,
    or it is `movestogo` / `depth` with a value below 1 -/
def BadValue (tok : Bytes) (rest : List Bytes) : Prop :=
  tok ∈ valueKeywords ∧
    (atoi (argOf rest) = none ∨ ((tok = kwMovesToGo ∨ tok = kwDepth) ∧ ∃ v, atoi (argOf rest) = some v ∧ v < 1))

/-- the token list makes `doGo` return without starting a search: some value keyword with a bad value is reached
    by the scan (no `movetime` / `infinite` token stands before it) -/
def GoRejected (toks : List Bytes) : Prop :=
  ∃ pre tok rest, toks = pre ++ tok :: rest ∧ (∀ t ∈ pre, t ≠ kwMoveTime ∧ t ≠ kwInfinite) ∧ BadValue tok rest

theorem not_admits_iff (k : GoKey) (v : Int) :
    ¬ k.admits v ↔ (k.bytes = kwMovesToGo ∨ k.bytes = kwDepth) ∧ v < 1 := by
  cases k with
  | movestogo | depth => exact ⟨fun h => ⟨by decide, Int.not_le.1 h⟩, fun h => Int.not_le.2 h.2⟩
  | _ => exact ⟨fun h => absurd trivial h, fun h => absurd h.1 (by decide)⟩

theorem badValue_key (k : GoKey) (rest : List Bytes) :
    BadValue k.bytes rest ↔ ∀ v, atoi (argOf rest) = some v → ¬ k.admits v := by
  constructor
  · rintro ⟨_, h | ⟨hk, w, hw, hw1⟩⟩ v hv
    · rw [hv] at h; cases h
    · obtain rfl : v = w := Option.some.inj (hv.symm.trans hw)
      exact (not_admits_iff k v).2 ⟨hk, hw1⟩
  · intro hn
    refine ⟨by cases k <;> decide, ?_⟩
    cases hv : atoi (argOf rest) with
    | none => exact .inl rfl
    | some v =>
      have := (not_admits_iff k v).1 (hn v hv)
      exact .inr ⟨this.1, v, rfl, this.2⟩

theorem goScan_cons_cases (tok : Bytes) (rest : List Bytes) (a : GoAcc) :
    (BadValue tok rest ∧ goScan (tok :: rest) a = .ok .reject) ∨
    (¬ BadValue tok rest ∧
      (((tok = kwMoveTime ∨ tok = kwInfinite) ∧ ∃ a', goScan (tok :: rest) a = .ok (.done a')) ∨
       (tok ≠ kwMoveTime ∧ tok ≠ kwInfinite ∧ ∃ a', goScan (tok :: rest) a = goScan rest a'))) := by
  rcases goTok_cases tok with rfl | rfl | ⟨k, rfl⟩ | h
  · rw [goScan_movetime]
    cases hv : atoi (argOf rest) with
    | none => exact .inl ⟨⟨by decide, .inl hv⟩, rfl⟩
    | some v =>
      refine .inr ⟨?_, .inl ⟨.inl rfl, _, rfl⟩⟩
      rintro ⟨_, h | ⟨h, _⟩⟩
      · rw [hv] at h; cases h
      · revert h; decide
  · exact .inr ⟨fun h => absurd h.1 (by decide), .inl ⟨.inr rfl, _, goScan_infinite rest a⟩⟩
  · have hk : k.bytes ≠ kwMoveTime ∧ k.bytes ≠ kwInfinite := by cases k <;> decide
    rcases goScan_key k rest a with ⟨h, hn⟩ | ⟨v, hv, hadm, h⟩
    · exact .inl ⟨(badValue_key k rest).2 hn, h⟩
    · exact .inr ⟨fun hb => (badValue_key k rest).1 hb v hv hadm, .inr ⟨hk.1, hk.2, _, h⟩⟩
  · have hsub : ∀ t ∈ valueKeywords, t ∈ goKeywords := by decide
    exact .inr ⟨fun hb => h (hsub _ hb.1), .inr ⟨fun e => h (e ▸ by decide), fun e => h (e ▸ by decide), a,
      goScan_other h rest a⟩⟩

theorem goScan_reject_iff : ∀ (toks : List Bytes) (a : GoAcc), goScan toks a = .ok .reject ↔ GoRejected toks
  | [], a => by
    refine ⟨(fun h => by cases h), ?_⟩
    rintro ⟨pre, tok, rest, h, _⟩
    cases pre <;> cases h
  | tok :: rest, a => by
    have here : BadValue tok rest → GoRejected (tok :: rest) := fun hb => ⟨[], tok, rest, rfl, by simp, hb⟩
    -- a rejection of `tok :: rest` is at `tok` or inside `rest` (then `tok` is not a terminator)
    have split : GoRejected (tok :: rest) →
        BadValue tok rest ∨ (tok ≠ kwMoveTime ∧ tok ≠ kwInfinite ∧ GoRejected rest) := by
      rintro ⟨pre, t, r, h, hpre, hb⟩
      cases pre with
      | nil =>
        simp only [List.nil_append, List.cons.injEq] at h
        obtain ⟨rfl, rfl⟩ := h
        exact .inl hb
      | cons x xs =>
        simp only [List.cons_append, List.cons.injEq] at h
        obtain ⟨rfl, rfl⟩ := h
        exact .inr ⟨(hpre _ List.mem_cons_self).1, (hpre _ List.mem_cons_self).2,
          xs, t, r, rfl, fun u hu => hpre u (List.mem_cons_of_mem _ hu), hb⟩
    rcases goScan_cons_cases tok rest a with ⟨hb, hr⟩ | ⟨hnb, ⟨ht, a', hr⟩ | ⟨n1, n2, a', hr⟩⟩
    · exact ⟨fun _ => here hb, fun _ => hr⟩
    · refine ⟨(fun h => by rw [hr] at h; cases h), fun h => ?_⟩
      rcases split h with h | ⟨h1, h2, _⟩
      · exact absurd h hnb
      · exact ht.elim (fun e => absurd e h1) (fun e => absurd e h2)
    · have ih := goScan_reject_iff rest a'
      rw [hr]
      refine ⟨fun h => ?_, fun h => ?_⟩
      · obtain ⟨pre, t, r, e, hpre, hb⟩ := ih.1 h
        refine ⟨tok :: pre, t, r, by rw [e]; rfl, ?_, hb⟩
        intro u hu
        rcases List.mem_cons.1 hu with rfl | hu
        · exact ⟨n1, n2⟩
        · exact hpre u hu
      · rcases split h with h | ⟨_, _, h⟩
        · exact absurd h hnb
        · exact ih.2 h

theorem doGo_started_iff {st st' : UciState} {p : Position} (hp : st.pos = some p) {cmd : Bytes} {out : List UOut}
    (h : doGo st cmd = .ok (st', out)) :
    (GoRejected (splitOn 32 cmd) → st' = { st with searchAllocated := true } ∧ out = []) ∧
    (¬ GoRejected (splitOn 32 cmd) → ∃ millis depth, st' = UciState.started st ∧ out = [.searchStarted millis depth]) := by
  rw [doGo_tokens hp] at h
  unfold goTokens at h
  have hi := goScan_reject_iff (splitOn 32 cmd) {}
  obtain ⟨r, hr, hm⟩ := goScan_movesToGo (splitOn 32 cmd)
  rw [hr] at h hi
  cases r with
  | reject =>
    simp only [ok_bind, pure_bind'] at h
    cases h
    exact ⟨fun _ => ⟨rfl, rfl⟩, fun hn => absurd (hi.1 rfl) hn⟩
  | done a =>
    simp only [ok_bind] at h
    obtain ⟨g, hg⟩ := goFinish_total (!whiteTurn p) a (Int.ne_of_gt (hm a rfl))
    rw [hg] at h
    simp only [ok_bind, pure_bind'] at h
    cases h
    exact ⟨fun hrj => (by cases hi.2 hrj), fun _ => ⟨_, _, rfl, rfl⟩⟩

theorem goFinish_depth {black : Bool} {a : GoAcc} {g : GoParams} (h : goFinish black a = .ok g) : g.depth = a.depth := by
  unfold goFinish at h
  split at h
  · cases h; rfl
  · cases ha : allot black a.blackLeft a.blackInc a.whiteLeft a.whiteInc a.movesToGo with
    | error e => rw [ha] at h; cases h
    | ok ms => rw [ha] at h; cases h; rfl

theorem goLine_started {ops : EngineOps} (hts : ops.str.trimSpace = trimSpace) {st : UciState} {p : Position}
    (hp : st.pos = some p) {toks : List Bytes} (hne : toks ≠ []) (hw : ∀ t ∈ toks, Word t) {a : GoAcc}
    (hs : goScan toks {} = .ok (.done a)) {g : GoParams} (hg : goFinish (!whiteTurn p) a = .ok g) :
    uciStep ops st (goLine toks) = .ok (UciState.started st, [.searchStarted g.millis g.depth]) := by
  have hpre : hasPrefix (goLine toks) Gen.uGo_bytes = true := isPrefixOf_append _ _
  have htrim : trimPrefix (goLine toks) Gen.uGo_bytes = 32 :: joinSp toks := trimPrefix_append _ _
  rw [uciStep_go hpre, htrim, hts, (joinSp_ends toks hne hw).trim_sp_left]
  exact doGo_done hp (by rw [splitOn_joinSp toks hne (fun t ht => (hw t ht).no_sp)]; exact hs) hg

theorem default_depth : (1 : Int) ≤ ({} : GoAcc).depth ∧ ({} : GoAcc).depth ≤ Gen.MaxSearchDepth := by
  show (1 : Int) ≤ ((Gen.MaxSearchDepth : Nat) : Int) ∧ ((Gen.MaxSearchDepth : Nat) : Int) ≤ Gen.MaxSearchDepth
  decide

theorem goFinish_fields (black : Bool) {fs : List GoField} (hfs : ∀ f ∈ fs, f.Ok) :
    ∃ g, goFinish black (storeAll fs {}) = .ok g ∧ g.depth = (storeAll fs {}).depth ∧
      1 ≤ g.depth ∧ g.depth ≤ Gen.MaxSearchDepth := by
  have hm := storeAll_movesToGo fs hfs {} default_movesToGo
  obtain ⟨g, hg⟩ := goFinish_total black (storeAll fs {}) (by omega)
  have hd := goFinish_depth hg
  have := storeAll_depth fs hfs {} default_depth
  exact ⟨g, hg, hd, by rw [hd]; exact this.1, by rw [hd]; exact this.2⟩

/-- the fields of `go wtime a btime b [winc c binc d] [movestogo m]`: each value as (numeral, value) -/
def clockFields (wt bt : Bytes × Int) (inc : Option ((Bytes × Int) × (Bytes × Int))) (mtg : Option (Bytes × Int)) :
    List GoField :=
  [⟨.wtime, wt.1, wt.2⟩, ⟨.btime, bt.1, bt.2⟩] ++
  (match inc with | none => [] | some (wi, bi) => [⟨.winc, wi.1, wi.2⟩, ⟨.binc, bi.1, bi.2⟩]) ++
  (match mtg with | none => [] | some m => [⟨.movestogo, m.1, m.2⟩])

def clockInc (white : Bool) : Option ((Bytes × Int) × (Bytes × Int)) → Int
  | none => 0
  | some (wi, bi) => if white then wi.2 else bi.2

def clockMtg : Option (Bytes × Int) → Int
  | none => Gen.ExpectedFullMovesToBePlayed
  | some m => m.2

end goForms

end Magog.UciFrame
