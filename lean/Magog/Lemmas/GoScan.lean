import Magog.Model.Time

/-! The token scanner of `go` (`Model.goScan`), one token at a time: what it does at `movetime`, at `infinite`, at a
    keyword that is followed by a value, and at any other token (`goTok_cases` says these are all); and the
    induction over the token list for invariants (`goScan_inv`): the scan never panics, and a property of the
    accumulator that every admitted store keeps holds when it finishes (its use: the divisor `movesToGo` stays
    positive, `UciTotal.goScan_movesToGo`). What a rendered line stores and which token lists are rejected are
    inductions of their own in `GoForms` (`goScan_fields`, `goScan_reject_iff`), on the same per-token lemmas. -/

namespace Magog.UciFrame
open Magog Magog.Model

/-- the value read after a keyword (`tokens[i+1]`); a keyword in last position reads the empty string, which is
    not a number -/
def argOf : List Bytes → Bytes
  | nxt :: _ => nxt
  | [] => []

/-- the keywords of `go` that are followed by a value and do not end the scan -/
inductive GoKey where
  | wtime | btime | winc | binc | movestogo | depth
  deriving DecidableEq, Repr

def GoKey.bytes : GoKey → Bytes
  | .wtime => kwWtime | .btime => kwBtime | .winc => kwWinc | .binc => kwBinc
  | .movestogo => kwMovesToGo | .depth => kwDepth

/-- the values `doGo` accepts for the keyword: `movestogo` and `depth` must be at least 1 -/
def GoKey.admits : GoKey → Int → Prop
  | .movestogo, v => 1 ≤ v
  | .depth, v => 1 ≤ v
  | _, _ => True

def GoKey.store : GoKey → Int → GoAcc → GoAcc
  | .wtime, v, a => { a with whiteLeft := v }
  | .btime, v, a => { a with blackLeft := v }
  | .winc, v, a => { a with whiteInc := v }
  | .binc, v, a => { a with blackInc := v }
  | .movestogo, v, a => { a with movesToGo := v }
  | .depth, v, a => { a with depth := min v Gen.MaxSearchDepth }

def goKeywords : List Bytes :=
  kwMoveTime :: kwInfinite :: [GoKey.wtime, .btime, .winc, .binc, .movestogo, .depth].map GoKey.bytes

theorem goTok_cases (tok : Bytes) :
    tok = kwMoveTime ∨ tok = kwInfinite ∨ (∃ k : GoKey, tok = k.bytes) ∨ tok ∉ goKeywords := by
  by_cases h : tok ∈ goKeywords
  · rcases List.mem_cons.1 h with h | h
    · exact .inl h
    rcases List.mem_cons.1 h with h | h
    · exact .inr (.inl h)
    obtain ⟨k, _, rfl⟩ := List.mem_map.1 h
    exact .inr (.inr (.inl ⟨k, rfl⟩))
  · exact .inr (.inr (.inr h))

/-- `goScan` with the value `tokens[i+1]` read once -/
theorem goScan_cons_eq (tok : Bytes) (rest : List Bytes) (a : GoAcc) : goScan (tok :: rest) a =
    if tok == kwMoveTime then
      (match atoi (argOf rest) with | none => pure .reject | some v => pure (.done { a with moveTime := v }))
    else if tok == kwInfinite then pure (.done a)
    else if tok == kwWtime then
      (match atoi (argOf rest) with | none => pure .reject | some v => goScan rest { a with whiteLeft := v })
    else if tok == kwBtime then
      (match atoi (argOf rest) with | none => pure .reject | some v => goScan rest { a with blackLeft := v })
    else if tok == kwWinc then
      (match atoi (argOf rest) with | none => pure .reject | some v => goScan rest { a with whiteInc := v })
    else if tok == kwBinc then
      (match atoi (argOf rest) with | none => pure .reject | some v => goScan rest { a with blackInc := v })
    else if tok == kwMovesToGo then
      (match atoi (argOf rest) with
       | none => pure .reject
       | some v => if v < 1 then pure .reject else goScan rest { a with movesToGo := v })
    else if tok == kwDepth then
      (match atoi (argOf rest) with
       | none => pure .reject
       | some v => if v < 1 then pure .reject else goScan rest { a with depth := min v Gen.MaxSearchDepth })
    else goScan rest a := by
  rw [goScan.eq_def]
  cases rest <;> rfl

theorem goScan_movetime (rest : List Bytes) (a : GoAcc) : goScan (kwMoveTime :: rest) a =
    match atoi (argOf rest) with
    | none => .ok .reject
    | some v => .ok (.done { a with moveTime := v }) := by
  rw [goScan_cons_eq]; rfl

theorem goScan_infinite (rest : List Bytes) (a : GoAcc) : goScan (kwInfinite :: rest) a = .ok (.done a) := by
  rw [goScan_cons_eq]; rfl

/-- The scan goes on at `rest`, value included: the `range` loop of `doGo` looks at the value again as a token (a
    number, hence no keyword). -/
theorem goScan_key (k : GoKey) (rest : List Bytes) (a : GoAcc) :
    (goScan (k.bytes :: rest) a = .ok .reject ∧ ∀ v, atoi (argOf rest) = some v → ¬ k.admits v) ∨
    ∃ v, atoi (argOf rest) = some v ∧ k.admits v ∧ goScan (k.bytes :: rest) a = goScan rest (k.store v a) := by
  have e : goScan (k.bytes :: rest) a =
      match atoi (argOf rest) with
      | none => .ok .reject
      | some v =>
        match k with
        | .movestogo | .depth => if v < 1 then .ok .reject else goScan rest (k.store v a)
        | _ => goScan rest (k.store v a) := by
    rw [goScan_cons_eq]; cases k <;> rfl
  rw [e]
  cases atoi (argOf rest) with
  | none => exact .inl ⟨rfl, nofun⟩
  | some v =>
    by_cases hadm : k.admits v
    · refine .inr ⟨v, rfl, hadm, ?_⟩
      cases k with
      | movestogo | depth => exact if_neg (Int.not_lt.2 hadm)
      | _ => rfl
    · refine .inl ⟨?_, fun w hw => by cases hw; exact hadm⟩
      cases k with
      | movestogo | depth => exact if_pos (Int.not_le.1 hadm)
      | _ => exact absurd trivial hadm

theorem goScan_other {tok : Bytes} (h : tok ∉ goKeywords) (rest : List Bytes) (a : GoAcc) :
    goScan (tok :: rest) a = goScan rest a := by
  have ne : ∀ k ∈ goKeywords, ¬ (tok == k) = true := fun k hk e => h (eq_of_beq e ▸ hk)
  rw [goScan_cons_eq, if_neg (ne _ (by decide)), if_neg (ne _ (by decide)), if_neg (ne _ (by decide)),
    if_neg (ne _ (by decide)), if_neg (ne _ (by decide)), if_neg (ne _ (by decide)), if_neg (ne _ (by decide)),
    if_neg (ne _ (by decide))]

theorem goScan_inv (P : GoAcc → Prop) (hkey : ∀ a k v, P a → GoKey.admits k v → P (k.store v a))
    (hmt : ∀ a v, P a → P { a with moveTime := v }) :
    ∀ (toks : List Bytes) (a : GoAcc), P a → ∃ r, goScan toks a = .ok r ∧ ∀ a', r = .done a' → P a'
  | [], a, ha => ⟨.done a, rfl, fun a' h => by cases h; exact ha⟩
  | tok :: rest, a, ha => by
    have rej : ∃ r, (.ok .reject : M GoScan) = .ok r ∧ ∀ a', r = .done a' → P a' := ⟨_, rfl, nofun⟩
    rcases goTok_cases tok with rfl | rfl | ⟨k, rfl⟩ | h
    · rw [goScan_movetime]
      cases atoi (argOf rest) with
      | none => exact rej
      | some v => exact ⟨_, rfl, fun a' h => by cases h; exact hmt a v ha⟩
    · exact ⟨_, goScan_infinite rest a, fun a' h => by cases h; exact ha⟩
    · rcases goScan_key k rest a with ⟨h, _⟩ | ⟨v, _, hadm, h⟩
      · rw [h]; exact rej
      · rw [h]; exact goScan_inv P hkey hmt rest _ (hkey a k v ha hadm)
    · rw [goScan_other h]; exact goScan_inv P hkey hmt rest a ha

/-- the divisor `movesToGo` stays positive: a `movestogo` value below 1 is not admitted -/
theorem store_movesToGo {a : GoAcc} {k : GoKey} {v : Int} (ha : 0 < a.movesToGo) (h : k.admits v) :
    0 < (k.store v a).movesToGo := by
  cases k with
  | movestogo => exact Int.lt_of_lt_of_le Int.zero_lt_one h
  | _ => exact ha

theorem default_movesToGo : (0 : Int) < ({} : GoAcc).movesToGo := by
  show (0 : Int) < ((Gen.ExpectedFullMovesToBePlayed : Nat) : Int)
  decide

end Magog.UciFrame
