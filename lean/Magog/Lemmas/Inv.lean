import Magog.Lemmas.Attack
import Magog.Spec.FenInv
import Magog.Lemmas.PositionEq
import Magog.Lemmas.Count
import Magog.Spec.MakeMove

/-! The well-formedness invariant of a model position (`Inv`), shared by the chess-rule refinement proofs
    (C01, C02, C06, C15) and established for every position the FEN loader accepts (C08), with its Boolean
    checkers for concrete positions (`invB`, `invC`), checked here on the start position and on the C06 promotion
    witness (`good_c06PromoWitness`, which is why `Count` and `Spec.MakeMove` are imported). -/

namespace Magog
open Magog.Model Magog.Atk

/-- Well-formedness of a model position. The array: `board`, `offBoard` (slots off the board hold 0). The side
    records against the array: `white`, `black`, then duplicate-freeness and the capacities of the Go lists; the bound
    is on pawns + pieces because a promotion appends to `pieces` (`appendCap` in `mmMover`). `noBackPawn`. The scalar
    state: `flags` (five flag bits), `castling` (a right held implies king and rook at home), `ep`. -/
structure Inv (p : Position) : Prop where
  board : BoardOk p.board
  offBoard : ∀ i : Nat, i < 128 → isValid i = false → p.board[i]? = some 0
  white : SideOk p.board (p.side true) true
  black : SideOk p.board (p.side false) false
  wpNodup : p.whitePawns.Nodup
  bpNodup : p.blackPawns.Nodup
  wpcNodup : p.whitePieces.Nodup
  bpcNodup : p.blackPieces.Nodup
  wpLen : p.whitePawns.length ≤ pawnCap
  bpLen : p.blackPawns.length ≤ pawnCap
  wLen : p.whitePawns.length + p.whitePieces.length ≤ pieceCap
  bLen : p.blackPawns.length + p.blackPieces.length ≤ pieceCap
  noBackPawn : ∀ i : Nat, (p.board[i]? = some Gen.WPawn ∨ p.board[i]? = some Gen.BPawn) →
    rankOf i ≠ Gen.Rank1 ∧ rankOf i ≠ Gen.Rank8
  flags : p.flags < 32
  castling : castlingConsistent p = true
  ep : p.ep = InvalidSq ∨ FenSpec.EpOk p

theorem Inv.side {p : Position} (hi : Inv p) (w : Bool) : SideOk p.board (p.side w) w := by
  cases w
  · exact hi.black
  · exact hi.white

def invB (p : Position) : Bool :=
  boardOkB p.board &&
  ((List.range 128).all fun i => isValid i || p.board[i]? == some 0) &&
  sideOkB p.board (p.side true) true && sideOkB p.board (p.side false) false &&
  decide p.whitePawns.Nodup && decide p.blackPawns.Nodup && decide p.whitePieces.Nodup && decide p.blackPieces.Nodup &&
  decide (p.whitePawns.length ≤ pawnCap) && decide (p.blackPawns.length ≤ pawnCap) &&
  decide (p.whitePawns.length + p.whitePieces.length ≤ pieceCap) &&
  decide (p.blackPawns.length + p.blackPieces.length ≤ pieceCap) &&
  ((List.range 128).all fun i =>
    !(p.board[i]? == some Gen.WPawn || p.board[i]? == some Gen.BPawn) ||
      (rankOf i != Gen.Rank1 && rankOf i != Gen.Rank8)) &&
  decide (p.flags < 32) && castlingConsistent p &&
  (p.ep == InvalidSq ||
    (decide (p.ep < 128) && isValid p.ep && p.board[p.ep]? == some 0 &&
      (if whiteTurn p then
        rankOf p.ep == Gen.Rank6 && p.board[p.ep - Gen.UnitRank]? == some Gen.BPawn && p.board[p.ep + Gen.UnitRank]? == some 0
       else
        rankOf p.ep == Gen.Rank3 && p.board[p.ep + Gen.UnitRank]? == some Gen.WPawn && p.board[p.ep - Gen.UnitRank]? == some 0)))

theorem inv_of_invB {p : Position} (h : invB p = true) : Inv p := by
  simp only [invB, Bool.and_eq_true, decide_eq_true_eq, List.all_eq_true, List.mem_range, Bool.or_eq_true,
    beq_iff_eq, Bool.not_eq_true', bne_iff_ne, ne_eq] at h
  obtain ⟨⟨⟨⟨⟨⟨⟨⟨⟨⟨⟨⟨⟨⟨⟨hb, hoff⟩, hw⟩, hbl⟩, n1⟩, n2⟩, n3⟩, n4⟩, l1⟩, l2⟩, l3⟩, l4⟩, hbp⟩, hf⟩, hc⟩, hep⟩ := h
  refine ⟨boardOk_of_boardOkB hb, fun i hi hv => ?_, sideOk_of_sideOkB hw, sideOk_of_sideOkB hbl, n1, n2, n3, n4,
    l1, l2, l3, l4, fun i hi => ?_, hf, hc, ?_⟩
  · rcases hoff i hi with h | h
    · rw [h] at hv; cases hv
    · exact h
  · have hsz : p.board.size = 128 := (boardOk_of_boardOkB hb).size
    have hi128 : i < 128 := by
      rcases Nat.lt_or_ge i 128 with hlt | hge
      · exact hlt
      · rcases hi with hi | hi <;>
        · rw [Array.getElem?_eq_none (by omega)] at hi
          cases hi
    rcases hbp i hi128 with h | h
    · rcases hi with hi | hi
      · simp [hi] at h
      · simp [hi] at h
    · exact h
  · rcases hep with h | h
    · exact .inl h
    · refine .inr ?_
      obtain ⟨⟨⟨h1, h2⟩, h3⟩, h4⟩ := h
      refine ⟨h1, h2, h3, ?_⟩
      split
      · rename_i hw'
        simp only [hw', ↓reduceIte, Bool.and_eq_true, beq_iff_eq] at h4
        exact ⟨h4.1.1, h4.1.2, h4.2⟩
      · rename_i hw'
        simp only [hw', Bool.false_eq_true, ↓reduceIte, Bool.and_eq_true, beq_iff_eq] at h4
        exact ⟨h4.1.1, h4.1.2, h4.2⟩

def cellB (p : Position) (i v : Nat) : Bool :=
  if isValid i then
    (v == 0 || pieceCodes.contains v) &&
    (!(v == Gen.WPawn || v == Gen.BPawn) || (rankOf i != Gen.Rank1 && rankOf i != Gen.Rank8)) &&
    [true, false].all fun w =>
      (v != pawnOf w || (p.side w).pawns.contains i) &&
      (!(officersOf w).contains v || (p.side w).pieces.contains i) &&
      (v != kingOf w || i == (p.side w).king)
  else v == 0

def listedB (board : Array Nat) (sd : Side) (white : Bool) : Bool :=
  (sd.pawns.all fun s => onBoard s && board[s]? == some (pawnOf white)) &&
  (sd.pieces.all fun s => onBoard s && (officersOf white).any fun c => board[s]? == some c) &&
  (onBoard sd.king && board[sd.king]? == some (kingOf white))

/-- `invB` with the per-square lookups replaced by one pass over the board: in the kernel `board[i]?` walks the
    board literal from its head, so that `invB` is quadratic and this is linear. The witness positions use it. -/
def invC (p : Position) : Bool :=
  p.board.size == 128 && (p.board.toList.zipIdx.all fun x => cellB p x.2 x.1) &&
  listedB p.board (p.side true) true && listedB p.board (p.side false) false &&
  decide p.whitePawns.Nodup && decide p.blackPawns.Nodup && decide p.whitePieces.Nodup && decide p.blackPieces.Nodup &&
  decide (p.whitePawns.length ≤ pawnCap) && decide (p.blackPawns.length ≤ pawnCap) &&
  decide (p.whitePawns.length + p.whitePieces.length ≤ pieceCap) &&
  decide (p.blackPawns.length + p.blackPieces.length ≤ pieceCap) &&
  decide (p.flags < 32) && castlingConsistent p &&
  (p.ep == InvalidSq ||
    (decide (p.ep < 128) && isValid p.ep && p.board[p.ep]? == some 0 &&
      (if whiteTurn p then
        rankOf p.ep == Gen.Rank6 && p.board[p.ep - Gen.UnitRank]? == some Gen.BPawn && p.board[p.ep + Gen.UnitRank]? == some 0
       else
        rankOf p.ep == Gen.Rank3 && p.board[p.ep + Gen.UnitRank]? == some Gen.WPawn && p.board[p.ep - Gen.UnitRank]? == some 0)))

theorem inv_of_invC {p : Position} (h : invC p = true) : Inv p := by
  simp only [invC, Bool.and_eq_true, decide_eq_true_eq, beq_iff_eq, List.all_eq_true] at h
  obtain ⟨⟨⟨⟨⟨⟨⟨⟨⟨⟨⟨⟨⟨⟨hsz, hcells⟩, hw⟩, hbl⟩, n1⟩, n2⟩, n3⟩, n4⟩, l1⟩, l2⟩, l3⟩, l4⟩, hf⟩, hc⟩, hep⟩ := h
  -- the pass over the board, as a statement about every slot
  have cell : ∀ i v, p.board[i]? = some v → cellB p i v = true := fun i v hv =>
    hcells (v, i) (List.mem_zipIdx_iff_getElem?.2 (by rw [Array.getElem?_toList]; exact hv))
  have slot : ∀ i, i < 128 → ∃ v, p.board[i]? = some v := fun i hi =>
    ⟨_, Array.getElem?_eq_getElem (by omega)⟩
  have valid : ∀ {i v}, p.board[i]? = some v → isValid i = true →
      (v = 0 ∨ v ∈ pieceCodes) ∧ ((v = Gen.WPawn ∨ v = Gen.BPawn) → rankOf i ≠ Gen.Rank1 ∧ rankOf i ≠ Gen.Rank8) ∧
      ∀ w, (v = pawnOf w → i ∈ (p.side w).pawns) ∧ (v ∈ officersOf w → i ∈ (p.side w).pieces) ∧
        (v = kingOf w → i = (p.side w).king) := by
    intro i v hv hi
    have := cell i v hv
    simp only [cellB, hi, if_true, Bool.and_eq_true, Bool.or_eq_true, beq_iff_eq, List.contains_iff_mem,
      bne_iff_ne, ne_eq, List.all_eq_true, Bool.not_eq_eq_eq_not, Bool.not_true,
      Bool.or_eq_false_iff, beq_eq_false_iff_ne] at this
    refine ⟨this.1.1, fun hp => ?_, fun w => ?_⟩
    · rcases this.1.2 with h | h
      · rcases hp with hp | hp
        · exact absurd hp h.1
        · exact absurd hp h.2
      · exact h
    · have hw := this.2 w (by cases w <;> simp)
      refine ⟨fun e => ?_, fun e => ?_, fun e => ?_⟩
      · rcases hw.1.1 with h | h
        · exact absurd e h
        · exact h
      · rcases hw.1.2 with h | h
        · rw [List.contains_iff_mem.2 e] at h; cases h
        · exact h
      · rcases hw.2 with h | h
        · exact absurd e h
        · exact h
  have side : ∀ w, listedB p.board (p.side w) w = true → SideOk p.board (p.side w) w := by
    intro w hl
    simp only [listedB, Bool.and_eq_true, List.all_eq_true, beq_iff_eq, onBoard_iff, List.any_eq_true] at hl
    obtain ⟨⟨hp, hq⟩, hk⟩ := hl
    -- `pawns`, `pieces`, `king`, each sound (from `listedB`) then complete (from the pass over the board, `valid`)
    refine ⟨fun s => ⟨fun hs => ?_, fun hs => ?_⟩, fun s => ⟨fun hs => ?_, fun hs => ?_⟩,
      fun s => ⟨fun hs => ?_, fun hs => ?_⟩⟩
    · have := hp s hs; exact ⟨this.1.1, this.1.2, this.2⟩
    · exact ((valid hs.2.2 hs.2.1).2.2 w).1 rfl
    · have := hq s hs; exact ⟨this.1.1, this.1.2, this.2⟩
    · obtain ⟨c, hc, hbc⟩ := hs.2.2
      exact ((valid hbc hs.2.1).2.2 w).2.1 hc
    · subst hs; exact ⟨hk.1.1, hk.1.2, hk.2⟩
    · exact ((valid hs.2.2 hs.2.1).2.2 w).2.2 rfl
  -- the four goals left: `board.codes`, `offBoard`, `noBackPawn`, `ep`
  refine ⟨⟨hsz, fun s hs hv => ?_⟩, fun i hi hv => ?_, side true hw, side false hbl, n1, n2, n3, n4,
    l1, l2, l3, l4, fun i hi => ?_, hf, hc, ?_⟩
  · obtain ⟨v, hv'⟩ := slot s hs
    exact ⟨v, hv', (valid hv' hv).1⟩
  · obtain ⟨v, hv'⟩ := slot i hi
    have := cell i v hv'
    simp only [cellB, hv, Bool.false_eq_true, if_false, beq_iff_eq] at this
    rw [hv', this]
  · obtain ⟨v, hv, hpw⟩ : ∃ v, p.board[i]? = some v ∧ (v = Gen.WPawn ∨ v = Gen.BPawn) := by
      rcases hi with hi | hi
      · exact ⟨_, hi, .inl rfl⟩
      · exact ⟨_, hi, .inr rfl⟩
    by_cases hval : isValid i = true
    · exact (valid hv hval).2.1 hpw
    · have := cell i v hv
      simp only [cellB, hval, Bool.false_eq_true, if_false, beq_iff_eq] at this
      subst this
      rcases hpw with h | h <;> cases h
  · simp only [Bool.or_eq_true, beq_iff_eq, Bool.and_eq_true, decide_eq_true_eq] at hep
    refine hep.imp id fun ⟨⟨⟨h1, h2⟩, h3⟩, h4⟩ => ⟨h1, h2, h3, ?_⟩
    split <;> rename_i hw' <;> simp only [hw', if_true, Bool.false_eq_true, if_false, Bool.and_eq_true, beq_iff_eq] at h4 <;>
      exact ⟨h4.1.1, h4.1.2, h4.2⟩

theorem inv_startPosition : Inv startPosition := inv_of_invC (by rw [startPosition_eq]; decide +kernel)

theorem good_c06PromoWitness : Inv Count.c06PromoWitness ∧ MM.OppSafe Count.c06PromoWitness :=
  ⟨inv_of_invC (by decide +kernel), Count.okVal_eq_some (by decide +kernel)⟩

end Magog
