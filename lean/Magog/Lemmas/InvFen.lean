import Magog.Lemmas.Inv

/-! Bridge: what the FEN loader guarantees (`FenSpec.FenInv` + `FenSpec.FenLists`, property C08), together with
    `p.flags < 32` (a conjunct of `FenSpec.FenFaithful`, not of `FenInv`), is the shared position invariant `Inv`. -/

namespace Magog
open Magog.Model Magog.Atk Magog.FenSpec

namespace InvFen

/-- a value that occurs once in a list (counted by `filter`) occurs at one index only -/
theorem filter_one_unique {k : Nat} : ∀ (l : List Nat) (i j : Nat),
    (l.filter (· == k)).length = 1 → l[i]? = some k → l[j]? = some k → i = j := by
  intro l
  induction l with
  | nil => intro i j h; simp at h
  | cons x xs ih =>
    intro i j h hi hj
    by_cases hx : x = k
    · subst hx
      have hnil : xs.filter (· == x) = [] := by
        simp only [List.filter_cons, beq_self_eq_true, if_true, List.length_cons] at h
        exact List.eq_nil_of_length_eq_zero (by omega)
      have hno : ∀ n : Nat, xs[n]? ≠ some x := by
        intro n hn
        have hm : x ∈ xs := List.mem_of_getElem? hn
        have : x ∈ xs.filter (· == x) := List.mem_filter.mpr ⟨hm, by simp⟩
        rw [hnil] at this; cases this
      cases i with
      | zero =>
        cases j with
        | zero => rfl
        | succ j => exact absurd hj (by simpa using hno j)
      | succ i => exact absurd hi (by simpa using hno i)
    · have hxb : (x == k) = false := by simpa using hx
      simp only [List.filter_cons, hxb, Bool.false_eq_true, if_false] at h
      cases i with
      | zero => simp at hi; exact absurd hi hx
      | succ i =>
        cases j with
        | zero => simp at hj; exact absurd hj hx
        | succ j =>
          simp only [List.getElem?_cons_succ] at hi hj
          rw [ih i j h hi hj]

theorem countKings_unique {b : Array Nat} {k i j : Nat} (h : countKings b k = 1)
    (hi : b[i]? = some k) (hj : b[j]? = some k) : i = j := by
  unfold countKings at h
  exact filter_one_unique b.toList i j h (by simpa using hi) (by simpa using hj)

theorem valid_of_ne_zero {p : Position} (hsz : p.board.size = 128)
    (hoff : ∀ i : Nat, i < 128 → isValid i = false → p.board[i]? = some 0) {s v : Nat}
    (h : p.board[s]? = some v) (hv : v ≠ 0) : s < 128 ∧ isValid s = true := by
  have hlt : s < 128 := by
    have := (Array.getElem?_eq_some_iff.mp h).1
    omega
  refine ⟨hlt, ?_⟩
  cases hval : isValid s with
  | true => rfl
  | false =>
    have := hoff s hlt hval
    rw [h] at this
    simp only [Option.some.injEq] at this
    exact absurd this hv

theorem sideOk_of_lists {b : Array Nat} {sd : Side} {w : Bool}
    (pS : ListSound b sd.pawns [pawnOf w]) (pC : ListComplete b sd.pawns [pawnOf w])
    (oS : ListSound b sd.pieces (officersOf w)) (oC : ListComplete b sd.pieces (officersOf w))
    (hk : b[sd.king]? = some (kingOf w)) (hkv : sd.king < 128 ∧ isValid sd.king = true)
    (hk1 : countKings b (kingOf w) = 1) : SideOk b sd w := by
  refine ⟨fun s => ⟨fun hs => ?_, fun hs => pC s _ hs.2.2 (List.mem_singleton_self _)⟩,
    fun s => ⟨fun hs => oS s hs, fun ⟨_, _, c, hc, h3⟩ => oC s c h3 hc⟩,
    fun s => ⟨fun hs => hs ▸ ⟨hkv.1, hkv.2, hk⟩, fun hs => countKings_unique hk1 hs.2.2 hk⟩⟩
  obtain ⟨h1, h2, pc, hpc, h3⟩ := pS s hs
  rw [List.mem_singleton.1 hpc] at h3
  exact ⟨h1, h2, h3⟩

end InvFen

open InvFen in
theorem inv_of_fen {p : Position} (h : FenInv p) (hl : FenLists p) (hf : p.flags < 32) : Inv p := by
  refine
    { board := ⟨h.size, fun s hs _ => ?_⟩
      offBoard := h.offBoard
      white := sideOk_of_lists h.wpSound hl.wpComplete h.wpcSound hl.wpcComplete h.wKing h.wKingValid h.wKing1
      black := sideOk_of_lists h.bpSound hl.bpComplete h.bpcSound hl.bpcComplete h.bKing h.bKingValid h.bKing1
      wpNodup := hl.wpNodup, bpNodup := hl.bpNodup, wpcNodup := hl.wpcNodup, bpcNodup := hl.bpcNodup
      wpLen := h.wpLen, bpLen := h.bpLen, wLen := h.wLen, bLen := h.bLen
      noBackPawn := h.noBackPawn, flags := hf, castling := h.castling, ep := h.ep }
  have hlt : s < p.board.size := by rw [h.size]; exact hs
  refine ⟨p.board[s], Array.getElem?_eq_getElem hlt, ?_⟩
  have hw : ∀ v ∈ whitePieceCodes, v ∈ pieceCodes := by decide
  have hb : ∀ v ∈ blackPieceCodes, v ∈ pieceCodes := by decide
  rcases hl.codes s _ (Array.getElem?_eq_getElem hlt) with h0 | h0 | h0 | h0 | h0 | h0 | h0
  · exact .inl h0
  · right; rw [h0]; decide
  · right; rw [h0]; decide
  · right; rw [h0]; decide
  · right; rw [h0]; decide
  · exact .inr (hw _ h0)
  · exact .inr (hb _ h0)

end Magog
