import Magog.Model.MoveGen
import Magog.Model.Start
import Magog.Lemmas.PositionEq
import Magog.Props.C18
import Magog.Lemmas.CountTac
import Batteries.Data.List.Basic

/-! Killer-table independence of move generation.

The killer table (`Killers`) is read only by `probeKiller` (through `quiet`), and the value read ends up
only in the `ranking` field of the generated `RMove`. Hence *which* moves are generated (and their order
and `tactical` flags) does not depend on the table, and neither does whether generation panics, as long
as the table has its allocated size (`killerSlot_total`).

Method: a relation `MR T R x y` between two model computations saying "if `x` succeeds with `a` then
(1) under the side condition `T` also `y` succeeds, and (2) any successful result `b` of `y` is
`R`-related to `a`": the relation `RelT` of `Walk.lean` between two runs of the same type. `genPseudo kt p` and
`genPseudo kt' p` are walks at two emitters that differ only in `quiet`, so the relation is lifted from the sites
(`quiet`, `moveOrCapture`, the pawn pushes, the castling block) by `Resp.walk`, and `MR.filterM'` carries it through
the legality filter (a predicate that looks only at `.mov`): one pass gives both independence and totality.

The non-vacuity part evaluates `generateMoves` on the start position under two tables in one kernel run
(`start_views`); `Witness.start_generate` (file `WitnessRuns`) takes the empty-table run from here. -/

namespace Magog.Lemmas.KillerIndep
open Magog Magog.Model Magog.Count Magog.Walk

def RSim (a b : RMove) : Prop := a.mov = b.mov ∧ a.tactical = b.tactical

def LSim (l l' : List RMove) : Prop :=
  l.map (·.mov) = l'.map (·.mov) ∧ l.map (·.tactical) = l'.map (·.tactical)

theorem RSim.refl (a : RMove) : RSim a a := ⟨rfl, rfl⟩

theorem LSim.refl (l : List RMove) : LSim l l := ⟨rfl, rfl⟩

theorem LSim.nil : LSim [] [] := ⟨rfl, rfl⟩

theorem LSim.cons {a b : RMove} {l l' : List RMove} (h : RSim a b) (hl : LSim l l') :
    LSim (a :: l) (b :: l') := by
  simp only [LSim, List.map_cons, h.1, h.2, hl.1, hl.2, and_self]

theorem LSim.single {a b : RMove} (h : RSim a b) : LSim [a] [b] := LSim.cons h LSim.nil

theorem LSim.append {l₁ l₁' l₂ l₂' : List RMove} (h₁ : LSim l₁ l₁') (h₂ : LSim l₂ l₂') :
    LSim (l₁ ++ l₂) (l₁' ++ l₂') := by
  simp only [LSim, List.map_append, h₁.1, h₁.2, h₂.1, h₂.2, and_self]

theorem LSim_iff_forall₂ (l l' : List RMove) : LSim l l' ↔ List.Forall₂ RSim l l' := by
  constructor
  · intro h
    induction l generalizing l' with
    | nil =>
      cases l' with
      | nil => exact .nil
      | cons b l' => simp [LSim] at h
    | cons a l ih =>
      cases l' with
      | nil => simp [LSim] at h
      | cons b l' =>
        simp only [LSim, List.map_cons, List.cons.injEq] at h
        exact .cons ⟨h.1.1, h.2.1⟩ (ih l' ⟨h.1.2, h.2.2⟩)
  · intro h
    induction h with
    | nil => exact LSim.nil
    | cons h _ ih => exact LSim.cons h ih

/-- The body of `Walk.RelT` at one result type. Only `MR.filterM'` is stated with it; the `*_MR` lemmas below state
    `RelT Full …`. -/
def MR (T : Prop) {α : Type} (R : α → α → Prop) (x y : M α) : Prop :=
  ∀ a, x = .ok a → (T → ∃ b, y = .ok b) ∧ (∀ b, y = .ok b → R a b)

/-- filtering with a predicate that looks only at `.mov` (`MR T R` unfolds to `RelT T R`, whose rules apply) -/
theorem MR.filterM' {T : Prop} (f : Move → M Bool) (l l' : List RMove) (h : LSim l l') :
    MR T LSim (Model.filterM' (fun rm => f rm.mov) l) (Model.filterM' (fun rm => f rm.mov) l') := by
  induction (LSim_iff_forall₂ l l').1 h with
  | nil => exact RelT.pure LSim.nil
  | cons hab hl ih =>
    simp only [Model.filterM']
    rw [hab.1]
    refine RelT.bind_same fun t _ => RelT.bind (ih ((LSim_iff_forall₂ _ _).2 hl)) fun r r' hr => RelT.pure ?_
    cases t
    · simpa using hr
    · simpa using LSim.cons hab hr

section Gen
variable (kt kt' : Killers)

/-- the side condition for totality: the second table has its allocated size (`Full` mentions the section variable
    `kt'`, not `kt`) -/
local notation "Full" => (Array.size kt' = Gen.killerMovesMaxPly)

theorem quiet_total {kt : Killers} (hk : kt.size = Gen.killerMovesMaxPly) (ply : Int) (m : Move) :
    ∃ a, quiet kt ply m = .ok a := by
  obtain ⟨k, hk⟩ := Props.C18.killerSlot_total kt hk ply
  unfold quiet probeKiller
  rw [hk, ok_bind]
  split
  · exact ⟨_, rfl⟩
  · split <;> exact ⟨_, rfl⟩

theorem quiet_MR (ply : Int) (m : Move) : RelT Full RSim (quiet kt ply m) (quiet kt' ply m) := by
  intro a ha
  refine ⟨fun hT => quiet_total hT ply m, ?_⟩
  intro b hb
  have h1 := Count.quiet_shape ha
  have h2 := Count.quiet_shape hb
  exact ⟨h1.1.trans h2.1.symm, h1.2.trans h2.2.symm⟩

theorem moveOrCapture_MR (ply : Int) (frm to attacker attacked : Nat) :
    RelT Full RSim (moveOrCapture kt ply frm to attacker attacked) (moveOrCapture kt' ply frm to attacker attacked) :=
  RelT.ite (fun _ => quiet_MR kt kt' ply _) fun _ => RelT.diag fun a _ => RSim.refl a

/-- what a knight or king step of the full generator emits -/
theorem moveEmit_MR (B : Array Nat) (ply : Int) (frm to : Nat) :
    RelT Full LSim
      (do let x ← bget B to; let a ← bget B frm
          let mv ← moveOrCapture kt ply frm to (a &&& Colorless) (x &&& Colorless); pure [mv])
      (do let x ← bget B to; let a ← bget B frm
          let mv ← moveOrCapture kt' ply frm to (a &&& Colorless) (x &&& Colorless); pure [mv]) :=
  RelT.bind_same fun _ _ => RelT.bind_same fun _ _ => RelT.bind (moveOrCapture_MR kt kt' ply _ _ _ _) fun _ _ h =>
    RelT.pure (LSim.single h)

theorem here_MR (p : Position) (c : Ctx) (frm pc to x : Nat) :
    RelT Full LSim ((genE kt p c).here frm pc to x) ((genE kt' p c).here frm pc to x) :=
  RelT.bind (moveOrCapture_MR kt kt' p.ply _ _ _ _) fun _ _ h => RelT.pure (LSim.single h)

theorem pawnPushes_MR (ply : Int) (frm to promoRank : Nat) :
    RelT Full LSim (pawnPushes kt ply frm to promoRank) (pawnPushes kt' ply frm to promoRank) :=
  RelT.ite (fun _ => RelT.diag fun a _ => LSim.refl a) fun _ =>
    RelT.bind (quiet_MR kt kt' ply _) fun _ _ h => RelT.pure (LSim.single h)

/-- of the three parts of a pawn's body only the pushes read the table -/
theorem pawnGen_MR (p : Position) (c : Ctx) (frm : Nat) :
    RelT Full LSim (pawnGen p c kt frm) (pawnGen p c kt' frm) := by
  rw [pawnGen_eq, pawnGen_eq]
  refine RelT.bind_same fun a _ => RelT.bind_same fun b _ => RelT.bind ?_ fun _ _ h =>
    RelT.pure (LSim.append (LSim.refl _) h)
  refine RelT.bind_same fun _ _ => RelT.ite (fun _ => ?_) fun _ => RelT.pure LSim.nil
  refine RelT.bind (pawnPushes_MR kt kt' p.ply _ _ _) fun _ _ h => RelT.bind_same fun dbl _ => RelT.pure ?_
  cases dbl
  · exact h
  · exact LSim.append h (LSim.refl _)

theorem castlePart_MR (flag : Bool) (okM : M Bool) (ply : Int) (m : Move) :
    RelT Full LSim (castlePart flag okM (quiet kt ply m)) (castlePart flag okM (quiet kt' ply m)) :=
  RelT.ite (fun _ => RelT.bind_same fun _ _ => RelT.ite
    (fun _ => RelT.bind (quiet_MR kt kt' ply m) fun _ _ h => RelT.pure (LSim.single h)) fun _ => RelT.pure LSim.nil)
    fun _ => RelT.pure LSim.nil

theorem castleGen_MR (p : Position) (c : Ctx) :
    RelT Full LSim (castleGen p c kt) (castleGen p c kt') := by
  rw [castleGen_eq, castleGen_eq]
  exact RelT.bind (castlePart_MR kt kt' _ _ _ _) fun _ _ hq => RelT.bind (castlePart_MR kt kt' _ _ _ _) fun _ _ hk =>
    RelT.pure (LSim.append hq hk)

theorem lsimResp (p : Position) (c : Ctx) : Resp (genE kt p c) (genE kt' p c) LSim :=
  ⟨LSim.nil, LSim.append⟩

theorem genPseudo_MR (p : Position) : RelT Full LSim (genPseudo kt p) (genPseudo kt' p) := by
  rw [genPseudo_eq, genPseudo_eq]
  exact (lsimResp kt kt' p p.ctx).walk (fun _ _ => pawnGen_MR kt kt' p _ _)
    (fun _ _ _ => RelT.step (moveEmit_MR kt kt' _ _ _ _) LSim.nil) (fun _ _ _ _ _ _ _ => here_MR kt kt' p _ _ _ _ _)
    (fun _ _ => RelT.step (moveEmit_MR kt kt' _ _ _ _) LSim.nil) (castleGen_MR kt kt' p _)

theorem generateMoves_MR (p : Position) : RelT Full LSim (generateMoves kt p) (generateMoves kt' p) :=
  RelT.bind (genPseudo_MR kt kt' p) fun ms ms' h => MR.filterM' (isLegal p) ms ms' h

end Gen

/-- Pseudo-legal generation yields the same moves in the same order with the same tactical flags for any
    two killer tables; only rankings may differ. -/
theorem genPseudo_movs_indep (kt kt' : Killers) (p : Position) (ms ms' : List RMove) :
    genPseudo kt p = .ok ms → genPseudo kt' p = .ok ms' →
    ms.map (·.mov) = ms'.map (·.mov) ∧ ms.map (·.tactical) = ms'.map (·.tactical) :=
  fun h h' => (genPseudo_MR kt kt' p ms h).2 ms' h'

/-- The same for legal generation (the legality filter `isLegal p rm.mov` looks only at `.mov`). -/
theorem generateMoves_movs_indep (kt kt' : Killers) (p : Position) (ms ms' : List RMove) :
    generateMoves kt p = .ok ms → generateMoves kt' p = .ok ms' →
    ms.map (·.mov) = ms'.map (·.mov) ∧ ms.map (·.tactical) = ms'.map (·.tactical) :=
  fun h h' => (generateMoves_MR kt kt' p ms h).2 ms' h'

def KillerIndep : Prop :=
  ∀ kt kt' p ms ms', generateMoves kt p = .ok ms → generateMoves kt' p = .ok ms' →
    ms.map (·.mov) = ms'.map (·.mov)

theorem killerIndep : KillerIndep :=
  fun kt kt' p ms ms' h h' => (generateMoves_movs_indep kt kt' p ms ms' h h').1

/-- Whether generation panics does not depend on the table contents once the table has its allocated
    size (only the size of the *second* table is used). -/
theorem generateMoves_ok_indep' (kt kt' : Killers) (hk' : kt'.size = Gen.killerMovesMaxPly) (p : Position) :
    (∃ ms, generateMoves kt p = .ok ms) → (∃ ms', generateMoves kt' p = .ok ms') :=
  fun ⟨ms, h⟩ => (generateMoves_MR kt kt' p ms h).1 hk'

set_option linter.unusedVariables false in
/-- Totality w.r.t. the table, stated with a size hypothesis on each table. `hk` is not used (hence the linter
    option): other files use `generateMoves_ok_indep'`, this form only the example at the end of the file. -/
theorem generateMoves_ok_indep (kt kt' : Killers) (hk : kt.size = Gen.killerMovesMaxPly)
    (hk' : kt'.size = Gen.killerMovesMaxPly) (p : Position) :
    (∃ ms, generateMoves kt p = .ok ms) → (∃ ms', generateMoves kt' p = .ok ms') :=
  generateMoves_ok_indep' kt kt' hk' p

theorem genPseudo_ok_indep (kt kt' : Killers) (hk' : kt'.size = Gen.killerMovesMaxPly) (p : Position) :
    (∃ ms, genPseudo kt p = .ok ms) → (∃ ms', genPseudo kt' p = .ok ms') :=
  fun ⟨ms, h⟩ => (genPseudo_MR kt kt' p ms h).1 hk'

/-! ### non-vacuity: the start position with the empty table and with a table holding Ng1-f3 as first
    killer of the start ply. Both generations succeed (kernel evaluation), the theorems apply, and the
    rankings really do differ (so "only rankings may differ" is not vacuous either). -/

def exampleKillers : Killers :=
  Killers.empty.setIfInBounds (killerIdx startPosition.ply)
    (⟨0x06, 0x25, 0, Gen.InvalidSquare⟩, Move.zero)

theorem exampleKillers_size : exampleKillers.size = Gen.killerMovesMaxPly := by
  simp [exampleKillers, Killers.empty]

def okView (x : M (List RMove)) : Option (Nat × Int) :=
  match x with
  | .ok l => some (l.length, (l.map (·.ranking)).sum)
  | .error _ => none

theorem okView_some {x : M (List RMove)} {n : Nat} {r : Int} (h : okView x = some (n, r)) :
    ∃ l, x = .ok l ∧ l.length = n ∧ (l.map (·.ranking)).sum = r := by
  cases x with
  | error e => simp [okView] at h
  | ok l =>
    simp only [okView, Option.some.injEq, Prod.mk.injEq] at h
    exact ⟨l, rfl, h.1, h.2⟩

/-- both generations in one evaluation: the legality tests are the same, only the rankings differ -/
theorem start_views : okView (generateMoves Killers.empty startPosition) = some (20, 0) ∧
    okView (generateMoves exampleKillers startPosition) = some (20, 8000) := by
  rw [startPosition_eq]; decide +kernel

theorem start_empty_view : okView (generateMoves Killers.empty startPosition) = some (20, 0) := start_views.1

theorem start_example_view : okView (generateMoves exampleKillers startPosition) = some (20, 8000) :=
  start_views.2

example : ∃ ms ms', generateMoves Killers.empty startPosition = .ok ms ∧
    generateMoves exampleKillers startPosition = .ok ms' ∧ ms.length = 20 ∧
    ms.map (·.mov) = ms'.map (·.mov) ∧ ms.map (·.tactical) = ms'.map (·.tactical) ∧
    ms.map (·.ranking) ≠ ms'.map (·.ranking) := by
  obtain ⟨ms, h, hl, hr⟩ := okView_some start_empty_view
  obtain ⟨ms', h', _, hr'⟩ := okView_some start_example_view
  have hi := generateMoves_movs_indep _ _ _ ms ms' h h'
  refine ⟨ms, ms', h, h', hl, hi.1, hi.2, ?_⟩
  intro he
  rw [he, hr'] at hr
  exact absurd hr (by decide)

example : ∀ ms ms', generateMoves Killers.empty startPosition = .ok ms →
    generateMoves exampleKillers startPosition = .ok ms' → ms.map (·.mov) = ms'.map (·.mov) :=
  killerIndep _ _ _

/-- `generateMoves_ok_indep` instantiated: success with the empty table (kernel-evaluated) transfers to
    the modified table without evaluating it -/
example : ∃ ms', generateMoves exampleKillers startPosition = .ok ms' :=
  generateMoves_ok_indep Killers.empty exampleKillers Props.C18.killers_empty_size exampleKillers_size
    startPosition (let ⟨ms, h, _⟩ := okView_some start_empty_view; ⟨ms, h⟩)

/-- `genPseudo_movs_indep` instantiated (pseudo-legal generation on the start position succeeds since
    legal generation does) -/
example : ∃ ms ms', genPseudo Killers.empty startPosition = .ok ms ∧
    genPseudo exampleKillers startPosition = .ok ms' ∧
    ms.map (·.mov) = ms'.map (·.mov) ∧ ms.map (·.tactical) = ms'.map (·.tactical) := by
  have ok : ∀ kt, (∃ l, generateMoves kt startPosition = .ok l) → ∃ ms, genPseudo kt startPosition = .ok ms := by
    intro kt ⟨l, hl⟩
    unfold generateMoves at hl
    cases hg : genPseudo kt startPosition with
    | error e => simp [hg, Bind.bind, Except.bind] at hl
    | ok ms => exact ⟨ms, rfl⟩
  obtain ⟨ms, h⟩ := ok _ (let ⟨ms, h, _⟩ := okView_some start_empty_view; ⟨ms, h⟩)
  obtain ⟨ms', h'⟩ := ok _ (let ⟨ms, h, _⟩ := okView_some start_example_view; ⟨ms, h⟩)
  exact ⟨ms, ms', h, h', genPseudo_movs_indep _ _ _ ms ms' h h'⟩

end Magog.Lemmas.KillerIndep

