import Magog.Lemmas.PseudoSpec

/-! Why the engine's extra test at the pseudo-legal layer is harmless (the statements speak of `Spec` only; that an
    endpoint is not in `Spec.between` is read off the 0x88 rays, `GenGeoO.between_not_end`):
    a king step onto a square that is attacked on the current board leaves the king in check, hence is
    never legal. Consequently every legal move satisfies `Spec.pseudo'` (`pseudo'_of_legal`). -/

namespace Magog.KingStep
open Magog Magog.Model

theorem other_ne (c : Spec.Color) : c.other ≠ c := by cases c <;> decide

theorem manAttacks_irrefl (B : Array (Option Spec.Man)) (man : Spec.Man) (a : Nat) :
    Spec.manAttacks B man a a = false := by
  obtain ⟨c, k⟩ := man
  cases k <;> simp [Spec.manAttacks, Spec.adiff, Spec.onLine, Spec.onDiag]

theorem clear_mono {B B' : Array (Option Spec.Man)} {a t : Nat}
    (h : ∀ s ∈ Spec.between a t, (B.getD s none).isNone = true → (B'.getD s none).isNone = true)
    (hc : Spec.clear B a t = true) : Spec.clear B' a t = true := by
  simp only [Spec.clear, List.all_eq_true] at hc ⊢
  exact fun s hs => h s hs (hc s hs)

/-- only a sliding man looks at the squares between, and only along a line or diagonal -/
theorem manAttacks_of_clear {B B' : Array (Option Spec.Man)} {man : Spec.Man} {a t : Nat}
    (h : (Spec.onLine a t || Spec.onDiag a t) = true → Spec.clear B a t = true → Spec.clear B' a t = true)
    (hm : Spec.manAttacks B man a t = true) : Spec.manAttacks B' man a t = true := by
  obtain ⟨c, k⟩ := man
  cases k <;> simp only [Spec.manAttacks, Bool.and_eq_true] at hm ⊢ <;> first
    | exact hm
    | exact ⟨hm.1, h (by simp [hm.1]) hm.2⟩

/-- an attack survives a change of the board that leaves the attacker where it is and keeps its line to the target
    clear: the argument shared by the king-step lemma and the castling lemma -/
theorem attacked_mono {B B' : Array (Option Spec.Man)} {c : Spec.Color} {g : Nat}
    (h : ∀ a < 64, ∀ man, B.getD a none = some man → man.color = c → Spec.manAttacks B man a g = true →
      B'.getD a none = some man ∧
      ((Spec.onLine a g || Spec.onDiag a g) = true → Spec.clear B a g = true → Spec.clear B' a g = true))
    (hA : Spec.attacked B c g = true) : Spec.attacked B' c g = true := by
  simp only [Spec.attacked, List.any_eq_true] at hA ⊢
  obtain ⟨a, ha, hA⟩ := hA
  refine ⟨a, ha, ?_⟩
  cases hman : B.getD a none with
  | none => simp [hman] at hA
  | some man =>
    simp only [hman, Bool.and_eq_true, beq_iff_eq] at hA
    obtain ⟨h1, h2⟩ := h a (List.mem_range.1 ha) man hman hA.1 hA.2
    simp only [h1, hA.1, beq_self_eq_true, Bool.true_and]
    exact manAttacks_of_clear h2 hA.2

theorem kingStep_inCheck {P : Spec.Pos} {m : Spec.Move} (hsz : P.board.size = 64)
    (huniq : ∀ s < 64, ∀ s' < 64, P.at s = some ⟨P.turn, .king⟩ → P.at s' = some ⟨P.turn, .king⟩ → s = s')
    (hp : Spec.pseudo P m = true) (hk : Spec.kingStepAttacked P m = true) :
    Spec.inCheck (Spec.apply P m).board P.turn = true := by
  unfold Spec.kingStepAttacked at hk
  cases hat : P.at m.frm with
  | none => simp [hat] at hk
  | some man =>
    obtain ⟨col, kind⟩ := man
    cases kind <;> simp only [hat, Bool.false_eq_true] at hk
    simp only [Bool.and_eq_true, Bool.not_eq_true'] at hk
    obtain ⟨hnc, hatt⟩ := hk
    have hp' := hp
    unfold Spec.pseudo at hp'
    simp only [hat, Bool.and_eq_true, decide_eq_true_eq, beq_iff_eq] at hp'
    obtain ⟨⟨⟨⟨hcol, hfl⟩, htl⟩, htg⟩, hpr, _⟩ := hp'
    subst hcol
    have hne : m.frm ≠ m.to := by
      intro e
      rw [← e, hat] at htg
      simp at htg
    have hb : (Spec.apply P m).board =
        (P.board.setIfInBounds m.frm none).setIfInBounds m.to (some ⟨P.turn, .king⟩) := by
      simp only [Spec.apply, hat, hnc, Spec.isEnPassant, hpr, Bool.false_eq_true, if_false]
    have hget : ∀ s, (Spec.apply P m).board.getD s none =
        if m.to = s then some ⟨P.turn, .king⟩ else if m.frm = s then none else P.board.getD s none := by
      intro s
      rw [hb, getD_set _ _ _ _ (by rw [Array.size_setIfInBounds, hsz]; exact htl),
        getD_set _ _ _ _ (by rw [hsz]; exact hfl)]
    have hks : Spec.kingSq (Spec.apply P m).board P.turn = some m.to := by
      refine Atk.kingSq_of_unique htl (by rw [hget, if_pos rfl]) fun y hy hpy => ?_
      rw [hget] at hpy
      by_cases h1 : m.to = y
      · exact h1.symm
      · rw [if_neg h1] at hpy
        by_cases h2 : m.frm = y
        · rw [if_pos h2] at hpy; cases hpy
        · rw [if_neg h2] at hpy
          exact absurd (huniq y hy _ hfl hpy hat).symm h2
    rw [Spec.inCheck, hks]
    -- the attacker is still there and still attacks
    refine attacked_mono (fun a ha64 man hman hcol hatk => ?_) hatt
    have h1 : m.to ≠ a := by
      rintro rfl
      rw [manAttacks_irrefl] at hatk
      cases hatk
    have h2 : m.frm ≠ a := by
      rintro rfl
      rw [show P.board.getD m.frm none = some ⟨P.turn, .king⟩ from hat, Option.some.injEq] at hman
      exact other_ne _ (hman ▸ hcol).symm
    refine ⟨by rw [hget, if_neg h1, if_neg h2, hman], fun hal => clear_mono fun s hs hnone => ?_⟩
    have h3 : m.to ≠ s := by
      rintro rfl
      have := GenGeoO.between_not_end (Atk.to88_mem ha64) (Atk.to88_mem htl)
        (by rwa [Atk.to64_to88 ha64, Atk.to64_to88 htl])
      rw [Atk.to64_to88 ha64, Atk.to64_to88 htl] at this
      exact this hs
    rw [hget, if_neg h3]
    split
    · rfl
    · exact hnone

theorem pseudo'_of_legal {P : Spec.Pos} {m : Spec.Move} (hsz : P.board.size = 64)
    (huniq : ∀ s < 64, ∀ s' < 64, P.at s = some ⟨P.turn, .king⟩ → P.at s' = some ⟨P.turn, .king⟩ → s = s')
    (h : Spec.legal P m = true) : Spec.pseudo' P m = true := by
  simp only [Spec.legal, Bool.and_eq_true, Bool.not_eq_true'] at h
  simp only [Spec.pseudo', h.1, Bool.true_and, Bool.not_eq_true']
  cases hk : Spec.kingStepAttacked P m
  · rfl
  · rw [kingStep_inCheck hsz huniq h.1 hk] at h
    exact absurd h.2 (by simp)

end Magog.KingStep
