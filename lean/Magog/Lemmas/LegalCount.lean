import Magog.Lemmas.CountNoPanic
import Magog.Lemmas.TotalCount
import Magog.Lemmas.CountPerft
import Magog.Props.C09
import Magog.Model.Eval

/-! Specification-level corollaries of C01 + C06: mate / stalemate detection, `countMoves`, the tactical
    generator, and perft, all against `Spec.legalMoves`. -/

set_option autoImplicit false

namespace Magog.LegalCount
open Magog Magog.Model Magog.Atk Magog.Geo Magog.Count Magog.MM Magog.GenPure Magog.GenPseudo
open Magog.LegalMoves Magog.CountInv Magog.CountNoPanic

variable {p : Position}

theorem generate_nil_iff {kt : Killers} (hI : Inv p) (hS : OppSafe p) (hk : kt.size = Gen.killerMovesMaxPly) :
    generateMoves kt p = .ok [] ↔ (Spec.legalMoves (abs p)).isEmpty = true := by
  rw [List.isEmpty_iff_length_eq_zero]
  constructor
  · intro h
    exact (gen_length hI hS h).symm
  · intro h
    obtain ⟨ms, hms⟩ := generateMoves_ok (kt := kt) hI hS hk
    rw [hms, List.eq_nil_of_length_eq_zero ((gen_length hI hS hms).trans h)]

theorem countMoves_spec (hI : Inv p) (hS : OppSafe p) :
    countMoves p = .ok (Spec.legalMoves (abs p)).length := by
  obtain ⟨n, hn⟩ := Total.countMoves_total hI
  obtain ⟨ms, hms⟩ := generateMoves_ok (kt := Killers.empty) hI hS Props.C18.killers_empty_size
  have c := countOk_of_inv hI hS
  rw [hn, countMoves_length c.size c.ep c.pawns c.capture c.king c.castle hms hn, gen_length hI hS hms]

theorem inCheck_spec (hI : Inv p) :
    isCurrentKingUnderCheck p = .ok (Spec.inCheck (abs p).board (abs p).turn) :=
  Props.C09.C09_inCheck p hI.board hI.white hI.black

theorem isCheckMate_spec (hI : Inv p) (hS : OppSafe p) : isCheckMate p = .ok (Spec.isMated (abs p)) := by
  unfold isCheckMate Spec.isMated
  rw [inCheck_spec hI, ok_bind]
  cases Spec.inCheck (abs p).board (abs p).turn
  · simp only [andM_false, Bool.and_false]
  · simp only [andM_true, countMoves_spec hI hS, ok_bind, pure_eq_ok, Bool.and_true]
    generalize Spec.legalMoves (abs p) = l
    cases l <;> rfl

theorem terminalNodeScore_spec (hI : Inv p) (d : Int) :
    terminalNodeScore p d =
      .ok (if Spec.inCheck (abs p).board (abs p).turn then Gen.LostScore + d else (Gen.DrawScore : Int)) := by
  unfold terminalNodeScore
  rw [inCheck_spec hI, ok_bind, pure_eq_ok]

theorem tactical_flag {kt : Killers} {ps : List RMove} (hI : Inv p) (h : genPseudo kt p = .ok ps) :
    ∀ rm ∈ ps, rm.tactical = Spec.isTactical (abs p) (absMove rm.mov) :=
  fun rm hrm => ((genPseudo_spec hI h).1 rm hrm).2.1

/-- Through the full generator: the tactical generator lists the flagged moves of `generateMoves`
    (`generate_tactical_rel`), the flag is `Spec.isTactical` (`tactical_flag`), and the full list is a permutation of
    the legal moves (`legal_perm`). -/
theorem tactical_perm {ts : List RMove} (hI : Inv p) (hS : OppSafe p) (ht : generateTacticalMoves p = .ok ts) :
    (ts.map fun rm => absMove rm.mov).Perm
      ((Spec.legalMoves (abs p)).filter (Spec.isTactical (abs p))) := by
  obtain ⟨ms, hms⟩ := generateMoves_ok (kt := Killers.empty) hI hS Props.C18.killers_empty_size
  obtain ⟨ps, hps, hfil⟩ := generateMoves_inv hI hS hms
  have hrel : ts.map (·.mov) = (ms.filter (·.tactical)).map (·.mov) :=
    generate_tactical_rel (cellsOk_of_inv hI) hms ht
  have hflag : ∀ rm ∈ ms, rm.tactical = Spec.isTactical (abs p) (absMove rm.mov) := fun rm hrm =>
    tactical_flag hI hps rm (by rw [hfil] at hrm; exact (List.mem_filter.1 hrm).1)
  have e1 : (ts.map fun rm => absMove rm.mov) = (ts.map (·.mov)).map absMove := by
    rw [List.map_map]; simp only [Function.comp_def]
  have e2 : ((ms.filter (·.tactical)).map (·.mov)).map absMove =
      (ms.map fun rm => absMove rm.mov).filter (Spec.isTactical (abs p)) := by
    have hc : ms.filter (·.tactical) = ms.filter (fun rm => Spec.isTactical (abs p) (absMove rm.mov)) :=
      List.filter_congr hflag
    have h3 : (ms.filter (fun rm => Spec.isTactical (abs p) (absMove rm.mov))).map (fun rm => absMove rm.mov) =
        (ms.map fun rm => absMove rm.mov).filter (Spec.isTactical (abs p)) := by
      rw [List.filter_map]
      simp only [Function.comp_def]
    calc ((ms.filter (·.tactical)).map (·.mov)).map absMove
        = (ms.filter (·.tactical)).map (fun rm => absMove rm.mov) := by
          rw [List.map_map]; simp only [Function.comp_def]
      _ = (ms.filter (fun rm => Spec.isTactical (abs p) (absMove rm.mov))).map (fun rm => absMove rm.mov) :=
          congrArg _ hc
      _ = _ := h3
  rw [e1, hrel, e2]
  exact (legal_perm hI hS hms).filter _

theorem countTactical_spec (hI : Inv p) (hS : OppSafe p) :
    countTacticalMoves p = .ok ((Spec.legalMoves (abs p)).filter (Spec.isTactical (abs p))).length := by
  obtain ⟨n, hn⟩ := Total.countTacticalMoves_total hI
  obtain ⟨ts, hts⟩ := generateTacticalMoves_ok hI hS
  have c := tcountOk_of_inv hI hS
  have h1 := countTactical_length c.size c.ep c.pawns c.capture c.king hn hts
  have h2 := (tactical_perm hI hS hts).length_eq
  rw [List.length_map] at h2
  rw [hn, h1, h2]

theorem paths_one (P : Spec.Pos) : Spec.paths P 1 = (Spec.legalMoves P).length :=
  sum_map_one _

/-- the common step of the perft-like recursions: a sum over the generated legal moves of a quantity that
    depends on the successor position only through its abstraction -/
theorem sum_over_legal {kt : Killers} {ms : List RMove} (hI : Inv p) (hS : OppSafe p)
    (hms : generateMoves kt p = .ok ms) {f : RMove → M Nat} {g : Spec.Pos → Nat} {n : Nat}
    (h : sumM' f ms = .ok n)
    (hel : ∀ rm ∈ ms, ∀ k, f rm = .ok k →
      ∃ q, makeMove p rm.mov = .ok (q, true) ∧ (Inv q → OppSafe q → k = g (abs q))) :
    n = ((Spec.legalMoves (abs p)).map fun sm => g (Spec.apply (abs p) sm)).sum := by
  have h1 := sumM'_eq_sum (g := fun rm => g (Spec.apply (abs p) (absMove rm.mov))) h (by
    intro rm hrm k hk
    obtain ⟨q, hq, hkq⟩ := hel rm hrm k hk
    have hG := (listed hms hrm).1
    obtain ⟨hIq, hSq⟩ := Props.C02.makeMove_inv hI hS hG hq
    rw [hkq hIq hSq, makeMove_abs' hI hS hG hq])
  have h2 : (ms.map fun rm => g (Spec.apply (abs p) (absMove rm.mov))) =
      (ms.map fun rm => absMove rm.mov).map fun sm => g (Spec.apply (abs p) sm) := by
    rw [List.map_map]; simp only [Function.comp_def]
  rw [h1, h2]
  exact ((legal_perm hI hS hms).map _).sum_nat

theorem perft_succ_spec {kt : Killers} {cap : Nat} :
    ∀ (d idx : Nat) (p : Position) (n : Nat), Inv p → OppSafe p →
      perft kt cap (d + 1) idx p = .ok n → n = Spec.paths (abs p) (d + 1) := by
  intro d
  induction d with
  | zero =>
    intro idx p n hI hS h
    simp only [perft] at h
    rw [countMoves_spec hI hS] at h
    rw [paths_one]
    exact (Except.ok.inj h).symm
  | succ d ih =>
    intro idx p n hI hS h
    simp only [perft, bind_ok] at h
    obtain ⟨ms, hms, h⟩ := h
    rw [Spec.paths]
    refine sum_over_legal (g := fun Q => Spec.paths Q (d + 1)) hI hS hms h ?_
    intro rm _ k hk
    obtain ⟨_, q, hq, hk⟩ := perftBody_ok.1 hk
    exact ⟨q, hq, fun hIq hSq => ih _ q k hIq hSq hk⟩

theorem perft_spec {kt : Killers} {cap d idx n : Nat} (hI : Inv p) (hS : OppSafe p)
    (h : perft kt cap d idx p = .ok n) : n = Spec.paths (abs p) d := by
  cases d with
  | zero =>
    simp only [perft, pure_eq_ok, Except.ok.injEq] at h
    rw [← h]; rfl
  | succ d => exact perft_succ_spec d idx p n hI hS h

theorem perftTactical_succ_spec {kt : Killers} {cap : Nat} :
    ∀ (d idx : Nat) (p : Position) (n : Nat), Inv p → OppSafe p →
      perftTactical kt cap (d + 1) idx p = .ok n → n = Spec.tacticalPaths (abs p) d := by
  intro d
  induction d with
  | zero =>
    intro idx p n hI hS h
    simp only [perftTactical] at h
    rw [countTactical_spec hI hS] at h
    exact (Except.ok.inj h).symm
  | succ d ih =>
    intro idx p n hI hS h
    simp only [perftTactical, bind_ok] at h
    obtain ⟨ms, hms, h⟩ := h
    rw [Spec.tacticalPaths]
    refine sum_over_legal (g := fun Q => Spec.tacticalPaths Q d) hI hS hms h ?_
    intro rm _ k hk
    obtain ⟨_, q, hq, hk⟩ := perftBody_ok.1 hk
    exact ⟨q, hq, fun hIq hSq => ih _ q k hIq hSq hk⟩

/-- `d - 1`: `perftTactical` at depths 0 and 1 is the same leaf count (`perftTactical_zero`), while `Spec.tacticalPaths`
    starts at 0 with the paths of one (tactical) move -/
theorem perftTactical_spec {kt : Killers} {cap d idx n : Nat} (hI : Inv p) (hS : OppSafe p)
    (h : perftTactical kt cap d idx p = .ok n) : n = Spec.tacticalPaths (abs p) (d - 1) := by
  cases d with
  | zero =>
    rw [perftTactical_zero] at h
    exact perftTactical_succ_spec 0 idx p n hI hS h
  | succ d => exact perftTactical_succ_spec d idx p n hI hS h

theorem pathsM_spec {kt : Killers} :
    ∀ (d : Nat) (p : Position) (n : Nat), Inv p → OppSafe p → pathsM kt d p = .ok n → n = Spec.paths (abs p) d := by
  intro d
  induction d with
  | zero =>
    intro p n _ _ h
    simp only [pathsM, pure_eq_ok, Except.ok.injEq] at h
    rw [← h]; rfl
  | succ d ih =>
    intro p n hI hS h
    simp only [pathsM, bind_ok] at h
    obtain ⟨ms, hms, h⟩ := h
    rw [Spec.paths]
    refine sum_over_legal (g := fun Q => Spec.paths Q d) hI hS hms h ?_
    intro rm hrm k hk
    simp only [bind_ok] at hk
    obtain ⟨⟨q, b⟩, hq, hk⟩ := hk
    cases generateMoves_legal hms hrm hq
    exact ⟨q, hq, fun hIq hSq => ih q k hIq hSq hk⟩

end Magog.LegalCount
