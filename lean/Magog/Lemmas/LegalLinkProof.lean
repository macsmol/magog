import Magog.Lemmas.Replay
import Magog.Props.C01

/-! `Replay.LegalLink` holds: every move the rules call legal is denoted by a generated engine move that
    `makeMove` accepts. The pseudo-legal generator is complete for legal moves (`C01.genPseudo_complete_legal`), and
    the verdict of `makeMove` on a generated move is the rules' "the mover's king is not attacked afterwards"
    (`LegalMoves.isLegal_spec`). -/

namespace Magog.Replay
open Magog Magog.Model Magog.Atk Magog.MM

theorem oppSafe_iff {p : Position} (hI : Inv p) :
    OppSafe p ↔ Spec.inCheck (abs p).board (colorOf (!whiteTurn p)) = false := by
  rw [GenPseudo.oppSafe_iff hI, GenPseudo.turn_eq, other_colorOf]

theorem verdict_spec {p p' : Position} {m : Move} {b : Bool} (hI : Inv p) (hS : OppSafe p) (hG : MM.Generated p m)
    (h : makeMove p m = .ok (p', b)) :
    b = !Spec.inCheck (Spec.apply (abs p) (absMove m)).board (abs p).turn := by
  have hl := LegalMoves.isLegal_spec hI hS hG
  unfold isLegal at hl
  rw [h] at hl
  exact Except.ok.inj hl

theorem legalLink : LegalLink := by
  intro p hI hS sm hleg
  obtain ⟨ms, hgen⟩ := Props.C01.genPseudo_ok hI Killers.empty Props.C18.killers_empty_size
  obtain ⟨rm, hrm, he⟩ := Props.C01.genPseudo_complete_legal hI hgen sm hleg
  have hG : MM.Generated p rm.mov := ⟨_, ms, hgen, List.mem_map.mpr ⟨rm, hrm, rfl⟩⟩
  obtain ⟨p', b, hmm, _, _⟩ := makeMove_spec hI hS hG
  have hv := verdict_spec hI hS hG hmm
  rw [he] at hv
  simp only [Spec.legal, Bool.and_eq_true, Bool.not_eq_true'] at hleg
  rw [hleg.2] at hv
  subst hv
  exact ⟨rm.mov, hG, he, p', hmm⟩

end Magog.Replay
