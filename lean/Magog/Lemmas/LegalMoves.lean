import Magog.Props.C02
import Magog.Props.C02Abs
import Magog.Lemmas.GenPseudo
import Magog.Lemmas.CastleSpec
import Mathlib.Data.List.Nodup

/-! What the headline theorems of property C01 ("the moves the engine treats as playable are exactly the legal
    moves, each once") rest on: the engine's king-safety verdict (`isLegal` = `makeMove` on a copy) is the rules'
    (`isLegal_spec`), so the legality filter never panics and is a pure filter (`generateMoves_ok`,
    `generateMoves_eq`); a legal move is a `Spec.pseudo'` move that leaves the mover's king safe
    (`legal_iff_pseudo'`), and the specification's move list is duplicate-free and holds exactly the legal moves
    (`candidates_nodup`, `mem_legalMoves`); hence the two lists are permutations of each other (`legal_perm`).
    Last, a castling move that passes the engine's path test passes the legality filter (`castleSafe_of_inv`).
    Downstream modules also take from here how to get at `Generated`: a member of the pure list `genList` is `Generated`
    (`generated_of_genList`: `CountNoPanic`, `TotalGen`, `TotalMeasure`), a listed move of `generateMoves` is
    `Generated` and accepted by `makeMove` (`listed`), and `makeMove_abs'` is `C02Abs.makeMove_abs` with its king
    hypothesis discharged by `generated_not_king` (`Capstone`, `LegalCount`). -/

set_option autoImplicit false

namespace Magog.LegalMoves
open Magog Magog.Model Magog.Atk Magog.Geo Magog.Count Magog.MM Magog.GenPure Magog.GenPseudo Magog.GenGeoO

/-- `MM.Generated` (C02, invariant half) and `MMAbs.Generated` (C02, abstraction half) are the same predicate -/
theorem generated_iff {p : Position} {m : Move} : MM.Generated p m ↔ MMAbs.Generated p m := Iff.rfl

theorem oppSafe_iff {p : Position} (hI : Inv p) :
    OppSafe p ↔ Spec.inCheck (abs p).board (abs p).turn.other = false :=
  GenPseudo.oppSafe_iff hI

theorem oppSafe_of_legal {p : Position} (hI : Inv p) (hL : Spec.Legal (abs p) = true) : OppSafe p := by
  rw [oppSafe_iff hI]
  simp only [Spec.Legal, Bool.and_eq_true, Bool.not_eq_true'] at hL
  -- the fourth of the fourteen conjuncts of `Spec.Legal`, `!inCheck p.board p.turn.other`: ten follow it
  exact hL.1.1.1.1.1.1.1.1.1.1.2

/-- **The engine's king-safety verdict is the rule's**: for a generated move of a well-formed position
    with the opponent not in check, `isLegal` returns normally and says exactly "after the move, the
    mover is not in check". -/
theorem isLegal_spec {p : Position} {m : Move} (hI : Inv p) (hS : OppSafe p) (hG : Generated p m) :
    isLegal p m = .ok (!(Spec.inCheck (Spec.apply (abs p) (absMove m)).board (abs p).turn)) := by
  obtain ⟨p', b, h, hI', hb⟩ := makeMove_spec hI hS hG
  have hboard := Props.C02Abs.makeMove_abs_board hI hG h
  have hturn : (abs p').turn.other = (abs p).turn := by
    rw [turn_eq, turn_eq, (makeMove_ply_aux h).2, other_colorOf, Bool.not_not]
  have hb' := hb.trans (oppSafe_iff hI')
  rw [hboard, hturn] at hb'
  rw [isLegal_ok_iff.2 ⟨p', h⟩]
  generalize Spec.inCheck (Spec.apply (abs p) (absMove m)).board (abs p).turn = c at hb'
  cases b <;> cases c <;> first | rfl | (simp at hb')

def safeAfter (P : Spec.Pos) (sm : Spec.Move) : Bool := !(Spec.inCheck (Spec.apply P sm).board P.turn)

theorem generated_of_mem {p : Position} {kt : Killers} {ps : List RMove} (h : genPseudo kt p = .ok ps)
    {rm : RMove} (hrm : rm ∈ ps) : Generated p rm.mov :=
  ⟨kt, ps, h, List.mem_map.2 ⟨rm, hrm, rfl⟩⟩

/-- a move of the pure list is a move of a run of the generator -/
theorem generated_of_genList {p : Position} (hI : Inv p) {m : Move} {b : Bool} (h : (m, b) ∈ genList p) :
    Generated p m := by
  obtain ⟨ps, hps, hv⟩ := genPseudo_genList hI Props.C18.killers_empty_size
  rw [← hv] at h
  obtain ⟨rm, hrm, e⟩ := List.mem_map.1 h
  exact ⟨_, ps, hps, List.mem_map.2 ⟨rm, hrm, congrArg Prod.fst e⟩⟩

theorem generateMoves_eq {p : Position} {kt : Killers} {ps : List RMove} (hI : Inv p) (hS : OppSafe p)
    (hps : genPseudo kt p = .ok ps) :
    generateMoves kt p = .ok (ps.filter fun rm => safeAfter (abs p) (absMove rm.mov)) := by
  simp only [generateMoves, hps, ok_bind]
  exact filterM'_of_ok fun rm hrm => isLegal_spec hI hS (generated_of_mem hps hrm)

/-- a listed move of the legal generator is a generated move that `makeMove` accepts, whatever the position -/
theorem listed {p : Position} {kt : Killers} {ms : List RMove} (h : generateMoves kt p = .ok ms) {rm : RMove}
    (hrm : rm ∈ ms) : Generated p rm.mov ∧ ∃ q, makeMove p rm.mov = .ok (q, true) :=
  let ⟨⟨_, hps, hm⟩, hq⟩ := generateMoves_mem h hrm
  ⟨generated_of_mem hps hm, hq⟩

theorem generateMoves_ok {p : Position} {kt : Killers} (hI : Inv p) (hS : OppSafe p)
    (hk : kt.size = Gen.killerMovesMaxPly) : ∃ ms, generateMoves kt p = .ok ms := by
  obtain ⟨ps, hps, _⟩ := genPseudo_genList hI hk
  exact ⟨_, generateMoves_eq hI hS hps⟩

theorem generateMoves_inv {p : Position} {kt : Killers} {ms : List RMove} (hI : Inv p) (hS : OppSafe p)
    (h : generateMoves kt p = .ok ms) :
    ∃ ps, genPseudo kt p = .ok ps ∧ ms = ps.filter fun rm => safeAfter (abs p) (absMove rm.mov) := by
  cases hps : genPseudo kt p with
  | error e => simp [generateMoves, hps] at h
  | ok ps =>
    refine ⟨ps, rfl, ?_⟩
    rw [generateMoves_eq hI hS hps] at h
    exact (Except.ok.inj h).symm

theorem pseudo_mem_iff {p : Position} {kt : Killers} {ps : List RMove} (hI : Inv p)
    (h : genPseudo kt p = .ok ps) (sm : Spec.Move) :
    sm ∈ ps.map (fun rm => absMove rm.mov) ↔ Spec.pseudo' (abs p) sm = true := by
  rw [List.mem_map]
  constructor
  · rintro ⟨rm, hrm, rfl⟩
    exact ((genPseudo_spec hI h).1 rm hrm).1
  · exact (genPseudo_spec hI h).2.1 sm

theorem legal_iff_pseudo' {p : Position} (hI : Inv p) (sm : Spec.Move) :
    Spec.legal (abs p) sm = true ↔ (Spec.pseudo' (abs p) sm = true ∧ safeAfter (abs p) sm = true) := by
  constructor
  · intro h
    refine ⟨GenPseudo.legal_pseudo' (env_of_inv hI Props.C18.killers_empty_size) h, ?_⟩
    simp only [Spec.legal, Bool.and_eq_true] at h
    exact h.2
  · rintro ⟨h1, h2⟩
    simp only [Spec.legal, Bool.and_eq_true]
    exact ⟨Spec.pseudo_of_pseudo' h1, h2⟩

/-- `Spec.candidates` (64 × 64 × 5 moves) has no duplicates — structurally, not by evaluation -/
theorem candidates_nodup : Spec.candidates.Nodup := by
  unfold Spec.candidates Spec.allSq
  refine nodup_flatMap_keyed (orig := id) (key := Spec.Move.frm) (by rw [List.map_id]; exact List.nodup_range)
    (fun a _ => ?_) (fun a _ b hb => ?_)
  · refine nodup_flatMap_keyed (orig := id) (key := Spec.Move.to) (by rw [List.map_id]; exact List.nodup_range)
      (fun b _ => ?_) (fun b _ m hm => ?_)
    · exact List.Nodup.map_on (fun x _ y _ h => by cases h; rfl) (by decide : Spec.promos.Nodup)
    · obtain ⟨pr, _, rfl⟩ := List.mem_map.1 hm; rfl
  · obtain ⟨b', _, hm⟩ := List.mem_flatMap.1 hb
    obtain ⟨pr, _, rfl⟩ := List.mem_map.1 hm; rfl

theorem mem_candidates {m : Spec.Move} : m ∈ Spec.candidates ↔ m.frm < 64 ∧ m.to < 64 ∧ m.promo ∈ Spec.promos := by
  simp only [Spec.candidates, Spec.allSq, List.mem_flatMap, List.mem_map, List.mem_range]
  constructor
  · rintro ⟨a, ha, b, hb, pr, hpr, rfl⟩
    exact ⟨ha, hb, hpr⟩
  · rintro ⟨h1, h2, h3⟩
    exact ⟨m.frm, h1, m.to, h2, m.promo, h3, rfl⟩

theorem pseudo_candidate {P : Spec.Pos} {m : Spec.Move} (h : Spec.pseudo P m = true) : m ∈ Spec.candidates := by
  rw [mem_candidates]
  unfold Spec.pseudo at h
  cases hat : P.at m.frm with
  | none => simp [hat] at h
  | some man =>
    simp only [hat, Bool.and_eq_true, decide_eq_true_eq] at h
    obtain ⟨⟨⟨⟨_, h1⟩, h2⟩, _⟩, hk⟩ := h
    refine ⟨h1, h2, ?_⟩
    obtain ⟨c, k⟩ := man
    cases k
    · -- pawn
      simp only [Bool.and_eq_true] at hk
      have hp := hk.1.1
      split at hp
      · simp only [Bool.or_eq_true, beq_iff_eq] at hp
        rcases hp with ((hp | hp) | hp) | hp <;> rw [hp] <;> decide
      · rw [beq_iff_eq] at hp; rw [hp]; decide
    all_goals
      simp only [Bool.and_eq_true, beq_iff_eq] at hk
      rw [hk.1]; decide

theorem legalMoves_nodup (P : Spec.Pos) : (Spec.legalMoves P).Nodup :=
  List.Nodup.filter _ candidates_nodup

theorem mem_legalMoves {P : Spec.Pos} {m : Spec.Move} : m ∈ Spec.legalMoves P ↔ Spec.legal P m = true := by
  simp only [Spec.legalMoves, List.mem_filter]
  constructor
  · exact fun h => h.2
  · intro h
    refine ⟨pseudo_candidate (P := P) ?_, h⟩
    simp only [Spec.legal, Bool.and_eq_true] at h
    exact h.1

theorem legal_perm {p : Position} {kt : Killers} {ms : List RMove} (hI : Inv p) (hS : OppSafe p)
    (h : generateMoves kt p = .ok ms) :
    (ms.map fun rm => absMove rm.mov).Perm (Spec.legalMoves (abs p)) := by
  obtain ⟨ps, hps, hms⟩ := generateMoves_inv hI hS h
  have e : ms.map (fun rm => absMove rm.mov) =
      (ps.map fun rm => absMove rm.mov).filter (safeAfter (abs p)) := by
    rw [hms, List.filter_map]; simp only [Function.comp_def]
  rw [e, List.perm_ext_iff_of_nodup (List.Nodup.filter _ (genPseudo_spec hI hps).2.2) (legalMoves_nodup _)]
  intro sm
  rw [mem_legalMoves, legal_iff_pseudo' hI, List.mem_filter, pseudo_mem_iff hI hps]

/-- the generator lists as many moves as the rules allow -/
theorem gen_length {p : Position} {kt : Killers} {ms : List RMove} (hI : Inv p) (hS : OppSafe p)
    (h : generateMoves kt p = .ok ms) : ms.length = (Spec.legalMoves (abs p)).length := by
  rw [← (legal_perm hI hS h).length_eq, List.length_map]

theorem castle_generated {p : Position} (hI : Inv p) :
    (p.ctx.qOk = true → castleQOk p p.ctx = .ok true →
      Generated p ⟨p.ctx.cur.king, castleQTo p.ctx, 0, InvalidSq⟩) ∧
    (p.ctx.kOk = true → castleKOk p p.ctx = .ok true →
      Generated p ⟨p.ctx.cur.king, castleKTo p.ctx, 0, InvalidSq⟩) := by
  have env := env_of_inv hI Props.C18.killers_empty_size
  have key : ∀ {m : Move}, (m, false) ∈ castleList p.board p.ctx (whiteTurn p) → Generated p m := fun h =>
    generated_of_genList hI (List.mem_append_right _ h)
  obtain ⟨_, t2, _, t1⟩ := castle_bytes (whiteTurn p)
  constructor
  · intro h1 h2
    obtain ⟨hk, _⟩ := env.castleQ h1
    have hc := Except.ok.inj ((castleQOk_eq env hk).symm.trans h2)
    refine key (List.mem_append_left _ ?_)
    rw [h1, hc, castleQTo, hk, t2]
    exact List.mem_singleton.2 rfl
  · intro h1 h2
    obtain ⟨hk, _⟩ := env.castleK h1
    have hc := Except.ok.inj ((castleKOk_eq env hk).symm.trans h2)
    refine key (List.mem_append_right _ ?_)
    rw [h1, hc, castleKTo, hk, t1]
    exact List.mem_singleton.2 rfl

theorem castle_isLegal {p : Position} {m : Move} (hI : Inv p) (hS : OppSafe p) (hG : Generated p m)
    (hfrm : m.frm = p.ctx.cur.king)
    (hfar : (Spec.adiff (Spec.fileOf (to64 m.frm)) (Spec.fileOf (to64 m.to)) == 2) = true) :
    isLegal p m = .ok true := by
  have env := env_of_inv hI Props.C18.killers_empty_size
  obtain ⟨hx, hcell⟩ := king_mem env
  have hat : (abs p).at (absMove m).frm = some ⟨(abs p).turn, .king⟩ := by
    show (abs p).at (to64 m.frm) = _
    rw [hfrm, at_eq env hx, hcell, turn_eq]; exact decode_king _
  have hin := CastleSpec.castle_not_inCheck (P := abs p) (absBoard_size p.board) hat
    (fun s hs h => abs_unique_king env s hs _ (by show to64 m.frm < 64; rw [hfrm]; exact to64_lt hx) h hat)
    (Spec.pseudo_of_pseudo' (generated_pseudo hI hG))
    (by simp only [Spec.isCastle, hat]; exact hfar)
  rw [isLegal_spec hI hS hG, hin]
  rfl

/-- **`CastleSafe` holds on every well-formed position**: once the engine's castling path test passes,
    the castling move also passes the `isLegal` filter (so `countMoves`, which counts it on the path test
    alone, and the generator agree). -/
theorem castleSafe_of_inv {p : Position} (hI : Inv p) (hS : OppSafe p) : CastleSafe p := by
  have env := env_of_inv hI Props.C18.killers_empty_size
  obtain ⟨f1, f2⟩ := castle_far (whiteTurn p)
  obtain ⟨_, t2, _, t1⟩ := castle_bytes (whiteTurn p)
  refine ⟨fun h1 h2 => ?_, fun h1 h2 => ?_⟩
  · refine castle_isLegal hI hS ((castle_generated hI).1 h1 h2) rfl ?_
    show (Spec.adiff (Spec.fileOf (to64 p.ctx.cur.king)) (Spec.fileOf (to64 (castleQTo p.ctx))) == 2) = true
    rw [castleQTo, (env.castleQ h1).1, t2]
    exact f1
  · refine castle_isLegal hI hS ((castle_generated hI).2 h1 h2) rfl ?_
    show (Spec.adiff (Spec.fileOf (to64 p.ctx.cur.king)) (Spec.fileOf (to64 (castleKTo p.ctx))) == 2) = true
    rw [castleKTo, (env.castleK h1).1, t1]
    exact f2

theorem makeMove_abs' {p : Position} {m : Move} {p' : Position} {b : Bool} (hI : Inv p) (hS : OppSafe p)
    (hG : Generated p m) (h : makeMove p m = .ok (p', b)) : abs p' = Spec.apply (abs p) (absMove m) :=
  Props.C02Abs.makeMove_abs hI hG (generated_not_king hI hS hG) h

end Magog.LegalMoves
