import Magog.Lemmas.MateWitness
import Magog.Lemmas.GenExamples

/-! Concrete witnesses (kernel-evaluated runs of the model) for the non-vacuity examples of the C01 / C06
    specification-level theorems: a mated position (fool's mate), a stalemate position, king and pawn against king
    (with its perft counts), and `OppSafe` of the two C06 witnesses. -/

set_option autoImplicit false

namespace Magog.LegalWitness
open Magog Magog.Model Magog.Count Magog.MM Magog.Lemmas.AlphaBeta

/-- injectivity of `.ok`, as a plain lemma (no `whnf` on the arguments, which may be closed model runs) -/
theorem ok_inj {α} {a b : α} (h : (Except.ok a : M α) = .ok b) : a = b := by cases h; rfl

/-- fool's mate (1. f3 e5 2. g4 Qh4#, White to move) is well-formed -/
theorem inv_foolsMate : Inv foolsMate := (ofFen_good _).1

theorem oppSafe_foolsMate : OppSafe foolsMate := (ofFen_good _).2

/-- Black Kh8, White Qf7 Kg6, Black to move: stalemate -/
def stalematePos : Position := ofFen "7k/5Q2/6K1/8/8/8/8/8 b - - 0 1"

theorem stalematePos_eq : stalematePos =
    { board := #[0, 0, 0, 0, 0, 0, 0, 0, 0, 0, 0, 0, 0, 0, 0, 0, 0, 0, 0, 0, 0, 0, 0, 0, 0, 0, 0, 0, 0, 0, 0, 0,
      0, 0, 0, 0, 0, 0, 0, 0, 0, 0, 0, 0, 0, 0, 0, 0, 0, 0, 0, 0, 0, 0, 0, 0, 0, 0, 0, 0, 0, 0, 0, 0, 0, 0, 0, 0,
      0, 0, 0, 0, 0, 0, 0, 0, 0, 0, 0, 0, 0, 0, 0, 0, 0, 0, 160, 0, 0, 0, 0, 0, 0, 0, 0, 0, 0, 0, 0, 0, 0, 144, 0,
      0, 0, 0, 0, 0, 0, 0, 0, 0, 0, 0, 0, 0, 0, 0, 0, 96, 0, 0, 0, 0, 0, 0, 0, 0], blackPieces := [], whitePieces
      := [101], blackPawns := [], whitePawns := [], blackKing := 119, whiteKing := 86, flags := 0, ep := 136, ply
      := 1 } := by
  decide +kernel

theorem inv_stalematePos : Inv stalematePos := (ofFen_good _).1

theorem oppSafe_stalematePos : OppSafe stalematePos := (ofFen_good _).2

set_option maxRecDepth 100000 in
theorem stale_gen : generateMoves Killers.empty stalematePos = .ok [] :=
  okIs_movs_nil (by rw [stalematePos_eq]; decide +kernel)

theorem stale_check : isCurrentKingUnderCheck stalematePos = .ok false :=
  okIs_eq (by rw [stalematePos_eq]; decide +kernel)

set_option maxRecDepth 100000 in
theorem oppSafe_c06Witness : OppSafe c06Witness := GenExamples.c06Witness_oppSafe

set_option maxRecDepth 100000 in
theorem oppSafe_c06PromoWitness : OppSafe c06PromoWitness := GenExamples.c06PromoWitness_oppSafe

/-- king and pawn against king (White Ka1 Pa2, Black Kh8, White to move) -/
theorem inv_kpaPos : Inv kpaPos := (ofFen_good _).1

theorem oppSafe_kpaPos : OppSafe kpaPos := (ofFen_good _).2

set_option maxRecDepth 100000 in
/-- perft 2 there: 4 white moves (Kb1, Kb2, a3, a4) × 3 black replies -/
theorem kpa_perft2 : perft Killers.empty 200 2 0 kpaPos = .ok 12 :=
  okVal_eq_some (by rw [kpaPos_eq]; decide +kernel)

set_option maxRecDepth 100000 in
theorem kpa_perft3 : perft Killers.empty 200 3 0 kpaPos = .ok 69 :=
  okVal_eq_some (by rw [kpaPos_eq]; decide +kernel)

end Magog.LegalWitness
