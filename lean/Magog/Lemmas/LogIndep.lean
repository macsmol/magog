import Magog.Lemmas.SearchIter

/-! Independence of the analysis from the logging option `currmoveLogInterval` (`env.logInterval`): two runs
    of the search under environments that differ only in that option go through states that agree in every
    field except `out`, and their `out`s agree after dropping the `currmove` events (simulation `Sim`). -/

namespace Magog.Model
open Magog

def noCurr (l : List Event) : List Event := l.filter (fun e => !e.isCurrmove)

theorem noCurr_cons_currmove (m : Move) (k n : Nat) (l : List Event) : noCurr (.currmove m k n :: l) = noCurr l := rfl

theorem noCurr_cons_of_not {e : Event} {l : List Event} (h : e.isCurrmove = false) :
    noCurr (e :: l) = e :: noCurr l := by
  simp [noCurr, h]

structure Sim (s s2 : SS) : Prop where
  rows : s2.rows = s.rows
  killers : s2.killers = s.killers
  nodes : s2.nodes = s.nodes
  interrupted : s2.interrupted = s.interrupted
  tick : s2.tick = s.tick
  matched : s2.matched = s.matched
  cand : s2.cand = s.cand
  rootMoves : s2.rootMoves = s.rootMoves
  firstMoveIdx : s2.firstMoveIdx = s.firstMoveIdx
  out : noCurr s2.out = noCurr s.out

theorem Sim.refl (s : SS) : Sim s s := ⟨rfl, rfl, rfl, rfl, rfl, rfl, rfl, rfl, rfl, rfl⟩

theorem Sim.symm {a b : SS} (h : Sim a b) : Sim b a :=
  ⟨h.rows.symm, h.killers.symm, h.nodes.symm, h.interrupted.symm, h.tick.symm, h.matched.symm, h.cand.symm,
   h.rootMoves.symm, h.firstMoveIdx.symm, h.out.symm⟩

theorem Sim.trans {a b c : SS} (h1 : Sim a b) (h2 : Sim b c) : Sim a c :=
  ⟨h2.rows.trans h1.rows, h2.killers.trans h1.killers, h2.nodes.trans h1.nodes,
   h2.interrupted.trans h1.interrupted, h2.tick.trans h1.tick, h2.matched.trans h1.matched, h2.cand.trans h1.cand,
   h2.rootMoves.trans h1.rootMoves, h2.firstMoveIdx.trans h1.firstMoveIdx, h2.out.trans h1.out⟩

theorem Sim.repr {s s2 : SS} (h : Sim s s2) : s2 = { s with out := s2.out } := by
  obtain ⟨h1, h2, h3, h4, h5, h6, h7, h8, h9, _⟩ := h
  cases s; cases s2
  simp only at h1 h2 h3 h4 h5 h6 h7 h8 h9
  subst h1 h2 h3 h4 h5 h6 h7 h8 h9
  rfl

theorem Sim.of_repr {s : SS} {o : List Event} (ho : noCurr o = noCurr s.out) : Sim s { s with out := o } :=
  ⟨rfl, rfl, rfl, rfl, rfl, rfl, rfl, rfl, rfl, ho⟩

theorem Sim.upd {s s2 : SS} (h : Sim s s2) (U : SS → SS) (hU : ∀ s o, U { s with out := o } = { U s with out := o })
    (hout : ∀ s, (U s).out = s.out) : Sim (U s) (U s2) := by
  have e : U s2 = { U s with out := s2.out } := by
    have := hU s s2.out
    rw [← h.repr] at this
    exact this
  rw [e]
  have ho : noCurr s2.out = noCurr (U s).out := by rw [hout s]; exact h.out
  exact Sim.of_repr ho

theorem Sim.push {s s2 : SS} (h : Sim s s2) (e : Event) (he : e.isCurrmove = false) :
    Sim { s with out := e :: s.out } { s2 with out := e :: s2.out } :=
  ⟨h.rows, h.killers, h.nodes, h.interrupted, h.tick, h.matched, h.cand, h.rootMoves, h.firstMoveIdx,
   by show noCurr (e :: s2.out) = noCurr (e :: s.out)
      rw [noCurr_cons_of_not he, noCurr_cons_of_not he, h.out]⟩

structure LogAgree (env env' : Env) : Prop where
  blend : env'.blend = env.blend
  sortFn : env'.sortFn = env.sortFn
  timeUp : env'.timeUp = env.timeUp
  stopAt : env'.stopAt = env.stopAt
  gateOpen : env'.gateOpen = env.gateOpen
  lazy : env'.lazy = env.lazy
  stackCap : env'.stackCap = env.stackCap
  nz : env'.logInterval ≠ 0

theorem logAgree_of_eq {env env' : Env} (hnz : env'.logInterval ≠ 0)
    (h : env' = { env with logInterval := env'.logInterval }) : LogAgree env env' := by
  refine ⟨?_, ?_, ?_, ?_, ?_, ?_, ?_, hnz⟩ <;> rw [h]

theorem qLog_self {env : Env} {s r : SS} (h : qLog env s = .ok r) : Sim s r := by
  obtain ⟨_, rfl, rfl | ⟨_, _, _, rfl⟩⟩ := qLog_out h
  · exact Sim.refl _
  · exact Sim.of_repr (noCurr_cons_currmove _ _ _ _)

theorem qLog_total {env : Env} (hnz : env.logInterval ≠ 0) {s : SS} (hin : InRange s) : ∃ r, qLog env s = .ok r := by
  by_cases h0 : Int.tmod s.nodes env.logInterval = 0
  · exact ⟨_, qLog_ok.2 ⟨hnz, .inl ⟨h0, _, List.getElem?_eq_getElem hin, rfl⟩⟩⟩
  · exact ⟨_, qLog_ok.2 ⟨hnz, .inr ⟨h0, rfl⟩⟩⟩

theorem LogAgree.simRel {env env' : Env} (ag : LogAgree env env') (hi : Nat) : SimRelD env env' hi InRange Sim where
  blend := ag.blend
  sortFn := ag.sortFn
  lazy := ag.lazy
  stackCap := ag.stackCap
  oracle n _ := ⟨by rw [ag.timeUp], by rw [ag.stopAt], by rw [ag.gateOpen]⟩
  same h := ⟨_, h.repr⟩
  consult h := h.upd SS.consult (fun _ _ => rfl) (fun _ => rfl)
  nodes h := h.upd (fun s => { s with nodes := s.nodes + 1 }) (fun _ _ => rfl) (fun _ => rfl)
  killers k h := h.upd (fun s => { s with killers := k }) (fun _ _ => rfl) (fun _ => rfl)
  rows r h := h.upd (fun s => { s with rows := r }) (fun _ _ => rfl) (fun _ => rfl)
  matched m h := h.upd (fun s => { s with matched := m }) (fun _ _ => rfl) (fun _ => rfl)
  rootMoves m h := h.upd (fun s => { s with rootMoves := m }) (fun _ _ => rfl) (fun _ => rfl)
  firstMoveIdx i h := h.upd (fun s => { s with firstMoveIdx := i }) (fun _ _ => rfl) (fun _ => rfl)
  interrupt _ h := h.upd (fun s => { s with interrupted := true }) (fun _ _ => rfl) (fun _ => rfl)
  infoPv _ _ _ _ _ h := h.push _ rfl
  log := by
    -- both logging steps only add `currmove` lines; the second cannot panic because the root move is in range
    intro s s2 r h hin hq
    have hin2 : InRange s2 := by unfold InRange at *; rw [h.rootMoves, h.firstMoveIdx]; exact hin
    obtain ⟨r2, hr2⟩ := qLog_total ag.nz hin2
    exact ⟨r2, hr2, (qLog_self hq).symm.trans (h.trans (qLog_self hr2))⟩
  keep hin k := by unfold InRange at *; rw [k.1, k.2]; exact hin
  inRange h := h
  cand c h := h.upd (fun s => { s with cand := c, matched := 0 }) (fun _ _ => rfl) (fun _ => rfl)
  push e he h := h.push e he

/-- The run under `env'` cannot hit the index panic of the `currmove` line: inside the search `firstMoveIdx` always
    points into `rootMoves`. -/
theorem iterDeep_simL {env env' : Env} (ag : LogAgree env env') {qfuel : Nat} {p : Position} {maxDepth : Nat}
    {killers : Killers} {rows : Array (Array Move)} {len0 : Nat} {s : SS}
    (h : iterDeep env qfuel p maxDepth killers rows len0 = .ok s) :
    ∃ s', iterDeep env' qfuel p maxDepth killers rows len0 = .ok s' ∧ Sim s s' :=
  (ag.simRel s.tick).sim_iterDeep (Sim.refl _) h (Nat.le_refl _)

theorem iterDeep_sim_best {env env' : Env} (ag : LogAgree env env') {qfuel : Nat} {p : Position} {maxDepth : Nat}
    {killers : Killers} {rows : Array (Array Move)} {len0 : Nat} {s : SS}
    (h : iterDeep env qfuel p maxDepth killers rows len0 = .ok s)
    {m : Move} {best : Int} {D n : Nat} {pv : List Move} {rest : List Event}
    (hout : s.out = .bestmove m :: .infoPv best D n pv :: rest) :
    ∃ s' rest', iterDeep env' qfuel p maxDepth killers rows len0 = .ok s' ∧
      s'.out = .bestmove m :: .infoPv best D n pv :: rest' ∧ noCurr rest' = noCurr rest := by
  obtain ⟨s', h', sim⟩ := iterDeep_simL ag h
  have ho := sim.out
  rw [hout, noCurr_cons_of_not rfl, noCurr_cons_of_not rfl] at ho
  obtain ⟨score, one, l, s1, _, hc⟩ := iterDeep_cases h'
  rcases hc with ⟨_, rfl⟩ | ⟨_, best', D', s2, m', tl, _, _, rfl⟩
  · have ho' : noCurr (Event.bestmoveNone :: Event.infoTerminal score :: s1.out) = _ := ho
    rw [noCurr_cons_of_not rfl] at ho'
    cases (List.cons.inj ho').1
  · have ho' : noCurr (Event.bestmove m' :: Event.infoPv best' D' s2.nodes s2.cand :: s2.out) = _ := ho
    rw [noCurr_cons_of_not rfl, noCurr_cons_of_not rfl] at ho'
    obtain ⟨e1, ho'⟩ := List.cons.inj ho'
    obtain ⟨e2, ho'⟩ := List.cons.inj ho'
    refine ⟨_, s2.out, h', ?_, ho'⟩
    show Event.bestmove m' :: Event.infoPv best' D' s2.nodes s2.cand :: s2.out = _
    rw [e1, e2]

/-- number of `currmove` lines, total number of output lines, node count of a run (for the examples of
    `Props/C14Log.lean`) -/
def runStats : M SS → Option (Nat × Nat × Nat)
  | .ok s => some ((s.out.filter Event.isCurrmove).length, s.out.length, s.nodes)
  | .error _ => none

end Magog.Model
