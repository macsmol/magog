import Magog.Model.Defs

/-! The facts about `M = Except Panic` that every proof about the model uses: what `pure`, `throw`, a bind,
    a conditional and a `map` reduce to, and when each of them returns `.ok r`. -/

namespace Magog.Model

theorem pure_eq_ok {α} (a : α) : (pure a : M α) = .ok a := rfl
theorem throw_eq_error {α} (e : Panic) : (throw e : M α) = .error e := rfl

@[simp] theorem ok_bind {α β} (a : α) (f : α → M β) : ((Except.ok a : M α) >>= f) = f a := rfl

theorem bind_ok' {α β} {x : M α} {a : α} (f : α → M β) (h : x = .ok a) : (x >>= f) = f a := by
  rw [h, ok_bind]

theorem M.throw_bind {α β} (e : Panic) (k : α → M β) : (throw e : M α) >>= k = throw e := rfl

/-- `do`-notation shares the code after an `if` between the branches (a join point called in both); this
    brings a bind over a conditional into that form -/
theorem M.ite_bind {α β} {c : Prop} [Decidable c] (a b : M α) (k : α → M β) :
    (if c then a else b) >>= k = if c then a >>= k else b >>= k := by
  split <;> rfl

theorem bind_ok {α β} {x : M α} {f : α → M β} {r : β} :
    (x >>= f) = .ok r ↔ ∃ a, x = .ok a ∧ f a = .ok r := by
  cases x <;> simp [bind, Except.bind]

theorem map_ok {α β} {x : M α} {f : α → β} {b : β} : x.map f = .ok b ↔ ∃ a, x = .ok a ∧ f a = b := by
  cases x <;> simp [Except.map]

theorem pure_ok {α} {a r : α} : (pure a : M α) = .ok r ↔ a = r := by
  simp [pure, Except.pure]

theorem pure_ok' {α} {a r : α} : (pure a : M α) = .ok r ↔ r = a := pure_ok.trans eq_comm

theorem throw_ok {α} {e : Panic} {r : α} : (throw e : M α) = .ok r ↔ False := by
  simp [throw, throwThe, MonadExceptOf.throw]

theorem ite_ok {α} {c : Prop} [Decidable c] {x y : M α} {r : α} :
    (if c then x else y) = .ok r ↔ c ∧ x = .ok r ∨ ¬c ∧ y = .ok r := by
  split <;> simp [*]

/-- a second run takes the same branch of a conditional as a successful first run -/
theorem ite_sim {α β ρ} {c : Prop} [Decidable c] {x y : M α} {x' y' : M β} {a : α} {g : ρ → β} {P : ρ → Prop}
    (h : (if c then x else y) = .ok a) (h1 : c → x = .ok a → ∃ r, x' = .ok (g r) ∧ P r)
    (h2 : ¬ c → y = .ok a → ∃ r, y' = .ok (g r) ∧ P r) : ∃ r, (if c then x' else y') = .ok (g r) ∧ P r := by
  by_cases hc : c
  · rw [if_pos hc] at h ⊢; exact h1 hc h
  · rw [if_neg hc] at h ⊢; exact h2 hc h

theorem ite_total {α} {c : Prop} [Decidable c] {x y : M α} {P : α → Prop} (h1 : c → ∃ r, x = .ok r ∧ P r)
    (h2 : ¬ c → ∃ r, y = .ok r ∧ P r) : ∃ r, (if c then x else y) = .ok r ∧ P r := by
  by_cases hc : c
  · rw [if_pos hc]; exact h1 hc
  · rw [if_neg hc]; exact h2 hc

/-- a computation succeeds with a result that passes the test `f`: the form in which a fact about a closed run is
    handed to the kernel when the fact is a Boolean test of the result (`show okAnd' f run = true by decide +kernel`,
    then `okAnd'_elim`); where the fact is the result itself the statements use `Count.okVal run = some v`. Any error
    type, so it nests: the FEN loader returns `M (Except FenError Position)`. -/
def okAnd' {ε α} (f : α → Bool) (x : Except ε α) : Bool :=
  match x with
  | .ok a => f a
  | .error _ => false

/-- about a variable `x`: applied to a closed run it matches the run and never unfolds it -/
theorem okAnd'_elim {ε α} {f : α → Bool} {x : Except ε α} (h : okAnd' f x = true) : ∃ a, x = .ok a ∧ f a = true := by
  cases x with
  | error e => cases h
  | ok a => exact ⟨a, rfl, h⟩

theorem okAnd'_elim₂ {ε ε' α} {f : α → Bool} {x : Except ε (Except ε' α)} (h : okAnd' (okAnd' f) x = true) :
    ∃ a, x = .ok (.ok a) ∧ f a = true := by
  obtain ⟨r, hr, h⟩ := okAnd'_elim h
  obtain ⟨a, ha, h⟩ := okAnd'_elim h
  exact ⟨a, by rw [hr, ha], h⟩

/-! ### reads and writes of an array: `[i]?`, `getD`, `setIfInBounds`, and the board's `bget` / `bset` -/

theorem getD_of_some {α} {b : Array α} {i : Nat} {v d : α} (h : b[i]? = some v) : b.getD i d = v := by
  simp [Array.getD_eq_getD_getElem?, h]

theorem some_getD {α} {b : Array α} {i : Nat} (h : i < b.size) (d : α) : b[i]? = some (b.getD i d) := by
  simp [Array.getD_eq_getD_getElem?, h]

theorem getElem?_iff_getD {α} {b : Array α} {i : Nat} {v d : α} (h : i < b.size) : b[i]? = some v ↔ b.getD i d = v := by
  rw [some_getD h d, Option.some.injEq]

theorem getD_set {α} {d : α} (b : Array α) (i : Nat) (v : α) (j : Nat) (hi : i < b.size) :
    (b.setIfInBounds i v).getD j d = if i = j then v else b.getD j d := by
  simp only [Array.getD_eq_getD_getElem?, Array.getElem?_setIfInBounds, hi, if_true]
  split <;> simp

theorem bget_eq (b : Array Nat) (i : Nat) :
    bget b i = match b[i]? with | some x => .ok x | none => .error (.index "board" i) := by
  unfold bget
  by_cases h : i < b.size
  · simp [h, pure_eq_ok]
  · simp [h, throw_eq_error]

theorem bget_ok_iff {b : Array Nat} {i x : Nat} : bget b i = .ok x ↔ b[i]? = some x := by
  rw [bget_eq]
  cases b[i]? <;> simp

theorem bgetI_nat (b : Array Nat) (n : Nat) : bgetI b (n : Int) = bget b n := by
  unfold bgetI
  rw [if_neg (by omega)]
  simp

theorem bset_ok_iff {b b' : Array Nat} {i v : Nat} :
    bset b i v = .ok b' ↔ i < b.size ∧ b' = b.setIfInBounds i v := by
  unfold bset
  by_cases h : i < b.size
  · simp [h, pure_eq_ok, eq_comm]
  · simp [h, throw_eq_error]

end Magog.Model
