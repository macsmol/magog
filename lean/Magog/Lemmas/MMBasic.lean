import Magog.Lemmas.Count
import Magog.Lemmas.GenGeometry

/-! `makeMove` taken apart, with no assumption on the position: the colour-dependent constants named by
    the mover's colour (with them `GetCurrentContext`: `ctxW`, `ctx_eq`), `makeMove` as the composition of its four
    stages (`makeMove_ok_iff`), and for each stage one equation per branch, selected by what stands on the squares
    the stage reads. -/

namespace Magog.MM
open Magog Magog.Model Magog.Count

def colorBit (w : Bool) : Nat := if w then WhiteBit else BlackBit
def homeRank (w : Bool) : Nat := if w then Gen.Rank1 else Gen.Rank8
def flagK (w : Bool) : Nat := if w then FWK else FBK
def flagQ (w : Bool) : Nat := if w then FWQ else FBQ

/-- what `GetCurrentContext` returns when the side of colour `w` is to move -/
def ctxW (w : Bool) (p : Position) : Ctx :=
  { cur := p.side w, en := p.side (!w), adv := GenGeoO.advOf w, curBit := colorBit w, enBit := colorBit (!w),
    qOk := p.flags &&& flagQ w != 0, kOk := p.flags &&& flagK w != 0,
    startRank := GenGeoO.startRankOf w, promoRank := GenGeoO.promoRankOf w }

theorem ctx_eq (p : Position) : p.ctx = ctxW (whiteTurn p) p := by
  unfold Position.ctx ctxW
  cases whiteTurn p <;> rfl

theorem promoRankOf_eq (w : Bool) : GenGeoO.promoRankOf w = homeRank (!w) := by cases w <;> rfl

theorem bset_of_lt {B : Array Nat} {i : Nat} (h : i < B.size) (v : Nat) : bset B i v = .ok (B.setIfInBounds i v) :=
  bset_ok_iff.2 ⟨h, rfl⟩

/-- The record `makeMove` builds for a move of the side of colour `w`: `cur`, `en` are the mover's and the opponent's
    lists after the move; of `p` only the ply is read. -/
def mkPos (p : Position) (w : Bool) (B : Array Nat) (cur en : Side) (flags ep : Nat) : Position :=
  if w then
    { board := B, whitePieces := cur.pieces, whitePawns := cur.pawns, whiteKing := cur.king,
      blackPieces := en.pieces, blackPawns := en.pawns, blackKing := en.king,
      flags, ep, ply := wrap16 (p.ply + 1) }
  else
    { board := B, blackPieces := cur.pieces, blackPawns := cur.pawns, blackKing := cur.king,
      whitePieces := en.pieces, whitePawns := en.pawns, whiteKing := en.king,
      flags, ep, ply := wrap16 (p.ply + 1) }

@[simp] theorem mkPos_board (p w B cur en f e) : (mkPos p w B cur en f e).board = B := by
  unfold mkPos; split <;> rfl
@[simp] theorem mkPos_flags (p w B cur en f e) : (mkPos p w B cur en f e).flags = f := by
  unfold mkPos; split <;> rfl
@[simp] theorem mkPos_ep (p w B cur en f e) : (mkPos p w B cur en f e).ep = e := by
  unfold mkPos; split <;> rfl
@[simp] theorem mkPos_ply (p w B cur en f e) : (mkPos p w B cur en f e).ply = wrap16 (p.ply + 1) := by
  unfold mkPos; split <;> rfl
theorem mkPos_side_cur (p w B cur en f e) : (mkPos p w B cur en f e).side w = cur := by
  cases w <;> rfl
theorem mkPos_side_en (p w B cur en f e) : (mkPos p w B cur en f e).side (!w) = en := by
  cases w <;> rfl

/-- The flags `makeMove` stores, from the flags `f1` that `mmMover` returns (a king move has cleared the mover's two
    rights there): the clearing by corner squares, then the turn bit. -/
def newFlags (w : Bool) (f1 : Nat) (m : Move) : Nat :=
  mmCorners f1 m (homeRank w) (homeRank (!w)) (flagK w) (flagQ w) (flagK (!w)) (flagQ (!w)) ^^^ FWhiteTurn

/-- `makeMove` with the mover's colour as a parameter (`makeMove_eq_W`): the colour-dependent constants are the
    functions of `w` above, the flag computation is `newFlags`, the result record `mkPos`. The `MM*` files work
    from the stage equations of `makeMove_ok_iff` / `makeMove_eq`. -/
def makeMoveW (w : Bool) (p : Position) (m : Move) : M (Position × Bool) := do
  let (B1, f1, cur1) ← mmMover p.board p.flags (p.side w) m (colorBit w) (homeRank w) (flagK w) (flagQ w)
  let en1 ← mmCapture B1 (p.side (!w)) m (colorBit (!w))
  let (B2, en2) ← mmBoard B1 en1 m p.ep (colorBit w)
  let chk ← isUnderCheck B2 en2 cur1.king
  pure (mkPos p w B2 cur1 en2 (newFlags w f1 m) m.ep, !chk)

theorem makeMove_eq_W (p : Position) (m : Move) : makeMove p m = makeMoveW (whiteTurn p) p m := by
  unfold makeMove makeMoveW
  cases whiteTurn p <;> rfl

theorem makeMoveW_ok_iff {w : Bool} {p : Position} {m : Move} {q : Position} {b : Bool} :
    makeMoveW w p m = .ok (q, b) ↔ ∃ B1 f1 cur1 en1 B2 en2 chk,
      mmMover p.board p.flags (p.side w) m (colorBit w) (homeRank w) (flagK w) (flagQ w) = .ok (B1, f1, cur1) ∧
      mmCapture B1 (p.side (!w)) m (colorBit (!w)) = .ok en1 ∧
      mmBoard B1 en1 m p.ep (colorBit w) = .ok (B2, en2) ∧
      isUnderCheck B2 en2 cur1.king = .ok chk ∧
      q = mkPos p w B2 cur1 en2 (newFlags w f1 m) m.ep ∧ b = !chk := by
  simp only [makeMoveW, bind_ok, pure_eq_ok, Except.ok.injEq, Prod.mk.injEq, Prod.exists]
  constructor
  · rintro ⟨B1, f1, cur1, h1, en1, h2, B2, en2, h3, chk, h4, rfl, rfl⟩
    exact ⟨B1, f1, cur1, en1, B2, en2, chk, h1, h2, h3, h4, rfl, rfl⟩
  · rintro ⟨B1, f1, cur1, en1, B2, en2, chk, h1, h2, h3, h4, rfl, rfl⟩
    exact ⟨B1, f1, cur1, h1, en1, h2, B2, en2, h3, chk, h4, rfl, rfl⟩

theorem makeMove_ok_iff {p : Position} {m : Move} {w : Bool} (hw : whiteTurn p = w) {q : Position} {b : Bool} :
    makeMove p m = .ok (q, b) ↔ ∃ B1 f1 cur1 en1 B2 en2 chk,
      mmMover p.board p.flags (p.side w) m (colorBit w) (homeRank w) (flagK w) (flagQ w) = .ok (B1, f1, cur1) ∧
      mmCapture B1 (p.side (!w)) m (colorBit (!w)) = .ok en1 ∧
      mmBoard B1 en1 m p.ep (colorBit w) = .ok (B2, en2) ∧
      isUnderCheck B2 en2 cur1.king = .ok chk ∧
      q = mkPos p w B2 cur1 en2 (newFlags w f1 m) m.ep ∧ b = !chk := by
  rw [makeMove_eq_W, hw, makeMoveW_ok_iff]

theorem makeMove_eq {p : Position} {m : Move} {w : Bool} (hw : whiteTurn p = w)
    {B1 : Array Nat} {f1 : Nat} {cur1 en1 : Side} {B2 : Array Nat} {en2 : Side} {chk : Bool}
    (h1 : mmMover p.board p.flags (p.side w) m (colorBit w) (homeRank w) (flagK w) (flagQ w) = .ok (B1, f1, cur1))
    (h2 : mmCapture B1 (p.side (!w)) m (colorBit (!w)) = .ok en1)
    (h3 : mmBoard B1 en1 m p.ep (colorBit w) = .ok (B2, en2))
    (h4 : isUnderCheck B2 en2 cur1.king = .ok chk) :
    makeMove p m = .ok (mkPos p w B2 cur1 en2 (newFlags w f1 m) m.ep, !chk) :=
  (makeMove_ok_iff hw).mpr ⟨B1, f1, cur1, en1, B2, en2, chk, h1, h2, h3, h4, rfl, rfl⟩

/-- the swap-remove of `killPiece` / `pawnList.remove` -/
def swapRemove (l : List Nat) (i : Nat) : List Nat := (l.set i (l.getLastD 0)).dropLast

theorem kill_ok_iff {l l' : List Nat} {a : Nat} {what : String} :
    kill l a what = .ok l' ↔ ∃ i, l.idxOf? a = some i ∧ l' = swapRemove l i := by
  unfold kill
  cases l.idxOf? a with
  | none => simp [throw_eq_error]
  | some i => simp [pure_eq_ok, swapRemove, eq_comm]

/-- the rook's part of a king move: when the king goes from the e-file to the c- or g-file, the rook of
    that wing goes from the corner to the square the king passed (`from`, `to`) -/
def rookHop (frm to cr : Nat) : Option (Nat × Nat) :=
  if fileOf frm = Gen.E then
    if fileOf to = Gen.C then some ((Gen.A + cr) % 256, (Gen.D + cr) % 256)
    else if fileOf to = Gen.G then some ((Gen.H + cr) % 256, (Gen.F + cr) % 256)
    else none
  else none

theorem rookHop_none {frm to : Nat} (h : ¬ (fileOf frm = Gen.E ∧ (fileOf to = Gen.C ∨ fileOf to = Gen.G))) (cr : Nat) :
    rookHop frm to cr = none := by
  unfold rookHop
  by_cases hE : fileOf frm = Gen.E
  · rw [if_pos hE, if_neg (fun e => h ⟨hE, .inl e⟩), if_neg (fun e => h ⟨hE, .inr e⟩)]
  · rw [if_neg hE]

theorem rookHop_some {frm to cr rf rt : Nat} (h : rookHop frm to cr = some (rf, rt)) :
    fileOf frm = Gen.E ∧ ((fileOf to = Gen.C ∧ rf = (Gen.A + cr) % 256 ∧ rt = (Gen.D + cr) % 256) ∨
      (fileOf to = Gen.G ∧ rf = (Gen.H + cr) % 256 ∧ rt = (Gen.F + cr) % 256)) := by
  unfold rookHop at h
  split at h
  · refine ⟨‹_›, ?_⟩
    split at h
    · cases h
      exact .inl ⟨‹_›, rfl, rfl⟩
    · split at h
      · cases h
        exact .inr ⟨‹_›, rfl, rfl⟩
      · cases h
  · cases h

section
variable {B : Array Nat} {f : Nat} {cur : Side} {m : Move} {cc cr ck cq : Nat}

theorem mmMover_pawn (hv : B[m.frm]? = some (Pawn ||| cc)) (h0 : m.promo = 0) :
    mmMover B f cur m cc cr ck cq = .ok (B, f, { cur with pawns := replaceFirst cur.pawns m.frm m.to }) := by
  simp only [mmMover, bget_ok_iff.2 hv, ok_bind, beq_self_eq_true, if_true, h0, pure_eq_ok]

theorem mmMover_promo (hv : B[m.frm]? = some (Pawn ||| cc)) (h0 : m.promo ≠ 0) :
    mmMover B f cur m cc cr ck cq =
      match cur.pawns.idxOf? m.frm with
      | some i => (appendCap cur.pieces pieceCap m.to "pieceList").map fun l =>
          (B, f, { cur with pawns := swapRemove cur.pawns i, pieces := l })
      | none => .ok (B, f, cur) := by
  have h0' : (m.promo == 0) = false := by simpa using h0
  simp only [mmMover, bget_ok_iff.2 hv, ok_bind, beq_self_eq_true, if_true, h0', Bool.false_eq_true, if_false]
  cases cur.pawns.idxOf? m.frm with
  | none => rfl
  | some i => cases appendCap cur.pieces pieceCap m.to "pieceList" <;> rfl

theorem mmMover_officer {fp : Nat} (hv : B[m.frm]? = some fp) (hp : fp ≠ Pawn ||| cc) (hk : m.frm ≠ cur.king) :
    mmMover B f cur m cc cr ck cq = .ok (B, f, { cur with pieces := replaceFirst cur.pieces m.frm m.to }) := by
  have hp' : (fp == Pawn ||| cc) = false := by simpa using hp
  have hk' : (m.frm == cur.king) = false := by simpa using hk
  simp only [mmMover, bget_ok_iff.2 hv, ok_bind, hp', hk', Bool.false_eq_true, if_false, pure_eq_ok]

theorem mmMover_king {fp : Nat} (hv : B[m.frm]? = some fp) (hp : fp ≠ Pawn ||| cc) (hk : m.frm = cur.king) :
    mmMover B f cur m cc cr ck cq =
      match rookHop m.frm m.to cr with
      | none => .ok (B, clearBits f (ck ||| cq), { cur with king := m.to })
      | some (rf, rt) => (do
        let B1 ← bset B rf 0
        let B2 ← bset B1 rt (Rook ||| cc)
        pure (B2, clearBits f (ck ||| cq), { cur with king := m.to, pieces := replaceFirst cur.pieces rf rt })) := by
  have hp' : (fp == Pawn ||| cc) = false := by simpa using hp
  have hk' : (m.frm == cur.king) = true := by simpa using hk
  simp only [mmMover, bget_ok_iff.2 hv, ok_bind, hp', hk', Bool.false_eq_true, if_false, if_true, rookHop]
  simp only [beq_iff_eq]
  by_cases hE : fileOf m.frm = Gen.E
  · rw [if_pos hE, if_pos hE]
    by_cases hC : fileOf m.to = Gen.C
    · rw [if_pos hC, if_pos hC]
    · rw [if_neg hC, if_neg hC]
      by_cases hG : fileOf m.to = Gen.G
      · rw [if_pos hG, if_pos hG]
      · rw [if_neg hG, if_neg hG]
        rfl
  · rw [if_neg hE, if_neg hE]
    rfl

theorem mmMover_cell {r : Array Nat × Nat × Side} (h : mmMover B f cur m cc cr ck cq = .ok r) :
    ∃ fp, B[m.frm]? = some fp := by
  unfold mmMover at h
  obtain ⟨fp, hfp, _⟩ := bind_ok.mp h
  exact ⟨fp, bget_ok_iff.mp hfp⟩

end

theorem mmCapture_eq {B : Array Nat} {en : Side} {m : Move} {ec t : Nat} (ht : B[m.to]? = some t) :
    mmCapture B en m ec =
      if t = 0 ∨ t = King ||| ec then .ok en
      else if t = Pawn ||| ec then (kill en.pawns m.to "enemyPawns").map fun l => { en with pawns := l }
      else (kill en.pieces m.to "enemyPieces").map fun l => { en with pieces := l } := by
  simp only [mmCapture, bget_ok_iff.2 ht, ok_bind, bne_iff_ne, ne_eq, beq_iff_eq, ite_not, pure_eq_ok]
  by_cases h0 : t = 0
  · simp only [h0, true_or, if_true]
  · by_cases hk : t = King ||| ec
    · simp only [hk, or_true, if_true, ite_self]
    · simp only [h0, hk, or_self, if_false]
      split
      · cases kill en.pawns m.to "enemyPawns" <;> rfl
      · cases kill en.pieces m.to "enemyPieces" <;> rfl

theorem mmCapture_cell {B : Array Nat} {en en' : Side} {m : Move} {ec : Nat} (h : mmCapture B en m ec = .ok en') :
    ∃ t, B[m.to]? = some t := by
  unfold mmCapture at h
  obtain ⟨t, ht, _⟩ := bind_ok.mp h
  exact ⟨t, bget_ok_iff.mp ht⟩

section
variable {B : Array Nat} {en : Side} {m : Move} {ep cc : Nat}

theorem mmBoard_promo (hf : m.frm < B.size) (ht : m.to < B.size) (hk : m.promo ≠ 0) :
    mmBoard B en m ep cc = .ok ((B.setIfInBounds m.to (m.promo ||| cc)).setIfInBounds m.frm 0, en) := by
  have hk' : (m.promo == 0) = false := by simpa using hk
  simp only [mmBoard, hk', Bool.false_eq_true, if_false, bset_of_lt, Array.size_setIfInBounds, hf, ht, ok_bind, pure_eq_ok]

theorem mmBoard_plain {fp : Nat} (hf : m.frm < B.size) (ht : m.to < B.size) (h0 : m.promo = 0)
    (hfp : B[m.frm]? = some fp) (hnep : ¬ (ep = m.to ∧ fp = Pawn ||| cc)) :
    mmBoard B en m ep cc = .ok ((B.setIfInBounds m.to fp).setIfInBounds m.frm 0, en) := by
  have hcond : (ep == m.to && fp == Pawn ||| cc) = false := by
    rw [Bool.and_eq_false_iff, beq_eq_false_iff_ne, beq_eq_false_iff_ne]
    exact Decidable.not_and_iff_or_not.mp hnep
  simp only [mmBoard, h0, beq_self_eq_true, if_true, bget_ok_iff.2 hfp, ok_bind, bset_of_lt, Array.size_setIfInBounds, hf, ht,
    hcond, Bool.false_eq_true, if_false, pure_eq_ok]

/-- the en-passant capture: the pawn passed stands on the mover's rank and the target's file -/
theorem mmBoard_ep (hf : m.frm < B.size) (ht : m.to < B.size) (hx : (fileOf m.to + rankOf m.frm) % 256 < B.size)
    (h0 : m.promo = 0) (hfp : B[m.frm]? = some (Pawn ||| cc)) (hep : ep = m.to) :
    mmBoard B en m ep cc =
      (kill en.pawns ((fileOf m.to + rankOf m.frm) % 256) "enemyPawns(ep)").map fun l =>
        (((B.setIfInBounds m.to (Pawn ||| cc)).setIfInBounds ((fileOf m.to + rankOf m.frm) % 256) 0).setIfInBounds
          m.frm 0, { en with pawns := l }) := by
  simp only [mmBoard, h0, beq_self_eq_true, if_true, bget_ok_iff.2 hfp, ok_bind, bset_of_lt, ht, hep, Bool.and_self]
  cases kill en.pawns ((fileOf m.to + rankOf m.frm) % 256) "enemyPawns(ep)" with
  | error e => rfl
  | ok l => simp only [ok_bind, Except.map, bset_of_lt, Array.size_setIfInBounds, hx, hf, pure_eq_ok]

end

end Magog.MM
