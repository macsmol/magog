import Magog.Lemmas.MMBasic

/-! `makeMove` in closed form, with no assumption on position or move: board and flags after the move are pure
    functions of the position, the move and the two cells read (`fp` on `m.frm`, `tp` on `m.to`); only the list
    bookkeeping (`appendCap`, `kill`) and the final attack test can fail (`makeMoveC`, `makeMove_ok_iff_closed`).
    What makes the cells readable from the original board: a castling rook's squares lie on files a, d, f, h, the
    king's on e and c, g (`hop_some`). Whoever asks what a successful `makeMove` returned reads
    `makeMove_ok_closed` and analyses `curAfter`, `enAfter`, `boardAfter`, `flagsOf`. -/

namespace Magog.MM
open Magog Magog.Model Magog.Count

def placed (w : Bool) (fp : Nat) (m : Move) : Nat := if m.promo = 0 then fp else m.promo ||| colorBit w

/-- the square of the pawn an en-passant capture removes (`mmBoard_ep`, `ep_result` and `GenGeo.PawnSq.cap88`, which
    do not see this file, write the expression out) -/
def epSq (m : Move) : Nat := (fileOf m.to + rankOf m.frm) % 256

/-- `makeMove` treats the move as an en-passant capture -/
def IsEp (w : Bool) (fp ep : Nat) (m : Move) : Prop := m.promo = 0 ∧ ep = m.to ∧ fp = Pawn ||| colorBit w

instance (w : Bool) (fp ep : Nat) (m : Move) : Decidable (IsEp w fp ep m) := by unfold IsEp; infer_instance

/-- `makeMove` treats the move as a king move -/
def KingMoves (w : Bool) (king fp : Nat) (m : Move) : Prop := fp ≠ Pawn ||| colorBit w ∧ m.frm = king

instance (w : Bool) (king fp : Nat) (m : Move) : Decidable (KingMoves w king fp m) := by unfold KingMoves; infer_instance

def hop (w : Bool) (king fp : Nat) (m : Move) : Option (Nat × Nat) :=
  if KingMoves w king fp m then rookHop m.frm m.to (homeRank w) else none

def hopBoard (w : Bool) (B : Array Nat) (king fp : Nat) (m : Move) : Array Nat :=
  match hop w king fp m with
  | none => B
  | some (rf, rt) => (B.setIfInBounds rf 0).setIfInBounds rt (Rook ||| colorBit w)

def boardAfter (w : Bool) (B : Array Nat) (king ep fp : Nat) (m : Move) : Array Nat :=
  let B2 := (hopBoard w B king fp m).setIfInBounds m.to (placed w fp m)
  let B3 := if IsEp w fp ep m then B2.setIfInBounds (epSq m) 0 else B2
  B3.setIfInBounds m.frm 0

def curAfter (w : Bool) (cur : Side) (fp : Nat) (m : Move) : M Side :=
  if fp = Pawn ||| colorBit w then
    if m.promo = 0 then pure { cur with pawns := replaceFirst cur.pawns m.frm m.to }
    else match cur.pawns.idxOf? m.frm with
      | some i => (appendCap cur.pieces pieceCap m.to "pieceList").map fun l =>
          { cur with pawns := swapRemove cur.pawns i, pieces := l }
      | none => pure cur
  else if m.frm = cur.king then
    pure (match rookHop m.frm m.to (homeRank w) with
      | none => { cur with king := m.to }
      | some (rf, rt) => { cur with king := m.to, pieces := replaceFirst cur.pieces rf rt })
  else pure { cur with pieces := replaceFirst cur.pieces m.frm m.to }

def enCaptured (w : Bool) (en : Side) (tp : Nat) (m : Move) : M Side :=
  if tp = 0 ∨ tp = King ||| colorBit (!w) then .ok en
  else if tp = Pawn ||| colorBit (!w) then (kill en.pawns m.to "enemyPawns").map fun l => { en with pawns := l }
  else (kill en.pieces m.to "enemyPieces").map fun l => { en with pieces := l }

def enEp (w : Bool) (en : Side) (fp ep : Nat) (m : Move) : M Side :=
  if IsEp w fp ep m then (kill en.pawns (epSq m) "enemyPawns(ep)").map fun l => { en with pawns := l }
  else pure en

def enAfter (w : Bool) (en : Side) (fp tp ep : Nat) (m : Move) : M Side :=
  enCaptured w en tp m >>= fun en1 => enEp w en1 fp ep m

def flagsOf (w : Bool) (f king fp : Nat) (m : Move) : Nat :=
  newFlags w (if KingMoves w king fp m then clearBits f (flagK w ||| flagQ w) else f) m

def makeMoveC (w : Bool) (p : Position) (fp tp : Nat) (m : Move) : M (Position × Bool) := do
  let cur1 ← curAfter w (p.side w) fp m
  let en1 ← enAfter w (p.side (!w)) fp tp p.ep m
  let chk ← isUnderCheck (boardAfter w p.board (p.side w).king p.ep fp m) en1 cur1.king
  pure (mkPos p w (boardAfter w p.board (p.side w).king p.ep fp m) cur1 en1
    (flagsOf w p.flags (p.side w).king fp m) m.ep, !chk)

section
variable {w : Bool} {B : Array Nat} {f : Nat} {cur : Side} {m : Move} {fp : Nat}

theorem castle_cell_ne (w : Bool) {s : Nat} (hs : fileOf s = Gen.C ∨ fileOf s = Gen.G ∨ fileOf s = Gen.E) :
    s ≠ (Gen.A + homeRank w) % 256 ∧ s ≠ (Gen.D + homeRank w) % 256 ∧ s ≠ (Gen.H + homeRank w) % 256 ∧
      s ≠ (Gen.F + homeRank w) % 256 := by
  refine ⟨?_, ?_, ?_, ?_⟩ <;>
  · rintro rfl
    cases w <;> revert hs <;> decide

theorem hop_king {king : Nat} (h : KingMoves w king fp m) : hop w king fp m = rookHop m.frm m.to (homeRank w) :=
  if_pos h

theorem hop_none {king : Nat} (h : ¬ KingMoves w king fp m) : hop w king fp m = none := if_neg h

theorem hop_pawn {king : Nat} : hop w king (Pawn ||| colorBit w) m = none := hop_none fun h => h.1 rfl

theorem hop_some {king fp : Nat} {rf rt : Nat} (h : hop w king fp m = some (rf, rt)) :
    KingMoves w king fp m ∧ rookHop m.frm m.to (homeRank w) = some (rf, rt) ∧
      rf ≠ m.frm ∧ rt ≠ m.frm ∧ rf ≠ m.to ∧ rt ≠ m.to := by
  unfold hop at h
  split at h
  · refine ⟨‹_›, h, ?_⟩
    obtain ⟨hE, hh⟩ := rookHop_some h
    obtain ⟨f1, f2, f3, f4⟩ := castle_cell_ne w (s := m.frm) (.inr (.inr hE))
    rcases hh with ⟨hC, rfl, rfl⟩ | ⟨hG, rfl, rfl⟩
    · obtain ⟨t1, t2, _, _⟩ := castle_cell_ne w (s := m.to) (.inl hC)
      exact ⟨f1.symm, f2.symm, t1.symm, t2.symm⟩
    · obtain ⟨_, _, t3, t4⟩ := castle_cell_ne w (s := m.to) (.inr (.inl hG))
      exact ⟨f3.symm, f4.symm, t3.symm, t4.symm⟩
  · cases h

theorem hopBoard_get {king : Nat} {s : Nat} (hs : s = m.frm ∨ s = m.to) : (hopBoard w B king fp m)[s]? = B[s]? := by
  unfold hopBoard
  cases hh : hop w king fp m with
  | none => rfl
  | some r =>
    obtain ⟨rf, rt⟩ := r
    obtain ⟨_, _, n1, n2, n3, n4⟩ := hop_some hh
    simp only
    rw [Array.getElem?_setIfInBounds_ne, Array.getElem?_setIfInBounds_ne]
    · rcases hs with rfl | rfl
      · exact n1
      · exact n3
    · rcases hs with rfl | rfl
      · exact n2
      · exact n4

theorem hopBoard_size {king : Nat} : (hopBoard w B king fp m).size = B.size := by
  unfold hopBoard
  split <;> simp

theorem mmMover_closed (hv : B[m.frm]? = some fp)
    (hb : ∀ rf rt, hop w cur.king fp m = some (rf, rt) → rf < B.size ∧ rt < B.size) :
    mmMover B f cur m (colorBit w) (homeRank w) (flagK w) (flagQ w) =
      (curAfter w cur fp m).map fun c =>
        (hopBoard w B cur.king fp m,
          (if KingMoves w cur.king fp m then clearBits f (flagK w ||| flagQ w) else f), c) := by
  unfold curAfter hopBoard
  by_cases hp : fp = Pawn ||| colorBit w
  · subst hp
    rw [if_pos rfl, if_neg (fun h : KingMoves w cur.king _ m => h.1 rfl), hop_pawn]
    by_cases h0 : m.promo = 0
    · rw [mmMover_pawn hv h0, if_pos h0]
      rfl
    · rw [mmMover_promo hv h0, if_neg h0]
      cases cur.pawns.idxOf? m.frm with
      | none => rfl
      | some i => cases appendCap cur.pieces pieceCap m.to "pieceList" <;> rfl
  · rw [if_neg hp]
    by_cases hk : m.frm = cur.king
    · have hr := hop_king (w := w) (fp := fp) (m := m) ⟨hp, hk⟩
      rw [mmMover_king hv hp hk, if_pos hk, if_pos ⟨hp, hk⟩, hr]
      cases hrh : rookHop m.frm m.to (homeRank w) with
      | none => rfl
      | some r =>
        obtain ⟨rf, rt⟩ := r
        obtain ⟨h1, h2⟩ := hb rf rt (hr.trans hrh)
        simp only [bset_of_lt h1, bset_of_lt (B := B.setIfInBounds rf 0) (by simpa using h2), ok_bind]
        rfl
    · have hK : ¬ KingMoves w cur.king fp m := fun h => hk h.2
      rw [mmMover_officer hv hp hk, if_neg hk, if_neg hK, hop_none hK]
      rfl

theorem mmBoard_closed {en : Side} {king ep : Nat} (ht : m.to < B.size) (hx : IsEp w fp ep m → epSq m < B.size)
    (hv : B[m.frm]? = some fp) :
    mmBoard (hopBoard w B king fp m) en m ep (colorBit w) =
      (enEp w en fp ep m).map fun e => (boardAfter w B king ep fp m, e) := by
  have hf' : m.frm < (hopBoard w B king fp m).size := hopBoard_size.symm ▸ (Array.getElem?_eq_some_iff.mp hv).1
  have ht' : m.to < (hopBoard w B king fp m).size := hopBoard_size.symm ▸ ht
  replace hx : IsEp w fp ep m → epSq m < (hopBoard w B king fp m).size := fun h => hopBoard_size.symm ▸ hx h
  replace hv : (hopBoard w B king fp m)[m.frm]? = some fp := (hopBoard_get (.inl rfl)).trans hv
  unfold boardAfter enEp
  generalize hopBoard w B king fp m = B1 at *
  dsimp only
  by_cases h0 : m.promo = 0
  · by_cases hep : ep = m.to ∧ fp = Pawn ||| colorBit w
    · have hE : IsEp w fp ep m := ⟨h0, hep⟩
      obtain ⟨e1, e2⟩ := hep
      subst e2
      rw [mmBoard_ep hf' ht' (hx hE) h0 hv e1, if_pos hE, if_pos hE, placed, if_pos h0]
      unfold epSq
      cases kill en.pawns ((fileOf m.to + rankOf m.frm) % 256) "enemyPawns(ep)" <;> rfl
    · have hE : ¬ IsEp w fp ep m := fun h => hep h.2
      rw [mmBoard_plain hf' ht' h0 hv hep, if_neg hE, if_neg hE, placed, if_pos h0]
      rfl
  · have hE : ¬ IsEp w fp ep m := fun h => h0 h.1
    rw [mmBoard_promo hf' ht' h0, if_neg hE, if_neg hE, placed, if_neg h0]
    rfl

end

theorem epSq_lt {m : Move} (hf : m.frm < 128) : epSq m < 128 := by
  unfold epSq fileOf rankOf
  have h1 : m.to &&& 0x0F ≤ 0x0F := Nat.and_le_right
  have h2 : ∀ x < 128, x &&& 0xF0 ≤ 0x70 := by decide
  have := h2 _ hf
  omega

/-- the squares `makeMove` writes besides origin and target are on the board array (always so on a 128-slot
    board: `inBounds_of_size`) -/
def InBounds (w : Bool) (p : Position) (fp : Nat) (m : Move) : Prop :=
  (IsEp w fp p.ep m → epSq m < p.board.size) ∧
    ∀ rf rt, hop w (p.side w).king fp m = some (rf, rt) → rf < p.board.size ∧ rt < p.board.size

theorem makeMoveW_closed {w : Bool} {p : Position} {m : Move} {fp tp : Nat}
    (hfp : p.board[m.frm]? = some fp) (htp : p.board[m.to]? = some tp) (hb : InBounds w p fp m) :
    makeMoveW w p m = makeMoveC w p fp tp m := by
  have ht := (Array.getElem?_eq_some_iff.mp htp).1
  unfold makeMoveW makeMoveC enAfter
  rw [mmMover_closed hfp hb.2]
  cases curAfter w (p.side w) fp m with
  | error e => rfl
  | ok cur1 =>
    simp only [Except.map, ok_bind]
    rw [mmCapture_eq ((hopBoard_get (.inr rfl)).trans htp)]
    change (enCaptured w (p.side (!w)) tp m >>= _) = _
    cases enCaptured w (p.side (!w)) tp m with
    | error e => rfl
    | ok en1 =>
      simp only [ok_bind]
      rw [mmBoard_closed (king := (p.side w).king) ht hb.1 hfp]
      cases enEp w en1 fp p.ep m with
      | error e => rfl
      | ok en2 =>
        rfl

theorem inBounds_of_size {w : Bool} {p : Position} {fp : Nat} {m : Move} (hsz : p.board.size = 128)
    (hf : m.frm < 128) : InBounds w p fp m := by
  refine ⟨fun _ => hsz ▸ epSq_lt hf, fun rf rt h => ?_⟩
  obtain ⟨_, hr, _⟩ := hop_some h
  have fin : ∀ w : Bool, (Gen.A + homeRank w) % 256 < 128 ∧ (Gen.D + homeRank w) % 256 < 128 ∧
      (Gen.H + homeRank w) % 256 < 128 ∧ (Gen.F + homeRank w) % 256 < 128 := by decide
  obtain ⟨a, d, h', f⟩ := fin w
  rw [hsz]
  rcases (rookHop_some hr).2 with ⟨_, rfl, rfl⟩ | ⟨_, rfl, rfl⟩
  · exact ⟨a, d⟩
  · exact ⟨h', f⟩

theorem makeMoveW_ok_iff_closed {p : Position} {m : Move} {w : Bool} {r : Position × Bool} :
    makeMoveW w p m = .ok r ↔ ∃ fp tp, p.board[m.frm]? = some fp ∧ p.board[m.to]? = some tp ∧ InBounds w p fp m ∧
      makeMoveC w p fp tp m = .ok r := by
  refine ⟨fun h => ?_, fun ⟨fp, tp, hfp, htp, hb, h⟩ => (makeMoveW_closed hfp htp hb).trans h⟩
  obtain ⟨B1, f1, cur1, en1, B2, en2, _, h1, h2, h3, _⟩ := (makeMoveW_ok_iff (q := r.1) (b := r.2)).mp h
  obtain ⟨fp, hfp⟩ := mmMover_cell h1
  -- a castling rook's squares were written
  have hb2 : ∀ rf rt, hop w (p.side w).king fp m = some (rf, rt) → rf < p.board.size ∧ rt < p.board.size := by
    intro rf rt hh
    obtain ⟨hK, hr, _⟩ := hop_some hh
    rw [mmMover_king hfp hK.1 hK.2, hr] at h1
    simp only [bind_ok, bset_ok_iff] at h1
    obtain ⟨_, ⟨h1, rfl⟩, _, ⟨h2, _⟩, _⟩ := h1
    exact ⟨h1, by simpa using h2⟩
  rw [mmMover_closed hfp hb2] at h1
  obtain ⟨_, _, h1⟩ := map_ok.mp h1
  cases h1
  obtain ⟨tp, htp⟩ := mmCapture_cell h2
  rw [hopBoard_get (.inr rfl)] at htp
  have hb : InBounds w p fp m := by
    refine ⟨fun hE => ?_, hb2⟩
    -- the passed pawn's square was written
    obtain ⟨h0, he, rfl⟩ := hE
    have hc : (p.ep == m.to) = true := by simp [he]
    simp only [mmBoard, h0, beq_self_eq_true, if_true, bget_ok_iff.2 ((hopBoard_get (.inl rfl)).trans hfp), ok_bind,
      hc, Bool.and_self, bind_ok, bset_ok_iff] at h3
    obtain ⟨_, ⟨_, rfl⟩, _, _, _, ⟨h, _⟩, _⟩ := h3
    simpa [hopBoard_size, epSq] using h
  exact ⟨fp, tp, hfp, htp, hb, (makeMoveW_closed hfp htp hb).symm.trans h⟩

theorem makeMove_ok_iff_closed {p : Position} {m : Move} {w : Bool} (hw : whiteTurn p = w) {r : Position × Bool} :
    makeMove p m = .ok r ↔ ∃ fp tp, p.board[m.frm]? = some fp ∧ p.board[m.to]? = some tp ∧ InBounds w p fp m ∧
      makeMoveC w p fp tp m = .ok r := by
  rw [makeMove_eq_W, hw, makeMoveW_ok_iff_closed]

/-- Read by position, `⟨fp, tp, cur1, en1, hfp, htp, hb, hcur, hen, hchk, hp'⟩`. Witnesses: the cells on `m.frm` and
    `m.to`, the mover's and the opponent's lists after the move. Facts: the two cell reads, `InBounds`, `cur1` from
    `curAfter`, `en1` from `enAfter`, the attack test on the new board answered `!b`, `p'` as `mkPos` of `boardAfter`
    and `flagsOf`. -/
theorem makeMove_ok_closed {p : Position} {m : Move} {w : Bool} (hw : whiteTurn p = w)
    {p' : Position} {b : Bool} (h : makeMove p m = .ok (p', b)) :
    ∃ fp tp cur1 en1, p.board[m.frm]? = some fp ∧ p.board[m.to]? = some tp ∧ InBounds w p fp m ∧
      curAfter w (p.side w) fp m = .ok cur1 ∧ enAfter w (p.side (!w)) fp tp p.ep m = .ok en1 ∧
      isUnderCheck (boardAfter w p.board (p.side w).king p.ep fp m) en1 cur1.king = .ok (!b) ∧
      p' = mkPos p w (boardAfter w p.board (p.side w).king p.ep fp m) cur1 en1
        (flagsOf w p.flags (p.side w).king fp m) m.ep := by
  obtain ⟨fp, tp, hfp, htp, hb, h⟩ := (makeMove_ok_iff_closed hw).mp h
  simp only [makeMoveC, bind_ok, pure_eq_ok, Except.ok.injEq, Prod.mk.injEq] at h
  obtain ⟨cur1, h1, en1, h2, chk, h4, rfl, rfl⟩ := h
  exact ⟨fp, tp, cur1, en1, hfp, htp, hb, h1, h2, by rw [Bool.not_not]; exact h4, rfl⟩

theorem makeMove_ep {p p' : Position} {m : Move} {b : Bool} (h : makeMove p m = .ok (p', b)) : p'.ep = m.ep := by
  obtain ⟨_, _, _, _, _, _, _, _, _, _, rfl⟩ := makeMove_ok_closed rfl h
  exact mkPos_ep ..

section
variable {w : Bool} {B : Array Nat} {king ep fp : Nat} {m : Move}

theorem enAfter_noEp {en : Side} {tp : Nat} (he : ¬ IsEp w fp ep m) : enAfter w en fp tp ep m = enCaptured w en tp m := by
  unfold enAfter enEp
  simp only [if_neg he, bind_pure]

theorem boardAfter_noHop (hh : hop w king fp m = none) :
    boardAfter w B king ep fp m =
      (if IsEp w fp ep m then (B.setIfInBounds m.to (placed w fp m)).setIfInBounds (epSq m) 0
        else B.setIfInBounds m.to (placed w fp m)).setIfInBounds m.frm 0 := by
  unfold boardAfter hopBoard
  simp only [hh]

/-- castling: the rook first, then the king; a king move is no en-passant capture -/
theorem boardAfter_hop {rf rt : Nat} (hh : hop w king fp m = some (rf, rt)) :
    boardAfter w B king ep fp m =
      (((B.setIfInBounds rf 0).setIfInBounds rt (Rook ||| colorBit w)).setIfInBounds m.to (placed w fp m)).setIfInBounds
        m.frm 0 := by
  unfold boardAfter hopBoard
  simp only [hh, if_neg fun h : IsEp w fp ep m => (hop_some hh).1.1 h.2.2]

theorem boardAfter_size : (boardAfter w B king ep fp m).size = B.size := by
  unfold boardAfter
  dsimp only
  split <;> simp [hopBoard_size]

theorem set_cell {b : Array Nat} {i v a x : Nat} (h : (b.setIfInBounds i v)[a]? = some x) :
    (a = i ∧ x = v) ∨ b[a]? = some x := by
  rw [Array.getElem?_setIfInBounds] at h
  by_cases hia : i = a
  · subst hia
    simp only [if_true] at h
    split at h
    · exact .inl ⟨rfl, (Option.some.inj h).symm⟩
    · cases h
  · simp only [hia, if_false] at h
    exact .inr h

theorem hopBoard_cell {a x : Nat} (h : (hopBoard w B king fp m)[a]? = some x) : B[a]? = some x ∨
    ∃ rf rt, hop w king fp m = some (rf, rt) ∧ ((a = rf ∧ x = 0) ∨ (a = rt ∧ x = Rook ||| colorBit w)) := by
  unfold hopBoard at h
  split at h
  · exact .inl h
  · rename_i rf rt hh
    rcases set_cell h with h | h
    · exact .inr ⟨rf, rt, hh, .inr h⟩
    · exact (set_cell h).elim (fun h => .inr ⟨rf, rt, hh, .inl h⟩) .inl

theorem boardAfter_cell {a x : Nat} (hx : (boardAfter w B king ep fp m)[a]? = some x) :
    B[a]? = some x ∨ (a = m.to ∧ x = placed w fp m) ∨ (x = 0 ∧ (a = m.frm ∨ (IsEp w fp ep m ∧ a = epSq m))) ∨
      ∃ rf rt, hop w king fp m = some (rf, rt) ∧ ((a = rf ∧ x = 0) ∨ (a = rt ∧ x = Rook ||| colorBit w)) := by
  have tail : ((hopBoard w B king fp m).setIfInBounds m.to (placed w fp m))[a]? = some x →
      B[a]? = some x ∨ (a = m.to ∧ x = placed w fp m) ∨ (x = 0 ∧ (a = m.frm ∨ (IsEp w fp ep m ∧ a = epSq m))) ∨
      ∃ rf rt, hop w king fp m = some (rf, rt) ∧ ((a = rf ∧ x = 0) ∨ (a = rt ∧ x = Rook ||| colorBit w)) :=
    fun h => (set_cell h).elim (fun h => .inr (.inl h)) fun h => (hopBoard_cell h).elim .inl fun h => .inr (.inr (.inr h))
  unfold boardAfter at hx
  rcases set_cell hx with ⟨rfl, rfl⟩ | hx
  · exact .inr (.inr (.inl ⟨rfl, .inl rfl⟩))
  · split at hx
    · rcases set_cell hx with ⟨rfl, rfl⟩ | hx
      · exact .inr (.inr (.inl ⟨rfl, .inr ⟨‹_›, rfl⟩⟩))
      · exact tail hx
    · exact tail hx

theorem curAfter_king {cur c1 : Side} (h : curAfter w cur fp m = .ok c1) :
    c1.king = if KingMoves w cur.king fp m then m.to else cur.king := by
  unfold curAfter at h
  split at h
  · rw [if_neg fun hK : KingMoves w cur.king fp m => hK.1 ‹_›]
    split at h
    · cases h
      rfl
    · cases hi : cur.pawns.idxOf? m.frm with
      | none =>
        rw [hi] at h
        cases h
        rfl
      | some i =>
        rw [hi] at h
        obtain ⟨l, _, rfl⟩ := map_ok.mp h
        rfl
  · split at h
    · cases h
      rw [if_pos ⟨‹_›, ‹_›⟩]
      cases rookHop m.frm m.to (homeRank w) <;> rfl
    · cases h
      rw [if_neg fun hK : KingMoves w cur.king fp m => ‹¬ _› hK.2]

end

end Magog.MM
