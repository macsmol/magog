import Magog.Lemmas.Inv
import Magog.Lemmas.MMList

/-! Core of the `makeMove` invariant proof: the invariant split into a board part and a per-side part,
    the piece codes by colour, what `SideOk` says about a known cell, the two-square board update with
    what it does to one side's lists, and both invariants under single-cell updates. -/

namespace Magog.MM
open Magog Magog.Model Magog.Atk Magog.Geo Magog.Count

def Man (w : Bool) (v : Nat) : Prop := v = pawnOf w ∨ v ∈ officersOf w ∨ v = kingOf w

instance (w : Bool) (v : Nat) : Decidable (Man w v) := by unfold Man; infer_instance

def promoKinds : List Nat := [Queen, Rook, Bishop, Knight]

theorem pawn_code (w : Bool) : Pawn ||| colorBit w = pawnOf w := by cases w <;> decide
theorem king_code (w : Bool) : King ||| colorBit w = kingOf w := by cases w <;> decide
theorem rook_code_mem (w : Bool) : Rook ||| colorBit w ∈ officersOf w := by cases w <;> decide
theorem promo_code_mem (w : Bool) {k : Nat} (hk : k ∈ promoKinds) : k ||| colorBit w ∈ officersOf w := by
  have : ∀ w : Bool, ∀ k ∈ promoKinds, k ||| colorBit w ∈ officersOf w := by decide
  exact this w k hk
theorem promoKinds_ne_zero {k : Nat} (hk : k ∈ promoKinds) : k ≠ 0 := by
  have : ∀ k ∈ promoKinds, k ≠ 0 := by decide
  exact this k hk

theorem pawnOf_ne_zero (w : Bool) : pawnOf w ≠ 0 := by cases w <;> decide
theorem kingOf_ne_zero (w : Bool) : kingOf w ≠ 0 := by cases w <;> decide
theorem officer_ne_zero {w : Bool} {v : Nat} (h : v ∈ officersOf w) : v ≠ 0 := by
  have : ∀ w : Bool, ∀ v ∈ officersOf w, v ≠ 0 := by decide
  exact this w v h
theorem pawnOf_not_officer (w c : Bool) : pawnOf w ∉ officersOf c := by cases w <;> cases c <;> decide
theorem kingOf_not_officer (w c : Bool) : kingOf w ∉ officersOf c := by cases w <;> cases c <;> decide
theorem officer_man {w : Bool} {v : Nat} (h : v ∈ officersOf w) : Man w v ∧ v ≠ pawnOf w ∧ v ≠ kingOf w :=
  ⟨.inr (.inl h), fun e => pawnOf_not_officer w w (e ▸ h), fun e => kingOf_not_officer w w (e ▸ h)⟩
theorem pawnOf_ne_kingOf (w c : Bool) : pawnOf w ≠ kingOf c := by cases w <;> cases c <;> decide
theorem pawnOf_ne_not (w : Bool) : pawnOf w ≠ pawnOf (!w) := by cases w <;> decide
theorem kingOf_ne_not (w : Bool) : kingOf w ≠ kingOf (!w) := by cases w <;> decide
theorem officer_not_other {w : Bool} {v : Nat} (h : v ∈ officersOf w) : v ∉ officersOf (!w) := by
  have : ∀ w : Bool, ∀ v ∈ officersOf w, v ∉ officersOf (!w) := by decide
  exact this w v h

theorem man_ne_zero {w : Bool} {v : Nat} (h : Man w v) : v ≠ 0 := by
  rcases h with rfl | h | rfl
  · exact pawnOf_ne_zero w
  · exact officer_ne_zero h
  · exact kingOf_ne_zero w

theorem man_mem_codes {w : Bool} {v : Nat} (h : Man w v) : v ∈ pieceCodes := by
  rcases h with rfl | h | rfl
  · cases w <;> decide
  · have : ∀ w : Bool, ∀ v ∈ officersOf w, v ∈ pieceCodes := by decide
    exact this w v h
  · cases w <;> decide

theorem man_iff_bit {w : Bool} {x : Nat} (hc : x = 0 ∨ x ∈ pieceCodes) : Man w x ↔ x &&& colorBit w ≠ 0 := by
  have : ∀ w : Bool, ∀ x ∈ 0 :: pieceCodes, Man w x ↔ x &&& colorBit w ≠ 0 := by decide +kernel
  exact this w x (List.mem_cons.mpr hc)

theorem man_not_other {w : Bool} {v : Nat} (h : Man w v) : ¬ Man (!w) v := by
  have : ∀ w : Bool, ∀ v ∈ pieceCodes, Man w v → ¬ Man (!w) v := by decide +kernel
  exact this w v (man_mem_codes h) h

theorem not_own_cases {w : Bool} {t : Nat} (hc : t = 0 ∨ t ∈ pieceCodes) (h : t &&& colorBit w = 0) :
    t = 0 ∨ Man (!w) t := by
  have : ∀ w : Bool, ∀ t ∈ 0 :: pieceCodes, t &&& colorBit w = 0 → t = 0 ∨ Man (!w) t := by decide +kernel
  exact this w t (List.mem_cons.mpr hc) h

theorem own_bit {w : Bool} {v : Nat} (h : Man w v) : v &&& colorBit w ≠ 0 :=
  (man_iff_bit (.inr (man_mem_codes h))).mp h

theorem other_bit {w : Bool} {v : Nat} (h : Man (!w) v) : v &&& colorBit w = 0 :=
  Decidable.not_not.mp fun hn => man_not_other ((man_iff_bit (.inr (man_mem_codes h))).mpr hn) h

/-- The fields of `Inv` that read the board alone (`Inv.boardInv`), so that they can be carried through the stages of
    `makeMove`, where no `Position` exists yet; `inv_of_parts` puts `Inv` back together. -/
structure BoardInv (B : Array Nat) : Prop where
  ok : BoardOk B
  offBoard : ∀ i : Nat, i < 128 → isValid i = false → B[i]? = some 0
  noBackPawn : ∀ i : Nat, (B[i]? = some Gen.WPawn ∨ B[i]? = some Gen.BPawn) →
    rankOf i ≠ Gen.Rank1 ∧ rankOf i ≠ Gen.Rank8

/-- The fields of `Inv` about one side's lists, with the colour a parameter (`Inv.sideInv`): the mover's and the
    opponent's stages are then proved once, for `w` and `!w`. -/
structure SideInv (B : Array Nat) (sd : Side) (w : Bool) : Prop where
  ok : SideOk B sd w
  ndPawns : sd.pawns.Nodup
  ndPieces : sd.pieces.Nodup
  lenPawns : sd.pawns.length ≤ pawnCap
  len : sd.pawns.length + sd.pieces.length ≤ pieceCap

theorem _root_.Magog.Inv.boardInv {p : Position} (h : Inv p) : BoardInv p.board := ⟨h.board, h.offBoard, h.noBackPawn⟩

theorem _root_.Magog.Inv.sideInv {p : Position} (h : Inv p) (w : Bool) : SideInv p.board (p.side w) w := by
  cases w
  · exact ⟨h.black, h.bpNodup, h.bpcNodup, h.bpLen, h.bLen⟩
  · exact ⟨h.white, h.wpNodup, h.wpcNodup, h.wpLen, h.wLen⟩

theorem inv_of_parts {p : Position} (hb : BoardInv p.board) (hw : SideInv p.board (p.side true) true)
    (hbl : SideInv p.board (p.side false) false) (hf : p.flags < 32) (hc : castlingConsistent p = true)
    (he : p.ep = InvalidSq ∨ FenSpec.EpOk p) : Inv p :=
  { board := hb.ok, offBoard := hb.offBoard, white := hw.ok, black := hbl.ok
    wpNodup := hw.ndPawns, bpNodup := hbl.ndPawns, wpcNodup := hw.ndPieces, bpcNodup := hbl.ndPieces
    wpLen := hw.lenPawns, bpLen := hbl.lenPawns, wLen := hw.len, bLen := hbl.len
    noBackPawn := hb.noBackPawn, flags := hf, castling := hc, ep := he }

theorem cell_of_valid {B : Array Nat} (hb : BoardOk B) {s : Nat} (hs : s ∈ sq88) :
    ∃ v, B[s]? = some v ∧ (v = 0 ∨ v ∈ pieceCodes) := by
  obtain ⟨h1, h2⟩ := mem_sq88.mp hs
  exact hb.codes s h1 h2

theorem _root_.Magog.Atk.SideOk.at {B : Array Nat} {sd : Side} {c : Bool} (h : SideOk B sd c) {s v : Nat}
    (hs : s ∈ sq88) (hv : B[s]? = some v) :
    (s ∈ sd.pawns ↔ v = pawnOf c) ∧ (s ∈ sd.pieces ↔ v ∈ officersOf c) ∧ (s = sd.king ↔ v = kingOf c) := by
  obtain ⟨h1, h2⟩ := mem_sq88.mp hs
  rw [h.pawns s, h.pieces s, h.king s, hv]
  simp only [h1, h2, true_and, Option.some.injEq, exists_eq_right']

theorem _root_.Magog.Atk.SideOk.pawn_cell {B : Array Nat} {sd : Side} {c : Bool} (h : SideOk B sd c) {s : Nat}
    (hs : s ∈ sd.pawns) : s ∈ sq88 ∧ B[s]? = some (pawnOf c) := by
  obtain ⟨h1, h2, h3⟩ := (h.pawns s).mp hs
  exact ⟨mem_sq88.mpr ⟨h1, h2⟩, h3⟩

theorem _root_.Magog.Atk.SideOk.piece_cell {B : Array Nat} {sd : Side} {c : Bool} (h : SideOk B sd c) {s : Nat}
    (hs : s ∈ sd.pieces) : s ∈ sq88 ∧ ∃ v ∈ officersOf c, B[s]? = some v := by
  obtain ⟨h1, h2, h3⟩ := (h.pieces s).mp hs
  exact ⟨mem_sq88.mpr ⟨h1, h2⟩, h3⟩

theorem _root_.Magog.Atk.SideOk.king_cell {B : Array Nat} {sd : Side} {c : Bool} (h : SideOk B sd c) :
    sd.king ∈ sq88 ∧ B[sd.king]? = some (kingOf c) := by
  obtain ⟨h1, h2, h3⟩ := (h.king sd.king).mp rfl
  exact ⟨mem_sq88.mpr ⟨h1, h2⟩, h3⟩

theorem _root_.Magog.Atk.SideOk.not_mem_of_not_man {B : Array Nat} {sd : Side} {c : Bool} (h : SideOk B sd c) {s v : Nat}
    (hv : B[s]? = some v) (hn : ¬ Man c v) : s ∉ sd.pawns ∧ s ∉ sd.pieces ∧ s ≠ sd.king := by
  refine ⟨fun hm => ?_, fun hm => ?_, fun hm => ?_⟩
  · have := (h.pawn_cell hm).2
    rw [hv] at this; cases this
    exact hn (.inl rfl)
  · obtain ⟨o, ho, this⟩ := (h.piece_cell hm).2
    rw [hv] at this; cases this
    exact hn (.inr (.inl ho))
  · have := h.king_cell.2
    rw [← hm, hv] at this; cases this
    exact hn (.inr (.inr rfl))

/-- One man goes from `frm` to `to`: `frm` emptied, the code `v'` on `to`; `v'` is the man that stood on `frm`, or at a
    promotion the new officer. Castling is two such steps, the en-passant capture one and a clearing. -/
def Upd2 (B B' : Array Nat) (frm to v' : Nat) : Prop :=
  B'.size = B.size ∧ ∀ s : Nat, B'[s]? = if s = frm then some 0 else if s = to then some v' else B[s]?

theorem getElem?_set {B : Array Nat} {x : Nat} (hx : x < B.size) (v s : Nat) :
    (B.setIfInBounds x v)[s]? = if s = x then some v else B[s]? := by
  rw [Array.getElem?_setIfInBounds]
  by_cases h : s = x
  · rw [if_pos h, if_pos h.symm, if_pos hx]
  · rw [if_neg h, if_neg (fun e => h e.symm)]

theorem upd2_set {B : Array Nat} {frm to v' : Nat} (hsz : B.size = 128) (hf : frm < 128) (ht : to < 128) :
    Upd2 B ((B.setIfInBounds to v').setIfInBounds frm 0) frm to v' :=
  ⟨by simp, fun s => by
    rw [getElem?_set (by rw [Array.size_setIfInBounds, hsz]; exact hf), getElem?_set (by rw [hsz]; exact ht)]⟩

/-- What the lists of the side of colour `c` must become under `Upd2 _ _ frm to v'` for `SideInv` to survive
    (`sideInv_upd2`): `frm` and `to` leave every list, and `to` enters the one that the code `v'` belongs to, if it is
    of colour `c`. One shape serves the mover (`v'` is its man) and the opponent (`v'` is not its own: only removal). -/
structure ListSpec (sd sd' : Side) (c : Bool) (frm to v' : Nat) : Prop where
  hp : ∀ s, s ∈ sd'.pawns ↔ (s ≠ frm ∧ s ≠ to ∧ s ∈ sd.pawns) ∨ (s = to ∧ v' = pawnOf c)
  hq : ∀ s, s ∈ sd'.pieces ↔ (s ≠ frm ∧ s ≠ to ∧ s ∈ sd.pieces) ∨ (s = to ∧ v' ∈ officersOf c)
  hk : ∀ s, s = sd'.king ↔ (s ≠ frm ∧ s ≠ to ∧ s = sd.king) ∨ (s = to ∧ v' = kingOf c)
  ndPawns : sd'.pawns.Nodup
  ndPieces : sd'.pieces.Nodup
  lenPawns : sd'.pawns.length ≤ pawnCap
  len : sd'.pawns.length + sd'.pieces.length ≤ pieceCap

/-! How one list (`L`, `L'`: membership before and after; for the king square, equality) can change with
    the two squares, in the form `ListSpec` asks for; `Q` says the man put on `to` belongs in this list. -/

section
variable {L L' : Nat → Prop} {frm to : Nat} {Q : Prop} {s : Nat}

theorem spec_same (hf : ¬ L frm) (ht : ¬ L to) (hQ : ¬ Q) (s : Nat) :
    L s ↔ (s ≠ frm ∧ s ≠ to ∧ L s) ∨ (s = to ∧ Q) :=
  ⟨fun h => .inl ⟨fun e => hf (e ▸ h), fun e => ht (e ▸ h), h⟩, fun h => h.elim (·.2.2) fun h => absurd h.2 hQ⟩

theorem spec_moved (hm : L' s ↔ (L s ∧ s ≠ frm) ∨ s = to) (ht : ¬ L to) (hQ : Q) :
    L' s ↔ (s ≠ frm ∧ s ≠ to ∧ L s) ∨ (s = to ∧ Q) :=
  hm.trans ⟨fun h => h.elim (fun h => .inl ⟨h.2, fun e => ht (e ▸ h.1), h.1⟩) fun e => .inr ⟨e, hQ⟩,
    fun h => h.elim (fun h => .inl ⟨h.2.2, h.1⟩) fun h => .inr h.1⟩

theorem spec_lost_frm (hm : L' s ↔ L s ∧ s ≠ frm) (ht : ¬ L to) (hQ : ¬ Q) :
    L' s ↔ (s ≠ frm ∧ s ≠ to ∧ L s) ∨ (s = to ∧ Q) :=
  hm.trans ⟨fun h => .inl ⟨h.2, fun e => ht (e ▸ h.1), h.1⟩,
    fun h => h.elim (fun h => ⟨h.2.2, h.1⟩) fun h => absurd h.2 hQ⟩

theorem spec_lost_to (hm : L' s ↔ L s ∧ s ≠ to) (hf : ¬ L frm) (hQ : ¬ Q) :
    L' s ↔ (s ≠ frm ∧ s ≠ to ∧ L s) ∨ (s = to ∧ Q) :=
  hm.trans ⟨fun h => .inl ⟨fun e => hf (e ▸ h.1), h.2, h.1⟩,
    fun h => h.elim (fun h => ⟨h.2.2, h.2.1⟩) fun h => absurd h.2 hQ⟩

theorem spec_gained (hm : L' s ↔ L s ∨ s = to) (hf : ¬ L frm) (ht : ¬ L to) (hQ : Q) :
    L' s ↔ (s ≠ frm ∧ s ≠ to ∧ L s) ∨ (s = to ∧ Q) :=
  hm.trans ⟨fun h => h.elim (fun h => .inl ⟨fun e => hf (e ▸ h), fun e => ht (e ▸ h), h⟩) fun e => .inr ⟨e, hQ⟩,
    fun h => h.elim (fun h => .inl h.2.2) fun h => .inr h.1⟩

end

/-- One field of `SideOk` across the two-square update: `L`, `L'` are "the square is in the list" before
    and after, `P` what the field says about the cell. -/
theorem upd2_field {B B' : Array Nat} {frm to v' : Nat} (hB : Upd2 B B' frm to v') (ht : to ∈ sq88) (hne : frm ≠ to)
    {P : Option Nat → Prop} (h0 : ¬ P (some 0)) {L L' : Nat → Prop}
    (hL : ∀ s, L s ↔ s < 128 ∧ isValid s = true ∧ P B[s]?)
    (hL' : ∀ s, L' s ↔ (s ≠ frm ∧ s ≠ to ∧ L s) ∨ (s = to ∧ P (some v'))) (s : Nat) :
    L' s ↔ s < 128 ∧ isValid s = true ∧ P B'[s]? := by
  obtain ⟨ht1, ht2⟩ := mem_sq88.mp ht
  rw [hL' s, hB.2 s]
  by_cases h1 : s = frm
  · subst h1
    simp only [ne_eq, not_true_eq_false, false_and, hne, if_true, h0, and_false, or_self]
  · by_cases h2 : s = to
    · subst h2
      simp only [ne_eq, h1, not_false_eq_true, not_true_eq_false, false_and, and_false, true_and, false_or, if_false,
        if_true, ht1, ht2]
    · simp only [ne_eq, h1, not_false_eq_true, h2, true_and, false_and, or_false, if_false]
      exact hL s

theorem sideOk_upd2 {B B' : Array Nat} {sd sd' : Side} {c : Bool} {frm to v' : Nat}
    (h : SideOk B sd c) (ht : to ∈ sq88) (hne : frm ≠ to) (hB : Upd2 B B' frm to v')
    (hp : ∀ s, s ∈ sd'.pawns ↔ (s ≠ frm ∧ s ≠ to ∧ s ∈ sd.pawns) ∨ (s = to ∧ v' = pawnOf c))
    (hq : ∀ s, s ∈ sd'.pieces ↔ (s ≠ frm ∧ s ≠ to ∧ s ∈ sd.pieces) ∨ (s = to ∧ v' ∈ officersOf c))
    (hk : ∀ s, s = sd'.king ↔ (s ≠ frm ∧ s ≠ to ∧ s = sd.king) ∨ (s = to ∧ v' = kingOf c)) :
    SideOk B' sd' c :=
  ⟨upd2_field hB ht hne (P := fun o => o = some (pawnOf c)) (fun e => pawnOf_ne_zero c (Option.some.inj e).symm)
      h.pawns (by simpa only [Option.some.injEq] using hp),
    upd2_field hB ht hne (P := fun o => ∃ u ∈ officersOf c, o = some u)
      (fun ⟨u, hu, e⟩ => officer_ne_zero hu (Option.some.inj e).symm) h.pieces
      (fun s => (hq s).trans (by simp only [Option.some.injEq, exists_eq_right'])),
    upd2_field hB ht hne (P := fun o => o = some (kingOf c)) (fun e => kingOf_ne_zero c (Option.some.inj e).symm)
      h.king (by simpa only [Option.some.injEq] using hk)⟩

theorem sideInv_upd2 {B B' : Array Nat} {sd sd' : Side} {c : Bool} {frm to v' : Nat}
    (h : SideInv B sd c) (ht : to ∈ sq88) (hne : frm ≠ to) (hB : Upd2 B B' frm to v')
    (hs : ListSpec sd sd' c frm to v') : SideInv B' sd' c :=
  ⟨sideOk_upd2 h.ok ht hne hB hs.hp hs.hq hs.hk, hs.ndPawns, hs.ndPieces, hs.lenPawns, hs.len⟩

theorem mem_iff_of_not_mem {l : List Nat} {a : Nat} (h : a ∉ l) (s : Nat) : s ∈ l ↔ s ∈ l ∧ s ≠ a :=
  ⟨fun hs => ⟨hs, fun e => h (e ▸ hs)⟩, And.left⟩

theorem clear_field {B : Array Nat} {x : Nat} (hx : x < B.size) {P : Option Nat → Prop} (h0 : ¬ P (some 0))
    {L L' : Nat → Prop} (hL : ∀ s, L s ↔ s < 128 ∧ isValid s = true ∧ P B[s]?)
    (hL' : ∀ s, L' s ↔ L s ∧ s ≠ x) (s : Nat) :
    L' s ↔ s < 128 ∧ isValid s = true ∧ P (B.setIfInBounds x 0)[s]? := by
  rw [hL' s, getElem?_set hx 0]
  by_cases h1 : s = x
  · simp only [h1, ne_eq, not_true_eq_false, and_false, if_true, h0]
  · simp only [ne_eq, h1, not_false_eq_true, and_true, if_false]
    exact hL s

theorem sideOk_clear {B : Array Nat} {sd sd' : Side} {c : Bool} {x : Nat} (h : SideOk B sd c) (hx : x < B.size)
    (hp : ∀ s, s ∈ sd'.pawns ↔ s ∈ sd.pawns ∧ s ≠ x) (hq : ∀ s, s ∈ sd'.pieces ↔ s ∈ sd.pieces ∧ s ≠ x)
    (hk : sd'.king = sd.king) (hkx : sd.king ≠ x) : SideOk (B.setIfInBounds x 0) sd' c :=
  ⟨clear_field hx (P := fun o => o = some (pawnOf c)) (fun e => pawnOf_ne_zero c (Option.some.inj e).symm) h.pawns hp,
    clear_field hx (P := fun o => ∃ u ∈ officersOf c, o = some u)
      (fun ⟨u, hu, e⟩ => officer_ne_zero hu (Option.some.inj e).symm) h.pieces hq,
    clear_field hx (P := fun o => o = some (kingOf c)) (fun e => kingOf_ne_zero c (Option.some.inj e).symm) h.king
      (fun s => by rw [hk]; exact ⟨fun e => ⟨e, e ▸ hkx⟩, And.left⟩)⟩

theorem boardOk_set {B : Array Nat} {x v : Nat} (h : BoardOk B) (hx : x ∈ sq88) (hv : v = 0 ∨ v ∈ pieceCodes) :
    BoardOk (B.setIfInBounds x v) := by
  have hxs : x < B.size := by rw [h.size]; exact (mem_sq88.mp hx).1
  refine ⟨by rw [Array.size_setIfInBounds]; exact h.size, fun s hs hval => ?_⟩
  rw [getElem?_set hxs]
  by_cases h1 : s = x
  · exact ⟨v, by rw [if_pos h1], hv⟩
  · rw [if_neg h1]
    exact h.codes s hs hval

theorem boardInv_set {B : Array Nat} {x v : Nat} (h : BoardInv B) (hx : x ∈ sq88) (hv : v = 0 ∨ v ∈ pieceCodes)
    (hrank : (v = Gen.WPawn ∨ v = Gen.BPawn) → rankOf x ≠ Gen.Rank1 ∧ rankOf x ≠ Gen.Rank8) :
    BoardInv (B.setIfInBounds x v) := by
  obtain ⟨hx1, hx2⟩ := mem_sq88.mp hx
  have hxs : x < B.size := by rw [h.ok.size]; exact hx1
  refine ⟨boardOk_set h.ok hx hv, fun i hi hval => ?_, fun i hi => ?_⟩
  · rw [getElem?_set hxs, if_neg (fun e => by rw [e, hx2] at hval; cases hval)]
    exact h.offBoard i hi hval
  · rw [getElem?_set hxs] at hi
    by_cases h1 : i = x
    · rw [if_pos h1, Option.some.injEq, Option.some.injEq] at hi
      exact h1 ▸ hrank hi
    · rw [if_neg h1] at hi
      exact h.noBackPawn i hi

theorem boardInv_clear {B : Array Nat} {x : Nat} (h : BoardInv B) (hx : x ∈ sq88) : BoardInv (B.setIfInBounds x 0) :=
  boardInv_set h hx (.inl rfl) fun hp => absurd hp (by decide)

end Magog.MM
