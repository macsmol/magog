import Magog.Lemmas.MMCore

/-! Flags after `makeMove`: side to move flips, flags stay below 32, a castling right survives only if
    neither its king nor its rook moved and its rook was not captured; consequently
    `castlingConsistent` is preserved when the touched squares are accounted for. -/

namespace Magog.MM
open Magog Magog.Model Magog.Atk Magog.Geo Magog.Count

/-- `mmCorners` as a function of its four tests -/
def corners4 (f : Nat) (b1 b2 b3 b4 : Bool) (cK cQ eK eQ : Nat) : Nat :=
  let f := if b1 then clearBits f cQ else f
  let f := if b2 then clearBits f cK else f
  let f := if b3 then clearBits f eQ else f
  let f := if b4 then clearBits f eK else f
  f

theorem mmCorners_eq (f : Nat) (m : Move) (cr er cK cQ eK eQ : Nat) :
    mmCorners f m cr er cK cQ eK eQ =
      corners4 f (fileOf m.frm == Gen.A && rankOf m.frm == cr) (fileOf m.frm == Gen.H && rankOf m.frm == cr)
        (fileOf m.to == Gen.A && rankOf m.to == er) (fileOf m.to == Gen.H && rankOf m.to == er) cK cQ eK eQ := rfl

/-- flags after the move: `km` = the mover's king moved -/
def flagsAfter (w : Bool) (f : Nat) (km b1 b2 b3 b4 : Bool) : Nat :=
  corners4 (if km then clearBits f (flagK w ||| flagQ w) else f) b1 b2 b3 b4
    (flagK w) (flagQ w) (flagK (!w)) (flagQ (!w)) ^^^ FWhiteTurn

def cornerA (m : Move) (w : Bool) : Bool := fileOf m.frm == Gen.A && rankOf m.frm == homeRank w
def cornerH (m : Move) (w : Bool) : Bool := fileOf m.frm == Gen.H && rankOf m.frm == homeRank w
def cornerA' (m : Move) (w : Bool) : Bool := fileOf m.to == Gen.A && rankOf m.to == homeRank (!w)
def cornerH' (m : Move) (w : Bool) : Bool := fileOf m.to == Gen.H && rankOf m.to == homeRank (!w)

theorem newFlags_eq (w : Bool) (f : Nat) (km : Bool) (m : Move) :
    newFlags w (if km then clearBits f (flagK w ||| flagQ w) else f) m =
      flagsAfter w f km (cornerA m w) (cornerH m w) (cornerA' m w) (cornerH' m w) := rfl

theorem newFlags_eq' (w : Bool) (f : Nat) (m : Move) :
    newFlags w f m = flagsAfter w f false (cornerA m w) (cornerH m w) (cornerA' m w) (cornerH' m w) := rfl

def bools : List Bool := [false, true]

theorem mem_bools (b : Bool) : b ∈ bools := by cases b <;> decide

theorem flagsAfter_bits : ∀ f < 32, ∀ w km b1 b2 b3 b4 : Bool,
    flagsAfter w f km b1 b2 b3 b4 < 32 ∧
    (flagsAfter w f km b1 b2 b3 b4 &&& FWhiteTurn != 0) = !(f &&& FWhiteTurn != 0) ∧
    (flagsAfter w f km b1 b2 b3 b4 &&& flagK w != 0) = ((f &&& flagK w != 0) && !km && !b2) ∧
    (flagsAfter w f km b1 b2 b3 b4 &&& flagQ w != 0) = ((f &&& flagQ w != 0) && !km && !b1) ∧
    (flagsAfter w f km b1 b2 b3 b4 &&& flagK (!w) != 0) = ((f &&& flagK (!w) != 0) && !b4) ∧
    (flagsAfter w f km b1 b2 b3 b4 &&& flagQ (!w) != 0) = ((f &&& flagQ (!w) != 0) && !b3) := by
  decide +kernel

theorem flagsAfter_fin (w : Bool) (f : Nat) (hf : f < 32) (km b1 b2 b3 b4 : Bool) :
    flagsAfter w f km b1 b2 b3 b4 < 32 ∧
    (flagsAfter w f km b1 b2 b3 b4 &&& FWhiteTurn != 0) = !(f &&& FWhiteTurn != 0) ∧
    (flagsAfter w f km b1 b2 b3 b4 &&& flagK w ≠ 0 → f &&& flagK w ≠ 0 ∧ km = false ∧ b2 = false) ∧
    (flagsAfter w f km b1 b2 b3 b4 &&& flagQ w ≠ 0 → f &&& flagQ w ≠ 0 ∧ km = false ∧ b1 = false) ∧
    (flagsAfter w f km b1 b2 b3 b4 &&& flagK (!w) ≠ 0 → f &&& flagK (!w) ≠ 0 ∧ b4 = false) ∧
    (flagsAfter w f km b1 b2 b3 b4 &&& flagQ (!w) ≠ 0 → f &&& flagQ (!w) ≠ 0 ∧ b3 = false) := by
  obtain ⟨h0, h1, h2, h3, h4, h5⟩ := flagsAfter_bits f hf w km b1 b2 b3 b4
  refine ⟨h0, h1, fun h => ?_, fun h => ?_, fun h => ?_, fun h => ?_⟩
  · rw [← bne_iff_ne, h2] at h
    simpa only [Bool.and_eq_true, bne_iff_ne, Bool.not_eq_true', and_assoc] using h
  · rw [← bne_iff_ne, h3] at h
    simpa only [Bool.and_eq_true, bne_iff_ne, Bool.not_eq_true', and_assoc] using h
  · rw [← bne_iff_ne, h4] at h
    simpa only [Bool.and_eq_true, bne_iff_ne, Bool.not_eq_true'] using h
  · rw [← bne_iff_ne, h5] at h
    simpa only [Bool.and_eq_true, bne_iff_ne, Bool.not_eq_true'] using h

def kingHome (c : Bool) : Nat := if c then Gen.E1 else Gen.E8
def rookHomeK (c : Bool) : Nat := if c then Gen.H1 else Gen.H8
def rookHomeQ (c : Bool) : Nat := if c then Gen.A1 else Gen.A8
def rookOf (c : Bool) : Nat := if c then Gen.WRook else Gen.BRook

theorem rookOf_mem (c : Bool) : rookOf c ∈ officersOf c := by cases c <;> decide

def CastlingOk (B : Array Nat) (f : Nat) : Prop :=
  ∀ c : Bool,
    (f &&& flagK c ≠ 0 → B[kingHome c]? = some (kingOf c) ∧ B[rookHomeK c]? = some (rookOf c)) ∧
    (f &&& flagQ c ≠ 0 → B[kingHome c]? = some (kingOf c) ∧ B[rookHomeQ c]? = some (rookOf c))

theorem castlingConsistent_iff {p : Position} (hsz : p.board.size = 128) :
    castlingConsistent p = true ↔ CastlingOk p.board p.flags := by
  have e1 := @getElem?_iff_getD _ p.board Gen.E1 Gen.WKing 0 (by rw [hsz]; decide)
  have e2 := @getElem?_iff_getD _ p.board Gen.H1 Gen.WRook 0 (by rw [hsz]; decide)
  have e3 := @getElem?_iff_getD _ p.board Gen.A1 Gen.WRook 0 (by rw [hsz]; decide)
  have e4 := @getElem?_iff_getD _ p.board Gen.E8 Gen.BKing 0 (by rw [hsz]; decide)
  have e5 := @getElem?_iff_getD _ p.board Gen.H8 Gen.BRook 0 (by rw [hsz]; decide)
  have e6 := @getElem?_iff_getD _ p.board Gen.A8 Gen.BRook 0 (by rw [hsz]; decide)
  simp only [castlingConsistent, CastlingOk, Bool.forall_bool, kingHome, rookHomeK, rookHomeQ, rookOf, kingOf,
    flagK, flagQ, if_true, Bool.false_eq_true, if_false, Bool.and_eq_true, Bool.not_eq_true', Bool.and_eq_false_iff,
    bne_eq_false_iff_eq, Bool.or_eq_false_iff, e1, e2, e3, e4, e5, e6, ne_eq]
  constructor
  · rintro ⟨⟨⟨h1, h2⟩, h3⟩, h4⟩
    refine ⟨⟨fun h => ?_, fun h => ?_⟩, ⟨fun h => ?_, fun h => ?_⟩⟩
    · exact h3.resolve_left h
    · exact h4.resolve_left h
    · exact h1.resolve_left h
    · exact h2.resolve_left h
  · rintro ⟨⟨h3, h4⟩, ⟨h1, h2⟩⟩
    refine ⟨⟨⟨?_, ?_⟩, ?_⟩, ?_⟩
    · by_cases h : p.flags &&& FWK = 0
      · exact .inl h
      · exact .inr (h1 h)
    · by_cases h : p.flags &&& FWQ = 0
      · exact .inl h
      · exact .inr (h2 h)
    · by_cases h : p.flags &&& FBK = 0
      · exact .inl h
      · exact .inr (h3 h)
    · by_cases h : p.flags &&& FBQ = 0
      · exact .inl h
      · exact .inr (h4 h)

theorem corner_fin (c : Bool) (s : Nat) (hs : s < 128) :
    ((fileOf s == Gen.A && rankOf s == homeRank c) = true ↔ s = rookHomeQ c) ∧
    ((fileOf s == Gen.H && rankOf s == homeRank c) = true ↔ s = rookHomeK c) := by
  have : ∀ s ∈ List.range 128, ∀ c ∈ bools,
      ((fileOf s == Gen.A && rankOf s == homeRank c) = true ↔ s = rookHomeQ c) ∧
      ((fileOf s == Gen.H && rankOf s == homeRank c) = true ↔ s = rookHomeK c) := by decide +kernel
  exact this s (List.mem_range.mpr hs) c (mem_bools c)

theorem eq_or_eq_not (c w : Bool) : c = w ∨ c = !w := by cases c <;> cases w <;> decide

theorem rookOf_man (w : Bool) : Man w (rookOf w) := .inr (.inl (rookOf_mem w))
theorem kingOf_man (w : Bool) : Man w (kingOf w) := .inr (.inr rfl)
theorem kingOf_ne_rookOf (w c : Bool) : kingOf w ≠ rookOf c := by cases w <;> cases c <;> decide
theorem rookOf_ne_zero (w : Bool) : rookOf w ≠ 0 := by cases w <;> decide

/-- What may stand (`x`) on a square `s` that the move `m` of colour `w` rewrites (`km`: the mover's king
    moves), so that every castling right left by `flagsAfter` is still backed by king and rook at home: the
    mover's king only when `km`, the mover's rook only on `m.frm` or when `km`, never the other king, the
    other rook only on `m.to`. -/
def TouchOk (w km : Bool) (m : Move) (s x : Nat) : Prop :=
  (x = kingOf w → km = true) ∧ (x = rookOf w → s = m.frm ∨ km = true) ∧ x ≠ kingOf (!w) ∧
    (x = rookOf (!w) → s = m.to)

section
variable {w km : Bool} {m : Move} {s x : Nat}

theorem touchOk_frm (hman : Man w x) (hk : x = kingOf w → km = true) : TouchOk w km m m.frm x :=
  ⟨hk, fun _ => .inl rfl, fun e => man_not_other hman (e ▸ kingOf_man _),
    fun e => absurd (e ▸ rookOf_man _) (man_not_other hman)⟩

theorem touchOk_to (hnot : ¬ Man w x) (hnk : x ≠ kingOf (!w)) : TouchOk w km m m.to x :=
  ⟨fun e => absurd (e ▸ kingOf_man w) hnot, fun e => absurd (e ▸ rookOf_man w) hnot, hnk, fun _ => rfl⟩

theorem touchOk_zero : TouchOk w km m s 0 :=
  ⟨fun e => absurd e.symm (kingOf_ne_zero w), fun e => absurd e.symm (rookOf_ne_zero w),
    fun e => kingOf_ne_zero _ e.symm, fun e => absurd e.symm (rookOf_ne_zero _)⟩

theorem touchOk_pawn (c : Bool) : TouchOk w km m s (pawnOf c) :=
  ⟨fun e => absurd e (pawnOf_ne_kingOf c w), fun e => absurd (e ▸ rookOf_mem w) (pawnOf_not_officer c w),
    pawnOf_ne_kingOf c _, fun e => absurd (e ▸ rookOf_mem _) (pawnOf_not_officer c _)⟩

/-- the castling rook: the mover's king moves with it -/
theorem touchOk_rook : TouchOk w true m s (rookOf w) :=
  ⟨fun _ => rfl, fun _ => .inr rfl, fun e => kingOf_ne_rookOf _ _ e.symm,
    fun e => absurd (e ▸ rookOf_man _) (man_not_other (rookOf_man w))⟩

end

/-- Castling consistency after a move: `D` are the squares it rewrites. -/
theorem castlingOk_step {B B' : Array Nat} {f : Nat} {w km : Bool} {m : Move} (hf : f < 32)
    (hold : CastlingOk B f) (hfrm : m.frm < 128) (hto : m.to < 128) (D : List Nat)
    (hD : ∀ s, s ∉ D → B'[s]? = B[s]?) (hT : ∀ s ∈ D, ∀ x, B[s]? = some x → TouchOk w km m s x) :
    CastlingOk B' (flagsAfter w f km (cornerA m w) (cornerH m w) (cornerA' m w) (cornerH' m w)) := by
  obtain ⟨_, _, fK, fQ, fK', fQ'⟩ := flagsAfter_fin w f hf km (cornerA m w) (cornerH m w) (cornerA' m w) (cornerH' m w)
  have keep : ∀ s v, B[s]? = some v → (s ∈ D → False) → B'[s]? = some v := fun s v hv hn => by
    rw [hD s hn]; exact hv
  -- a surviving right of the mover: its corner test was false, so the rook at home is not the man on `m.frm`
  have own : ∀ {fl rk : Nat} {b : Bool}, (f &&& fl ≠ 0 → B[kingHome w]? = some (kingOf w) ∧ B[rk]? = some (rookOf w)) →
      (b = true ↔ m.frm = rk) → f &&& fl ≠ 0 ∧ km = false ∧ b = false →
      B'[kingHome w]? = some (kingOf w) ∧ B'[rk]? = some (rookOf w) := by
    intro fl rk b hhome hcorner ⟨h1, h2, h3⟩
    obtain ⟨hk, hr⟩ := hhome h1
    refine ⟨keep _ _ hk (fun hm => ?_), keep _ _ hr (fun hm => ?_)⟩
    · have := (hT _ hm _ hk).1 rfl
      rw [h2] at this; cases this
    · rcases (hT _ hm _ hr).2.1 rfl with e | e
      · rw [hcorner.mpr e.symm] at h3; cases h3
      · rw [h2] at e; cases e
  -- a surviving right of the other side: likewise for `m.to`; its king is never on a rewritten square
  have other : ∀ {fl rk : Nat} {b : Bool},
      (f &&& fl ≠ 0 → B[kingHome (!w)]? = some (kingOf (!w)) ∧ B[rk]? = some (rookOf (!w))) →
      (b = true ↔ m.to = rk) → f &&& fl ≠ 0 ∧ b = false →
      B'[kingHome (!w)]? = some (kingOf (!w)) ∧ B'[rk]? = some (rookOf (!w)) := by
    intro fl rk b hhome hcorner ⟨h1, h3⟩
    obtain ⟨hk, hr⟩ := hhome h1
    refine ⟨keep _ _ hk (fun hm => (hT _ hm _ hk).2.2.1 rfl), keep _ _ hr (fun hm => ?_)⟩
    rw [hcorner.mpr ((hT _ hm _ hr).2.2.2 rfl).symm] at h3
    cases h3
  intro c
  rcases eq_or_eq_not c w with rfl | rfl
  · exact ⟨fun h => own (hold c).1 (corner_fin c m.frm hfrm).2 (fK h),
      fun h => own (hold c).2 (corner_fin c m.frm hfrm).1 (fQ h)⟩
  · exact ⟨fun h => other (hold (!w)).1 (corner_fin (!w) m.to hto).2 (fK' h),
      fun h => other (hold (!w)).2 (corner_fin (!w) m.to hto).1 (fQ' h)⟩

end Magog.MM
