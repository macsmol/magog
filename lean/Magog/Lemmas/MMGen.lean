import Magog.Lemmas.GenGeo
import Magog.Lemmas.GenPure

/-! What `genPseudo` can generate on a well-formed position (`generated_cases`): a case analysis by move
    class with the facts each class provides, read off the pure move list of `GenPure` (`generated_mem` and
    the membership lemmas of its parts). Used by the refinement proof (`MakeMoveAbs`, `MakeMoveAbsBoard`: C02, second
    half) and by the invariant proof `makeMove_spec`; both also use the consequences of `Inv` at the head of the
    file. -/

namespace Magog.MM
open Magog Magog.Model Magog.Atk Magog.Geo Magog.Count Magog.GenGeo
open Magog.GenPure (PromoShape)

theorem king_unique {p : Position} {c : Bool} (hI : Inv p) {s : Nat} (hs : s ∈ sq88)
    (h : p.board[s]? = some (kingOf c)) : s = (p.side c).king :=
  ((hI.sideInv c).ok.at hs h).2.2.mpr rfl

theorem pawn_ranks {p : Position} (hI : Inv p) {w : Bool} {s : Nat} (hv : p.board[s]? = some (pawnOf w)) :
    rankOf s ≠ Gen.Rank1 ∧ rankOf s ≠ Gen.Rank8 :=
  hI.noBackPawn s (by cases w; exact .inr hv; exact .inl hv)

theorem castle_home {p : Position} (hI : Inv p) (w : Bool) :
    (p.flags &&& flagK w ≠ 0 → (p.side w).king = kingHome w ∧ p.board[rookHomeK w]? = some (rookOf w)) ∧
    (p.flags &&& flagQ w ≠ 0 → (p.side w).king = kingHome w ∧ p.board[rookHomeQ w]? = some (rookOf w)) := by
  have hold := (castlingConsistent_iff hI.board.size).mp hI.castling w
  exact ⟨fun h => ⟨(king_unique hI (castle_squares w).1 (hold.1 h).1).symm, (hold.1 h).2⟩,
    fun h => ⟨(king_unique hI (castle_squares w).1 (hold.2 h).1).symm, (hold.2 h).2⟩⟩

theorem epOk_of_ne {p : Position} (hI : Inv p) (h : p.ep ≠ InvalidSq) : FenSpec.EpOk p :=
  hI.ep.resolve_left h

theorem promo_zero_of_shape {w : Bool} {to k : Nat} (h : PromoShape (homeRank (!w)) to k)
    (h1 : rankOf to ≠ Gen.Rank1) (h8 : rankOf to ≠ Gen.Rank8) : k = 0 := by
  unfold PromoShape at h
  rw [if_neg (by cases w; exact h1; exact h8)] at h
  exact h

end Magog.MM

namespace Magog.MMAbs
open Magog Magog.Model Magog.Atk Magog.Geo Magog.Count Magog.MM

/-- `m` is one of the pseudo-legal moves the engine's generator emits in `p` -/
def Generated (p : Position) (m : Move) : Prop :=
  ∃ kt ms, genPseudo kt p = .ok ms ∧ m ∈ ms.map (·.mov)

/-! The constants by colour under the names the abstraction half (`MakeMoveAbs`, `Props/C02Abs`) is stated in. By
    unfolding `kFlagOf = flagK`, `qFlagOf = flagQ`, `kingHome88 = kingHome`, `rookK88 = rookHomeK`,
    `rookQ88 = rookHomeQ` (all in `MM`), and `Generated` above is `MM.Generated` (`LegalMoves.generated_iff`). -/

def kFlagOf (w : Bool) : Nat := if w then FWK else FBK
def qFlagOf (w : Bool) : Nat := if w then FWQ else FBQ

def kingHome88 (w : Bool) : Nat := if w then Gen.E1 else Gen.E8
def rookK88 (w : Bool) : Nat := if w then Gen.H1 else Gen.H8
def rookQ88 (w : Bool) : Nat := if w then Gen.A1 else Gen.A8

def PromoOk (k : Nat) : Prop := k = 0 ∨ k = Queen ∨ k = Rook ∨ k = Bishop ∨ k = Knight

theorem promoOk_of_shape {pr to k : Nat} (h : GenPure.PromoShape pr to k) : PromoOk k := by
  unfold GenPure.PromoShape at h
  split at h
  · simp only [promoKinds, List.mem_cons, List.not_mem_nil, or_false] at h
    exact .inr h
  · exact .inl h

/-- The eight classes of a generated move, each with what its two readers (`MM.makeMove_spec`, `abs_board_eq` and its
    neighbours) need: the cells read, as `p.board[_]? = some _`; a pawn's or the king's target by `addb` from `m.frm`
    (`d`: 255 queen side, 1 king side for a capture; the step for the king); `hmid` is the square passed over. -/
inductive GenCase (p : Position) (m : Move) : Prop
  | push (hfrm : m.frm ∈ sq88) (hpawn : p.board[m.frm]? = some (pawnOf (whiteTurn p)))
      (hto : m.to = addb m.frm (GenGeoO.advOf (whiteTurn p))) (hto88 : m.to ∈ sq88)
      (hempty : p.board[m.to]? = some 0) (hep : m.ep = InvalidSq)
      (hpromo : GenPure.PromoShape (homeRank (!whiteTurn p)) m.to m.promo)
  | dbl (hfrm : m.frm ∈ sq88) (hpawn : p.board[m.frm]? = some (pawnOf (whiteTurn p)))
      (hrank : rankOf m.frm = GenGeoO.startRankOf (whiteTurn p))
      (hto : m.to = addb (addb m.frm (GenGeoO.advOf (whiteTurn p))) (GenGeoO.advOf (whiteTurn p))) (hto88 : m.to ∈ sq88)
      (hempty : p.board[m.to]? = some 0) (hep : m.ep = addb m.frm (GenGeoO.advOf (whiteTurn p)))
      (hpromo : m.promo = 0) (hmid : p.board[m.ep]? = some 0)
  | capture (hfrm : m.frm ∈ sq88) (hpawn : p.board[m.frm]? = some (pawnOf (whiteTurn p)))
      (d : Nat) (hd : d = 255 ∨ d = 1) (hto : m.to = addb (addb m.frm (GenGeoO.advOf (whiteTurn p))) d)
      (hto88 : m.to ∈ sq88) (x : Nat) (hx : p.board[m.to]? = some x) (hen : x &&& colorBit (!whiteTurn p) ≠ 0)
      (hep : m.ep = InvalidSq) (hpromo : GenPure.PromoShape (homeRank (!whiteTurn p)) m.to m.promo)
  | enpassant (hfrm : m.frm ∈ sq88) (hpawn : p.board[m.frm]? = some (pawnOf (whiteTurn p)))
      (d : Nat) (hd : d = 255 ∨ d = 1) (hto : m.to = addb (addb m.frm (GenGeoO.advOf (whiteTurn p))) d)
      (hepsq : m.to = p.ep) (hepok : FenSpec.EpOk p) (hep : m.ep = InvalidSq) (hpromo : m.promo = 0)
  | officer (hfrm : m.frm ∈ sq88) (c : Nat) (hc : c ∈ officersOf (whiteTurn p))
      (hpc : p.board[m.frm]? = some c) (hto88 : m.to ∈ sq88) (x : Nat) (hx : p.board[m.to]? = some x)
      (hown : x &&& colorBit (whiteTurn p) = 0) (hep : m.ep = InvalidSq) (hpromo : m.promo = 0)
  | king (hk : m.frm = (p.side (whiteTurn p)).king) (d : Nat) (hd : d ∈ kingDirs)
      (hto : m.to = addb m.frm d) (hto88 : m.to ∈ sq88) (x : Nat) (hx : p.board[m.to]? = some x)
      (hown : x &&& colorBit (whiteTurn p) = 0) (hep : m.ep = InvalidSq) (hpromo : m.promo = 0)
  | castleK (hk : m.frm = (p.side (whiteTurn p)).king) (hflag : p.flags &&& kFlagOf (whiteTurn p) ≠ 0)
      (hhome : m.frm = kingHome88 (whiteTurn p)) (hto : m.to = (if whiteTurn p then Gen.G1 else Gen.G8))
      (hempty : p.board[m.to]? = some 0) (hep : m.ep = InvalidSq) (hpromo : m.promo = 0)
      (hmid : p.board[rookToK (whiteTurn p)]? = some 0)
  | castleQ (hk : m.frm = (p.side (whiteTurn p)).king) (hflag : p.flags &&& qFlagOf (whiteTurn p) ≠ 0)
      (hhome : m.frm = kingHome88 (whiteTurn p)) (hto : m.to = (if whiteTurn p then Gen.C1 else Gen.C8))
      (hempty : p.board[m.to]? = some 0) (hep : m.ep = InvalidSq) (hpromo : m.promo = 0)
      (hmid : p.board[rookToQ (whiteTurn p)]? = some 0)

/-- the castling squares as `GenPure.castleList` writes them -/
private theorem castle_names (w : Bool) :
    GenGeoO.kingHome w - 2 = kingToQ w ∧ GenGeoO.kingHome w - 1 = rookToQ w ∧
    GenGeoO.kingHome w + 2 = kingToK w ∧ GenGeoO.kingHome w + 1 = rookToK w := by
  cases w <;> decide

theorem generated_cases {p : Position} {m : Move} (hi : Inv p) (hg : Generated p m) : GenCase p m := by
  obtain ⟨kt, ms, hgen, hmem⟩ := hg
  obtain ⟨b, h⟩ := GenPure.generated_mem hi hgen hmem
  have env := GenPure.env_ctxW hi (whiteTurn p) Props.C18.killers_empty_size
  have c9 : (ctxW (whiteTurn p) p).promoRank = homeRank (!whiteTurn p) := promoRankOf_eq _
  have at88 : ∀ {s : Nat}, s ∈ sq88 → p.board[s]? = some (GenPure.cell p.board s) :=
    fun hs => GenPure.some_cell (GenPure.lt_size hi.board hs)
  simp only [GenPure.genList, ctx_eq, List.mem_append, List.mem_flatMap] at h
  rcases h with ((⟨frm, hfrm, h⟩ | ⟨frm, hfrm, h⟩) | h) | h
  · -- pawns
    obtain ⟨hf88, hcell, geo⟩ := GenPure.pawn_mem env hfrm
    have hv : p.board[frm]? = some (pawnOf (whiteTurn p)) := hcell ▸ at88 hf88
    -- both capture directions
    have capture : ∀ δ, (δ = 255 ∨ δ = 1) → addb (addb frm (GenGeoO.advOf (whiteTurn p))) δ ≠ InvalidSq →
        (m, b) ∈ GenPure.capList p.board (ctxW (whiteTurn p) p) p.ep frm
          (addb (addb frm (GenGeoO.advOf (whiteTurn p))) δ) → GenCase p m := by
      intro δ hδ hne h
      obtain ⟨h, hc⟩ := GenPure.capList_mem h
      obtain ⟨e1, e2, e3, e4, _⟩ := GenPure.pawnTo_mem h
      rw [← e2] at e4 hc
      subst e1
      rcases hc with ⟨hval, hen⟩ | hep
      · have h88 : m.to ∈ sq88 := e2 ▸ GenGeoO.addb_mem (e2 ▸ hval)
        exact .capture hf88 hv δ hδ e2 h88 _ (at88 h88) hen e3 (c9 ▸ e4)
      · have hok := epOk_of_ne hi (hep ▸ e2 ▸ hne)
        obtain ⟨_, _, _, q1, q8, _⟩ := epOk_facts rfl hok
        exact .enpassant hf88 hv δ hδ e2 hep hok e3 (promo_zero_of_shape (c9 ▸ e4) (hep ▸ q1) (hep ▸ q8))
    simp only [GenPure.pawnList, List.mem_append] at h
    rcases h with (h | h) | h
    · exact capture 255 (.inl rfl) geo.toQ_ne h
    · exact capture 1 (.inr rfl) geo.toK_ne h
    · obtain ⟨h0, h | ⟨e, hr, h2⟩⟩ := GenPure.pushList_mem h
      · obtain ⟨e1, e2, e3, e4, _⟩ := GenPure.pawnTo_mem h
        rw [← e2] at e4 h0
        subst e1
        have h88 : m.to ∈ sq88 := e2 ▸ geo.to1_mem
        exact .push hf88 hv e2 h88 (h0 ▸ at88 h88) e3 (c9 ▸ e4)
      · obtain rfl := congrArg Prod.fst e
        have h88 := geo.to2_mem hr
        exact .dbl hf88 hv hr rfl h88 (h2 ▸ at88 h88) rfl rfl (h0 ▸ at88 geo.to1_mem)
  · -- officers
    obtain ⟨hf88, hoff⟩ := GenPure.officer_mem env hfrm
    obtain ⟨t, ht, rfl, hc, _⟩ := GenPure.officerList_mem env hfrm h
    exact .officer hf88 _ hoff (at88 hf88) ht _ (at88 ht) hc rfl rfl
  · -- king steps
    obtain ⟨d, hd, rfl, ht, hc, _⟩ := GenPure.stepList_mem h
    exact .king rfl d hd rfl ht _ (at88 ht) hc rfl rfl
  · -- castling
    obtain ⟨nQ, nq, nK, nk⟩ := castle_names (whiteTurn p)
    obtain ⟨_, mq, mQ, _, mk, mK, _⟩ := GenGeoO.castle_sq (whiteTurn p)
    rcases GenPure.castleList_mem h with ⟨hq, rfl, h1, h2⟩ | ⟨hk, rfl, h1, h2⟩
    · obtain ⟨hking, _⟩ := env.castleQ hq
      rw [hking] at h1 h2
      exact .castleQ rfl (bne_iff_ne.1 hq) hking (hking ▸ nQ) (hking ▸ h2 ▸ at88 mQ) rfl rfl (nq ▸ h1 ▸ at88 mq)
    · obtain ⟨hking, _⟩ := env.castleK hk
      rw [hking] at h1 h2
      exact .castleK rfl (bne_iff_ne.1 hk) hking (hking ▸ nK) (hking ▸ h2 ▸ at88 mK) rfl rfl (nk ▸ h1 ▸ at88 mk)

end Magog.MMAbs
