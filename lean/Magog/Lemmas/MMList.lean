import Magog.Lemmas.MMBasic

/-! Specifications of the piece-list operations of `makeMove` (`replaceFirst`, the swap-remove of
    `kill` / promotion): membership, `Nodup`, length. -/

namespace Magog.MM
open Magog Magog.Model Magog.Count

theorem replaceFirst_cons (x : Nat) (xs : List Nat) (a b : Nat) :
    replaceFirst (x :: xs) a b = if x = a then b :: xs else x :: replaceFirst xs a b := by
  unfold replaceFirst
  rw [List.idxOf?_cons]
  by_cases h : x = a
  · simp [h]
  · have : (x == a) = false := by simpa using h
    simp only [this, Bool.false_eq_true, if_false, h]
    cases List.idxOf? a xs <;> simp

theorem replaceFirst_length (l : List Nat) (a b : Nat) : (replaceFirst l a b).length = l.length := by
  unfold replaceFirst
  split <;> simp

theorem replaceFirst_perm {l : List Nat} {a : Nat} (b : Nat) (ha : a ∈ l) :
    (replaceFirst l a b).Perm (b :: l.erase a) := by
  induction l with
  | nil => cases ha
  | cons x xs ih =>
    rw [replaceFirst_cons]
    by_cases h : x = a
    · rw [if_pos h, h, List.erase_cons_head]
    · rw [if_neg h, List.erase_cons_tail (by simpa using h)]
      have ha' : a ∈ xs := (List.mem_cons.mp ha).resolve_left fun e => h e.symm
      exact (List.Perm.cons x (ih ha')).trans (List.Perm.swap b x _)

theorem replaceFirst_mem {l : List Nat} {a b : Nat} (ha : a ∈ l) (hnd : l.Nodup) (s : Nat) :
    s ∈ replaceFirst l a b ↔ (s ∈ l ∧ s ≠ a) ∨ s = b := by
  rw [(replaceFirst_perm b ha).mem_iff, List.mem_cons, hnd.mem_erase_iff]
  exact ⟨fun h => h.elim .inr fun h => .inl ⟨h.2, h.1⟩, fun h => h.elim (fun h => .inr ⟨h.2, h.1⟩) .inl⟩

theorem replaceFirst_nodup {l : List Nat} {a b : Nat} (ha : a ∈ l) (hnd : l.Nodup) (hb : b ∉ l) :
    (replaceFirst l a b).Nodup := by
  rw [(replaceFirst_perm b ha).nodup_iff, List.nodup_cons]
  exact ⟨fun h => hb (List.mem_of_mem_erase h), hnd.erase a⟩

theorem dropLast_cons_getLastD_perm (x : Nat) : ∀ xs : List Nat, ((xs.getLastD x) :: xs).dropLast.Perm xs := by
  intro xs
  induction xs generalizing x with
  | nil => simp
  | cons y ys ih =>
    rw [List.getLastD_cons, List.dropLast_cons_of_ne_nil (by simp)]
    by_cases hys : ys = []
    · subst hys; simp
    · -- (ys.getLastD y :: (y :: ys).dropLast)  ~  y :: ys
      rw [List.dropLast_cons_of_ne_nil hys]
      have h1 := ih y
      rw [List.dropLast_cons_of_ne_nil hys] at h1
      exact (List.Perm.swap _ _ _).trans (List.Perm.cons y h1)

theorem swapRemove_perm : ∀ (l : List Nat) (i : Nat), i < l.length → (swapRemove l i).Perm (l.eraseIdx i) := by
  intro l
  induction l with
  | nil => intro i hi; simp at hi
  | cons x xs ih =>
    intro i hi
    cases i with
    | zero =>
      unfold swapRemove
      simp only [List.set_cons_zero, List.eraseIdx_cons_zero, List.getLastD_cons]
      exact dropLast_cons_getLastD_perm x xs
    | succ j =>
      have hj : j < xs.length := by simpa using hi
      have hne : xs ≠ [] := by intro e; subst e; simp at hj
      obtain ⟨y, ys, rfl⟩ := List.exists_cons_of_ne_nil hne
      have h := ih j hj
      unfold swapRemove at h ⊢
      rw [List.getLastD_cons] at h
      rw [List.set_cons_succ, List.eraseIdx_cons_succ, List.dropLast_cons_of_ne_nil (by simp), List.getLastD_cons,
        List.getLastD_cons]
      exact List.Perm.cons x h

theorem swapRemove_erase {l : List Nat} {a i : Nat} (hi : l.idxOf? a = some i) :
    a ∈ l ∧ (swapRemove l i).Perm (l.erase a) := by
  obtain ⟨hil, hli, _⟩ := List.idxOf?_eq_some_iff.mp hi
  refine ⟨hli ▸ List.getElem_mem hil, ?_⟩
  rw [List.erase_eq_eraseIdx, hi]
  exact swapRemove_perm l i hil

theorem swapRemove_len {l : List Nat} {a i : Nat} (hi : l.idxOf? a = some i) :
    (swapRemove l i).length + 1 = l.length := by
  obtain ⟨hmem, hp⟩ := swapRemove_erase hi
  rw [hp.length_eq, List.length_erase_of_mem hmem]
  have := List.length_pos_of_mem hmem
  omega

theorem swapRemove_spec {l : List Nat} {a i : Nat} (hi : l.idxOf? a = some i) (hnd : l.Nodup) :
    (∀ s, s ∈ swapRemove l i ↔ s ∈ l ∧ s ≠ a) ∧ (swapRemove l i).Nodup ∧
      (swapRemove l i).length + 1 = l.length := by
  have hp := (swapRemove_erase hi).2
  refine ⟨fun s => ?_, hp.nodup_iff.mpr (hnd.erase a), swapRemove_len hi⟩
  rw [hp.mem_iff, hnd.mem_erase_iff]
  exact And.comm

theorem idxOf?_of_mem {l : List Nat} {a : Nat} (h : a ∈ l) : ∃ i, l.idxOf? a = some i :=
  Option.isSome_iff_exists.1 (List.isSome_idxOf?.2 h)

theorem kill_spec {l : List Nat} {a : Nat} (what : String) (h : a ∈ l) (hnd : l.Nodup) :
    ∃ l', kill l a what = .ok l' ∧ (∀ s, s ∈ l' ↔ s ∈ l ∧ s ≠ a) ∧ l'.Nodup ∧ l'.length + 1 = l.length := by
  obtain ⟨i, hi⟩ := idxOf?_of_mem h
  exact ⟨swapRemove l i, kill_ok_iff.mpr ⟨i, hi, rfl⟩, swapRemove_spec hi hnd⟩

theorem kill_perm {l l' : List Nat} {a : Nat} {what : String} (h : kill l a what = .ok l') :
    a ∈ l ∧ l'.Perm (l.erase a) := by
  obtain ⟨i, hi, rfl⟩ := kill_ok_iff.mp h
  exact swapRemove_erase hi

theorem kill_len {l l' : List Nat} {a : Nat} {what : String} (h : kill l a what = .ok l') :
    l'.length + 1 = l.length := by
  obtain ⟨i, hi, rfl⟩ := kill_ok_iff.mp h
  exact swapRemove_len hi

end Magog.MM
