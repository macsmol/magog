import Magog.Lemmas.MMClosed

/-! `makeMove` advances the ply counter by one (with int16 wrap) and flips the side to move —
    unconditionally (no invariant needed). -/

namespace Magog.MM
open Magog Magog.Model Magog.Count

theorem clearBits_bit0 (x m : Nat) (hm : m &&& 1 = 0) : clearBits x m &&& 1 = x &&& 1 := by
  unfold clearBits
  rw [Nat.and_assoc, Nat.and_xor_distrib_right, hm]
  rfl

theorem xor_one_bit0 (x : Nat) : ((x ^^^ 1) &&& 1 != 0) = !(x &&& 1 != 0) := by
  rw [Nat.and_xor_distrib_right]
  have : x &&& 1 = 0 ∨ x &&& 1 = 1 := by rw [Nat.and_one_is_mod]; omega
  rcases this with h | h <;> rw [h] <;> rfl

theorem mmCorners_bit0 (f : Nat) (m : Move) (cr er cK cQ eK eQ : Nat) (h1 : cK &&& 1 = 0) (h2 : cQ &&& 1 = 0)
    (h3 : eK &&& 1 = 0) (h4 : eQ &&& 1 = 0) : mmCorners f m cr er cK cQ eK eQ &&& 1 = f &&& 1 := by
  have key : ∀ (c : Bool) (x q : Nat), q &&& 1 = 0 → (if c then clearBits x q else x) &&& 1 = x &&& 1 := by
    intro c x q hq
    cases c
    · rfl
    · exact clearBits_bit0 x q hq
  unfold mmCorners
  simp only []
  rw [key _ _ _ h3, key _ _ _ h4, key _ _ _ h1, key _ _ _ h2]

theorem or_bit0 {a b : Nat} (ha : a &&& 1 = 0) (hb : b &&& 1 = 0) : (a ||| b) &&& 1 = 0 := by
  rw [Nat.and_or_distrib_right, ha, hb]; rfl

theorem flag_bit0 (w : Bool) : flagK w &&& 1 = 0 ∧ flagQ w &&& 1 = 0 := by cases w <;> decide

theorem makeMove_ply_aux {p : Position} {m : Move} {p' : Position} {b : Bool} (h : makeMove p m = .ok (p', b)) :
    p'.ply = wrap16 (p.ply + 1) ∧ whiteTurn p' = !whiteTurn p := by
  obtain ⟨fp, _, cur1, en1, _, _, _, _, _, _, rfl⟩ := makeMove_ok_closed rfl h
  refine ⟨mkPos_ply _ _ _ _ _ _ _, ?_⟩
  obtain ⟨k1, k2⟩ := flag_bit0 (whiteTurn p)
  obtain ⟨k3, k4⟩ := flag_bit0 (!whiteTurn p)
  show ((mkPos p _ _ cur1 en1 _ m.ep).flags &&& 1 != 0) = !(p.flags &&& 1 != 0)
  rw [mkPos_flags, flagsOf, newFlags]
  show ((_ ^^^ 1) &&& 1 != 0) = _
  rw [xor_one_bit0, mmCorners_bit0 _ _ _ _ _ _ _ _ k1 k2 k3 k4]
  split
  · rw [clearBits_bit0 _ _ (or_bit0 k1 k2)]
  · rfl

end Magog.MM
