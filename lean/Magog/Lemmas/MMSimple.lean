import Magog.Lemmas.MMStages
import Magog.Spec.MakeMove

/-! `makeMove` on a simple move (one man goes from `frm` to `to`, possibly capturing a non-king man,
    possibly promoting; no castling, no en-passant capture): explicit result and invariant. The stage
    facts are proved for the wider class `Total.MoveOk` of the totality proof (`MoveOk.stages`), of which
    `SimpleMove` is a special case. Also the generic final step (`finish`) shared with the castling and
    en-passant cases. -/

namespace Magog.MM
open Magog Magog.Model Magog.Atk Magog.Geo Magog.Count

theorem homeRanks (w : Bool) {r : Nat} (h1 : r ≠ homeRank w) (h2 : r ≠ homeRank (!w)) :
    r ≠ Gen.Rank1 ∧ r ≠ Gen.Rank8 := by
  cases w
  · exact ⟨h2, h1⟩
  · exact ⟨h1, h2⟩

theorem whiteTurn_flagsAfter {p : Position} {w : Bool} (hw : whiteTurn p = w) (hf : p.flags < 32)
    (B : Array Nat) (cur en : Side) (km b1 b2 b3 b4 : Bool) (e : Nat) :
    whiteTurn (mkPos p w B cur en (flagsAfter w p.flags km b1 b2 b3 b4) e) = !w := by
  have := (flagsAfter_fin w p.flags hf km b1 b2 b3 b4).2.1
  unfold whiteTurn at hw ⊢
  rw [mkPos_flags, this, hw]

/-- From the three stage equations and the invariants of their results to the conclusion of `makeMove_spec`. `km` says
    whether the man on `m.frm` is the king (`mmMover` then returns the flags without the mover's two rights), as in
    `flagsAfter`. -/
theorem finish {p : Position} {m : Move} {w km : Bool} (hI : Inv p) (hw : whiteTurn p = w)
    {B1 : Array Nat} {cur1 en1 : Side} {B2 : Array Nat} {en2 : Side}
    (h1 : mmMover p.board p.flags (p.side w) m (colorBit w) (homeRank w) (flagK w) (flagQ w)
      = .ok (B1, (if km then clearBits p.flags (flagK w ||| flagQ w) else p.flags), cur1))
    (h2 : mmCapture B1 (p.side (!w)) m (colorBit (!w)) = .ok en1)
    (h3 : mmBoard B1 en1 m p.ep (colorBit w) = .ok (B2, en2))
    (hb : BoardInv B2) (hc : SideInv B2 cur1 w) (he : SideInv B2 en2 (!w))
    (hcast : CastlingOk B2 (flagsAfter w p.flags km (cornerA m w) (cornerH m w) (cornerA' m w) (cornerH' m w)))
    (hep : m.ep = InvalidSq ∨
      FenSpec.EpOk (mkPos p w B2 cur1 en2
        (flagsAfter w p.flags km (cornerA m w) (cornerH m w) (cornerA' m w) (cornerH' m w)) m.ep)) :
    ∃ p' b, makeMove p m = .ok (p', b) ∧ Inv p' ∧ (b = true ↔ OppSafe p') := by
  have hk : cur1.king ∈ sq88 := hc.ok.king_cell.1
  have h4 := isUnderCheck_eq (d := cur1.king) hb.ok he.ok hk
  have hmm := makeMove_eq hw h1 h2 h3 h4
  rw [newFlags_eq] at hmm
  refine ⟨_, _, hmm, ?_, ?_⟩
  · have hfl := (flagsAfter_fin w p.flags hI.flags km (cornerA m w) (cornerH m w) (cornerA' m w) (cornerH' m w)).1
    apply inv_of_parts
    · rw [mkPos_board]; exact hb
    · rw [mkPos_board]
      cases w
      · exact he
      · exact hc
    · rw [mkPos_board]
      cases w
      · exact hc
      · exact he
    · rw [mkPos_flags]; exact hfl
    · rw [castlingConsistent_iff (by rw [mkPos_board]; exact hb.ok.size), mkPos_board, mkPos_flags]
      exact hcast
    · rw [mkPos_ep]; exact hep
  · unfold OppSafe
    rw [whiteTurn_flagsAfter hw hI.flags, Bool.not_not, mkPos_board, mkPos_side_en, mkPos_side_cur, h4]
    cases Spec.attacked (absBoard B2) (colorOf !w) (to64 cur1.king) <;> simp

/-- The class of the invariant proof (`simple_result`): `v` stands on `frm`, `t` on `to`. Against `Total.MoveOk` below
    it forbids the capture of the king and keeps the generator's discipline of promotion (`promo`, `pawnRank`), which
    `Inv` of the result needs; `SimpleMove.moveOk` is the inclusion. -/
structure SimpleMove (p : Position) (w : Bool) (m : Move) (v t : Nat) : Prop where
  frm : m.frm ∈ sq88
  to : m.to ∈ sq88
  hv : p.board[m.frm]? = some v
  man : Man w v
  ht : p.board[m.to]? = some t
  tgt : t = 0 ∨ t = pawnOf (!w) ∨ t ∈ officersOf (!w)
  promo : v = pawnOf w → (if rankOf m.to = homeRank (!w) then m.promo ∈ promoKinds else m.promo = 0)
  pawnRank : v = pawnOf w → rankOf m.to ≠ homeRank w
  notEp : v = pawnOf w → m.to ≠ p.ep
  nonPawn : v ≠ pawnOf w → m.promo = 0
  notCastle : v = kingOf w → ¬ (fileOf m.frm = Gen.E ∧ (fileOf m.to = Gen.C ∨ fileOf m.to = Gen.G))

theorem man_pawn_code {w : Bool} {v : Nat} (h : Man w v) (hp : v = Gen.WPawn ∨ v = Gen.BPawn) : v = pawnOf w := by
  have : ∀ w : Bool, ∀ v ∈ pieceCodes, Man w v → (v = Gen.WPawn ∨ v = Gen.BPawn) → v = pawnOf w := by decide +kernel
  exact this w v (man_mem_codes h) h hp

end Magog.MM

namespace Magog.Total
open Magog Magog.Model Magog.Atk Magog.Geo Magog.MM Magog.Count

/-- The class of the totality proof (`makeMove_total_of_moveOk` in `TotalMM`, whose namespace it carries): one man of
    the side to move goes from frm to to; the target is empty or ANY enemy man (also the king); a pawn may arrive on the
    last rank with promo = 0; no en-passant capture, no castling shape. It is defined here because `MoveOk.stages`
    serves both proofs. `Mir.MoveOk` (`MirrorMake`) is a third, unrelated predicate. -/
structure MoveOk (p : Position) (w : Bool) (m : Move) (v t : Nat) : Prop where
  frm : m.frm ∈ sq88
  to : m.to ∈ sq88
  hv : p.board[m.frm]? = some v
  man : Man w v
  ht : p.board[m.to]? = some t
  tgt : t = 0 ∨ Man (!w) t
  promo : v = pawnOf w → m.promo = 0 ∨ m.promo ∈ promoKinds
  nonPawn : v ≠ pawnOf w → m.promo = 0
  notEp : v = pawnOf w → m.to ≠ p.ep
  notCastle : v = kingOf w → ¬ (fileOf m.frm = Gen.E ∧ (fileOf m.to = Gen.C ∨ fileOf m.to = Gen.G))

/-- What a simple move does before the capture is looked at: origin and target differ, the man written to
    the target is the mover's, the mover stage updates the lists and leaves the board alone, and the board
    stage is the two-square update, whatever the other side's lists are. -/
theorem MoveOk.stages {p : Position} {w : Bool} {m : Move} {v t : Nat} (hB : BoardInv p.board)
    (hcur : SideInv p.board (p.side w) w) (h : MoveOk p w m v t) :
    ¬ Man w t ∧ m.frm ≠ m.to ∧ Man w (if m.promo = 0 then v else m.promo ||| colorBit w) ∧
    (∃ cur', mmMover p.board p.flags (p.side w) m (colorBit w) (homeRank w) (flagK w) (flagQ w)
        = .ok (p.board, (if v = kingOf w then clearBits p.flags (flagK w ||| flagQ w) else p.flags), cur') ∧
      ListSpec (p.side w) cur' w m.frm m.to (if m.promo = 0 then v else m.promo ||| colorBit w)) ∧
    ∀ en', mmBoard p.board en' m p.ep (colorBit w) = .ok ((p.board.setIfInBounds m.to
      (if m.promo = 0 then v else m.promo ||| colorBit w)).setIfInBounds m.frm 0, en') := by
  have hf : m.frm < p.board.size := by rw [hB.ok.size]; exact (mem_sq88.mp h.frm).1
  have ht : m.to < p.board.size := by rw [hB.ok.size]; exact (mem_sq88.mp h.to).1
  have hnot : ¬ Man w t := by
    rcases h.tgt with rfl | ht
    · exact fun h => man_ne_zero h rfl
    · exact fun h' => man_not_other h' ht
  refine ⟨hnot, fun e => ?_, ?_, mover_simple hcur h.frm h.hv h.man h.ht hnot h.promo h.nonPawn h.notCastle,
    fun en' => ?_⟩
  · have := h.hv; rw [e, h.ht] at this; cases this; exact hnot h.man
  · by_cases h0 : m.promo = 0
    · rw [if_pos h0]; exact h.man
    · rw [if_neg h0]
      have hvp : v = pawnOf w := Classical.byContradiction fun e => h0 (h.nonPawn e)
      exact .inr (.inl (promo_code_mem w ((h.promo hvp).resolve_left h0)))
  · by_cases h0 : m.promo = 0
    · rw [if_pos h0]
      refine mmBoard_plain hf ht h0 h.hv ?_
      rintro ⟨e1, e2⟩
      rw [pawn_code] at e2
      exact h.notEp e2 e1.symm
    · rw [if_neg h0]
      exact mmBoard_promo hf ht h0

end Magog.Total

namespace Magog.MM
open Magog Magog.Model Magog.Atk Magog.Geo Magog.Count

theorem SimpleMove.moveOk {p : Position} {w : Bool} {m : Move} {v t : Nat} (hs : SimpleMove p w m v t) :
    Total.MoveOk p w m v t :=
  { frm := hs.frm, to := hs.to, hv := hs.hv, man := hs.man, ht := hs.ht
    tgt := hs.tgt.imp_right fun h => h.elim .inl fun h => .inr (.inl h)
    promo := fun e => by
      have := hs.promo e
      split at this
      · exact .inr this
      · exact .inl this
    nonPawn := hs.nonPawn, notEp := hs.notEp, notCastle := hs.notCastle }

/-- the result of a simple move, before the en-passant field is considered -/
theorem simple_result {p : Position} {w : Bool} {m : Move} {v t : Nat} (hI : Inv p) (hw : whiteTurn p = w)
    (hs : SimpleMove p w m v t)
    (hep : ∀ B' cur' en' f', Upd2 p.board B' m.frm m.to (if m.promo = 0 then v else m.promo ||| colorBit w) →
      whiteTurn (mkPos p w B' cur' en' f' m.ep) = (!w) →
      m.ep = InvalidSq ∨ FenSpec.EpOk (mkPos p w B' cur' en' f' m.ep)) :
    ∃ p' b, makeMove p m = .ok (p', b) ∧ Inv p' ∧ (b = true ↔ OppSafe p') := by
  have hB := hI.boardInv
  have hcur := hI.sideInv w
  have hen := hI.sideInv (!w)
  obtain ⟨hf1, hf2⟩ := mem_sq88.mp hs.frm
  obtain ⟨ht1, ht2⟩ := mem_sq88.mp hs.to
  obtain ⟨hnot, hne, hv', ⟨cur', h1, hspec1⟩, h3⟩ := hs.moveOk.stages hB hcur
  obtain ⟨en', h2, hspec2⟩ := victim_simple hen hs.to hs.hv hs.man hs.ht hs.tgt hv'
  have hU := upd2_set (v' := if m.promo = 0 then v else m.promo ||| colorBit w) hB.ok.size hf1 ht1
  have hkm : (if v = kingOf w then clearBits p.flags (flagK w ||| flagQ w) else p.flags) =
      (if (decide (v = kingOf w)) = true then clearBits p.flags (flagK w ||| flagQ w) else p.flags) := by simp
  rw [hkm] at h1
  refine finish (km := decide (v = kingOf w)) hI hw h1 h2 (h3 en') ?_ (sideInv_upd2 hcur hs.to hne hU hspec1)
    (sideInv_upd2 hen hs.to hne hU hspec2) ?_ ?_
  · -- board
    refine boardInv_clear (boardInv_set hB hs.to (.inr (man_mem_codes hv')) fun hp => ?_) hs.frm
    by_cases h0 : m.promo = 0
    · rw [if_pos h0] at hp
      have hvp := man_pawn_code hs.man hp
      have h := hs.promo hvp
      have hr : rankOf m.to ≠ homeRank (!w) := by
        intro e
        rw [if_pos e, h0] at h
        exact promoKinds_ne_zero h rfl
      exact homeRanks w (hs.pawnRank hvp) hr
    · rw [if_neg h0] at hp
      have hvp : v = pawnOf w := Classical.byContradiction fun e => h0 (hs.nonPawn e)
      have hm := promo_code_mem w ((hs.moveOk.promo hvp).resolve_left h0)
      exact absurd (man_pawn_code (.inr (.inl hm)) hp ▸ hm) (pawnOf_not_officer w w)
  · -- castling
    have hold := (castlingConsistent_iff hB.ok.size).mp hI.castling
    refine castlingOk_step hI.flags hold hf1 ht1 [m.frm, m.to] (fun s hs' => ?_) (fun s hs' x hx => ?_)
    · simp only [List.mem_cons, List.not_mem_nil, or_false, not_or] at hs'
      rw [hU.2 s, if_neg hs'.1, if_neg hs'.2]
    · simp only [List.mem_cons, List.not_mem_nil, or_false] at hs'
      rcases hs' with rfl | rfl
      · rw [hs.hv] at hx
        cases hx
        exact touchOk_frm hs.man decide_eq_true
      · rw [hs.ht] at hx
        cases hx
        refine touchOk_to hnot fun e => ?_
        rcases hs.tgt with h | h | h
        · exact kingOf_ne_zero (!w) (e ▸ h)
        · exact pawnOf_ne_kingOf (!w) (!w) (e ▸ h).symm
        · exact kingOf_not_officer (!w) (!w) (e ▸ h)
  · exact hep _ _ _ _ hU (whiteTurn_flagsAfter hw hI.flags _ _ _ _ _ _ _ _ _)

end Magog.MM
