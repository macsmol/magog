import Magog.Lemmas.MMSimple
import Magog.Lemmas.InvFen

/-! `makeMove` on the two compound moves: castling (king move + rook move) and the en-passant capture
    (pawn move + removal of the passed pawn). -/

namespace Magog.MM
open Magog Magog.Model Magog.Atk Magog.Geo Magog.Count

theorem upd2_set' {B : Array Nat} {frm to v' : Nat} (hsz : B.size = 128) (hf : frm < 128) (ht : to < 128)
    (hne : frm ≠ to) : Upd2 B ((B.setIfInBounds frm 0).setIfInBounds to v') frm to v' := by
  rw [Array.setIfInBounds_comm _ _ hne]
  exact upd2_set hsz hf ht

theorem not_man_zero (w : Bool) : ¬ Man w 0 := fun h => man_ne_zero h rfl

theorem rook_code (w : Bool) : Rook ||| colorBit w = rookOf w := by cases w <;> decide

/-- Castling as two `Upd2` steps: the rook from `rf` to `rt` (done on the board by `mmMover`), then the king (by
    `mmBoard`). The rook's squares are tied to the move only by `hhop`, so that both wings and colours are instances. -/
theorem castle_result {p : Position} {w : Bool} {m : Move} {rf rt : Nat} (hI : Inv p) (hw : whiteTurn p = w)
    (hfrm : m.frm ∈ sq88) (hto : m.to ∈ sq88) (hrf : rf ∈ sq88) (hrt : rt ∈ sq88)
    (hk : p.board[m.frm]? = some (kingOf w)) (hr : p.board[rf]? = some (rookOf w))
    (h0 : p.board[rt]? = some 0) (h0' : p.board[m.to]? = some 0) (hne : m.to ≠ rt)
    (hpromo : m.promo = 0) (hmep : m.ep = InvalidSq)
    (hhop : rookHop m.frm m.to (homeRank w) = some (rf, rt)) :
    ∃ p' b, makeMove p m = .ok (p', b) ∧ Inv p' ∧ (b = true ↔ OppSafe p') := by
  have hB := hI.boardInv
  have hcur := hI.sideInv w
  have hen := hI.sideInv (!w)
  obtain ⟨hf1, _⟩ := mem_sq88.mp hfrm
  obtain ⟨ht1, _⟩ := mem_sq88.mp hto
  obtain ⟨hrf1, _⟩ := mem_sq88.mp hrf
  obtain ⟨hrt1, _⟩ := mem_sq88.mp hrt
  have h1 : mmMover p.board p.flags (p.side w) m (colorBit w) (homeRank w) (flagK w) (flagQ w) =
      .ok ((p.board.setIfInBounds rf 0).setIfInBounds rt (rookOf w), clearBits p.flags (flagK w ||| flagQ w),
        { (p.side w) with king := m.to, pieces := replaceFirst (p.side w).pieces rf rt }) := by
    rw [mmMover_king hk (by rw [pawn_code]; exact (pawnOf_ne_kingOf w w).symm) ((hcur.ok.at hfrm hk).2.2.mpr rfl), hhop]
    simp only [bset_of_lt, Array.size_setIfInBounds, hB.ok.size, hrf1, hrt1, ok_bind, pure_eq_ok, rook_code]
  have n1 : m.frm ≠ rf := fun e => by rw [e, hr] at hk; exact kingOf_ne_rookOf w w (Option.some.inj hk).symm
  have n2 : m.frm ≠ rt := fun e => by rw [e, h0] at hk; exact kingOf_ne_zero w (Option.some.inj hk).symm
  have n3 : m.frm ≠ m.to := fun e => by rw [e, h0'] at hk; exact kingOf_ne_zero w (Option.some.inj hk).symm
  have n4 : rf ≠ rt := fun e => by rw [e, h0] at hr; exact rookOf_ne_zero w (Option.some.inj hr).symm
  have n5 : rf ≠ m.to := fun e => by rw [e, h0'] at hr; exact rookOf_ne_zero w (Option.some.inj hr).symm
  -- step A: the rook
  have hUA := upd2_set' (v' := rookOf w) hB.ok.size hrf1 hrt1 n4
  have hcurA := sideInv_upd2 hcur hrt n4 hUA (listSpec_officer hcur hrf hr (rookOf_mem w) h0 (not_man_zero w))
  have henA := sideInv_upd2 hen hrt n4 hUA (listSpec_quiet hen hr (rookOf_man w) h0 (rookOf_man w))
  have hBA := boardInv_set (boardInv_clear hB hrf) hrt (.inr (man_mem_codes (rookOf_man w)))
    (fun h => absurd (man_pawn_code (rookOf_man w) h ▸ rookOf_mem w) (pawnOf_not_officer w w))
  have hk1 : ((p.board.setIfInBounds rf 0).setIfInBounds rt (rookOf w))[m.frm]? = some (kingOf w) := by
    rw [hUA.2, if_neg n1, if_neg n2]; exact hk
  have h01 : ((p.board.setIfInBounds rf 0).setIfInBounds rt (rookOf w))[m.to]? = some 0 := by
    rw [hUA.2, if_neg (fun e => n5 e.symm), if_neg hne]; exact h0'
  -- step B: the king
  have h2 : mmCapture ((p.board.setIfInBounds rf 0).setIfInBounds rt (rookOf w)) (p.side (!w)) m (colorBit (!w))
      = .ok (p.side (!w)) := by
    rw [mmCapture_eq h01, if_pos (.inl rfl)]
  have h3 := mmBoard_plain (en := p.side (!w)) (ep := p.ep) (cc := colorBit w) (by rw [hBA.ok.size]; exact hf1)
    (by rw [hBA.ok.size]; exact ht1) hpromo hk1
    (by rintro ⟨_, e⟩; rw [pawn_code] at e; exact pawnOf_ne_kingOf w w e.symm)
  have hUB := upd2_set (v' := kingOf w) hBA.ok.size hf1 ht1
  have hcurB := sideInv_upd2 hcurA hto n3 hUB (listSpec_king hcurA hfrm hk1 h01 (not_man_zero w))
  have henB := sideInv_upd2 henA hto n3 hUB (listSpec_quiet henA hk1 (kingOf_man w) h01 (kingOf_man w))
  have hBB := boardInv_clear (boardInv_set hBA hto (.inr (man_mem_codes (kingOf_man w)))
    (fun h => absurd (man_pawn_code (kingOf_man w) h).symm (pawnOf_ne_kingOf w w))) hfrm
  refine finish (km := true) hI hw (by rw [if_pos rfl]; exact h1) h2 h3 hBB hcurB henB ?_ (.inl hmep)
  have hold := (castlingConsistent_iff hB.ok.size).mp hI.castling
  refine castlingOk_step hI.flags hold hf1 ht1 [m.frm, m.to, rf, rt] (fun s hs' => ?_) (fun s hs' x hx => ?_)
  · simp only [List.mem_cons, List.not_mem_nil, or_false, not_or] at hs'
    rw [hUB.2 s, if_neg hs'.1, if_neg hs'.2.1, hUA.2 s, if_neg hs'.2.2.1, if_neg hs'.2.2.2]
  · simp only [List.mem_cons, List.not_mem_nil, or_false] at hs'
    rcases hs' with rfl | rfl | rfl | rfl
    · rw [hk] at hx; cases hx; exact touchOk_frm (kingOf_man w) fun _ => rfl
    · rw [h0'] at hx; cases hx; exact touchOk_zero
    · rw [hr] at hx; cases hx; exact touchOk_rook
    · rw [h0] at hx; cases hx; exact touchOk_zero

def kingToK (w : Bool) : Nat := if w then Gen.G1 else Gen.G8
def kingToQ (w : Bool) : Nat := if w then Gen.C1 else Gen.C8
def rookToK (w : Bool) : Nat := if w then Gen.F1 else Gen.F8
def rookToQ (w : Bool) : Nat := if w then Gen.D1 else Gen.D8
def knightQ (w : Bool) : Nat := if w then Gen.B1 else Gen.B8

theorem castle_squares (w : Bool) :
    kingHome w ∈ sq88 ∧ kingToK w ∈ sq88 ∧ kingToQ w ∈ sq88 ∧ rookHomeK w ∈ sq88 ∧ rookHomeQ w ∈ sq88 ∧
    rookToK w ∈ sq88 ∧ rookToQ w ∈ sq88 ∧ kingToK w ≠ rookToK w ∧ kingToQ w ≠ rookToQ w := by
  cases w <;> decide

theorem rookHop_castle (w : Bool) :
    rookHop (kingHome w) (kingToK w) (homeRank w) = some (rookHomeK w, rookToK w) ∧
    rookHop (kingHome w) (kingToQ w) (homeRank w) = some (rookHomeQ w, rookToQ w) := by
  cases w <;> decide

theorem castleK_result {p : Position} {w : Bool} {m : Move} (hI : Inv p) (hw : whiteTurn p = w)
    (hflag : p.flags &&& flagK w ≠ 0) (hfrm : m.frm = kingHome w) (hto : m.to = kingToK w)
    (h1 : p.board[rookToK w]? = some 0) (h2 : p.board[m.to]? = some 0) (hpromo : m.promo = 0)
    (hmep : m.ep = InvalidSq) : ∃ p' b, makeMove p m = .ok (p', b) ∧ Inv p' ∧ (b = true ↔ OppSafe p') := by
  have hold := (castlingConsistent_iff hI.board.size).mp hI.castling
  obtain ⟨hk, hr⟩ := (hold w).1 hflag
  obtain ⟨s1, s2, _, s4, _, s6, _, s8, _⟩ := castle_squares w
  have hhop := (rookHop_castle w).1
  rw [← hfrm] at s1 hk hhop
  rw [← hto] at s2 s8 hhop
  exact castle_result hI hw s1 s2 s4 s6 hk hr h1 h2 s8 hpromo hmep hhop

theorem castleQ_result {p : Position} {w : Bool} {m : Move} (hI : Inv p) (hw : whiteTurn p = w)
    (hflag : p.flags &&& flagQ w ≠ 0) (hfrm : m.frm = kingHome w) (hto : m.to = kingToQ w)
    (h1 : p.board[rookToQ w]? = some 0) (h2 : p.board[m.to]? = some 0) (hpromo : m.promo = 0)
    (hmep : m.ep = InvalidSq) : ∃ p' b, makeMove p m = .ok (p', b) ∧ Inv p' ∧ (b = true ↔ OppSafe p') := by
  have hold := (castlingConsistent_iff hI.board.size).mp hI.castling
  obtain ⟨hk, hr⟩ := (hold w).2 hflag
  obtain ⟨s1, _, s3, _, s5, _, s7, _, s9⟩ := castle_squares w
  have hhop := (rookHop_castle w).2
  rw [← hfrm] at s1 hk hhop
  rw [← hto] at s3 s9 hhop
  exact castle_result hI hw s1 s3 s5 s7 hk hr h1 h2 s9 hpromo hmep hhop


/-- The square one rank from `s` towards the home rank of colour `w`, "behind" as the mover `w` sees it: for `s = p.ep`
    where the pawn to be captured stands (`epOk_facts`); `epConsistent` in `Model/Fen.lean` calls that square `front`.
    In namespace `GenGeo` because `GenGeo.PawnSq` is stated with it, and `GenGeo.lean` imports this file. -/
def _root_.Magog.GenGeo.behind (w : Bool) (s : Nat) : Nat := if w then s - Gen.UnitRank else s + Gen.UnitRank

theorem epOk_facts {p : Position} {w : Bool} (hw : whiteTurn p = w) (h : FenSpec.EpOk p) :
    p.ep < 128 ∧ isValid p.ep = true ∧ p.board[p.ep]? = some 0 ∧ rankOf p.ep ≠ Gen.Rank1 ∧ rankOf p.ep ≠ Gen.Rank8 ∧
      p.board[GenGeo.behind w p.ep]? = some (pawnOf (!w)) := by
  obtain ⟨h1, h2, h3, h4⟩ := h
  rw [hw] at h4
  cases w
  · simp only [Bool.false_eq_true, if_false] at h4
    refine ⟨h1, h2, h3, ?_, ?_, h4.2.1⟩ <;> rw [h4.1] <;> decide
  · simp only [if_true] at h4
    refine ⟨h1, h2, h3, ?_, ?_, h4.2.1⟩ <;> rw [h4.1] <;> decide

/-- The en-passant capture: a pawn move to the empty square `p.ep` (`Upd2`), then the clearing of the victim's square.
    `hkill` equates the two names of that square: `mmBoard` computes it from the file of `m.to` and the rank of `m.frm`,
    `FenSpec.EpOk` puts the enemy pawn on `GenGeo.behind w p.ep`; `pawn_ep_spec` gets it from `PawnSq.cap88`. -/
theorem ep_result {p : Position} {w : Bool} {m : Move} (hI : Inv p) (hw : whiteTurn p = w)
    (hf : m.frm ∈ (p.side w).pawns) (hto : m.to = p.ep) (hepok : FenSpec.EpOk p)
    (hkill : (fileOf m.to + rankOf m.frm) % 256 = GenGeo.behind w p.ep)
    (hpromo : m.promo = 0) (hmep : m.ep = InvalidSq) :
    ∃ p' b, makeMove p m = .ok (p', b) ∧ Inv p' ∧ (b = true ↔ OppSafe p') := by
  have hB := hI.boardInv
  have hcur := hI.sideInv w
  have hen := hI.sideInv (!w)
  obtain ⟨e1, e2, e3, e4, e5, e6⟩ := epOk_facts hw hepok
  rw [← hto] at e1 e2 e3 e4 e5
  have hto88 : m.to ∈ sq88 := mem_sq88.mpr ⟨e1, e2⟩
  obtain ⟨hfrm, hv⟩ := hcur.ok.pawn_cell hf
  obtain ⟨hf1, _⟩ := mem_sq88.mp hfrm
  -- the victim square
  have hK : GenGeo.behind w p.ep ∈ sq88 := by
    have := InvFen.valid_of_ne_zero hB.ok.size hB.offBoard e6 (pawnOf_ne_zero _)
    exact mem_sq88.mpr this
  obtain ⟨hK1, _⟩ := mem_sq88.mp hK
  have nKf : GenGeo.behind w p.ep ≠ m.frm := fun e => by
    rw [e, hv] at e6; exact pawnOf_ne_not w (Option.some.inj e6)
  have nKt : GenGeo.behind w p.ep ≠ m.to := fun e => by
    rw [e, e3] at e6; exact pawnOf_ne_zero _ (Option.some.inj e6).symm
  have hman : Man w (pawnOf w) := .inl rfl
  have hd := pawnOf_ne_kingOf w w
  -- the pawn move
  obtain ⟨cur', h1, hspec1⟩ := mover_simple (flags := p.flags) hcur hfrm hv hman e3 (not_man_zero w)
    (fun _ => .inl hpromo) (fun _ => hpromo) (fun e => absurd e hd)
  rw [if_pos hpromo] at hspec1
  rw [if_neg hd] at h1
  obtain ⟨en', h2, hspec2⟩ := victim_simple (v' := pawnOf w) hen hto88 hv hman e3 (.inl rfl) hman
  have hne : m.frm ≠ m.to := fun e => by rw [e, e3] at hv; exact pawnOf_ne_zero _ (Option.some.inj hv).symm
  have hU := upd2_set (v' := pawnOf w) hB.ok.size hf1 e1
  have hcur1 := sideInv_upd2 hcur hto88 hne hU hspec1
  have hen1 := sideInv_upd2 hen hto88 hne hU hspec2
  have hB1 := boardInv_clear (boardInv_set hB hto88 (.inr (man_mem_codes hman)) (fun _ => ⟨e4, e5⟩)) hfrm
  have hK1c : ((p.board.setIfInBounds m.to (pawnOf w)).setIfInBounds m.frm 0)[GenGeo.behind w p.ep]? = some (pawnOf (!w)) := by
    rw [hU.2, if_neg nKf, if_neg nKt]; exact e6
  -- the removal
  have hKmem : GenGeo.behind w p.ep ∈ en'.pawns := (hen1.ok.at hK hK1c).1.mpr rfl
  obtain ⟨l', hk, hm, hnd, hlen⟩ := kill_spec "enemyPawns(ep)" hKmem hen1.ndPawns
  have hsz1 : ((p.board.setIfInBounds m.to (pawnOf w)).setIfInBounds m.frm 0).size = 128 := hB1.ok.size
  have h3 : mmBoard p.board en' m p.ep (colorBit w) =
      .ok ((((p.board.setIfInBounds m.to (pawnOf w)).setIfInBounds m.frm 0).setIfInBounds (GenGeo.behind w p.ep) 0),
        { en' with pawns := l' }) := by
    have hsz := hB.ok.size
    rw [Array.setIfInBounds_comm _ _ (fun e => nKf e.symm),
      mmBoard_ep (by rw [hsz]; exact hf1) (by rw [hsz]; exact e1) (by rw [hsz, hkill]; exact hK1) hpromo
        (by rw [pawn_code]; exact hv) hto.symm, hkill, hk, pawn_code]
    rfl
  have hK1s : GenGeo.behind w p.ep < ((p.board.setIfInBounds m.to (pawnOf w)).setIfInBounds m.frm 0).size := by
    rw [hsz1]; exact hK1
  -- invariants after the removal
  have hnotK : ¬ Man w (pawnOf (!w)) := fun h => man_not_other h (.inl rfl)
  obtain ⟨kp, kq, kk⟩ := hcur1.ok.not_mem_of_not_man hK1c hnotK
  have hcur2 : SideInv (((p.board.setIfInBounds m.to (pawnOf w)).setIfInBounds m.frm 0).setIfInBounds (GenGeo.behind w p.ep) 0)
      cur' w :=
    ⟨sideOk_clear hcur1.ok hK1s (mem_iff_of_not_mem kp) (mem_iff_of_not_mem kq) rfl (fun e => kk e.symm),
      hcur1.ndPawns, hcur1.ndPieces, hcur1.lenPawns, hcur1.len⟩
  obtain ⟨_, aq', ak'⟩ := hen1.ok.at hK hK1c
  have kq' : GenGeo.behind w p.ep ∉ en'.pieces := fun h => pawnOf_not_officer _ _ (aq'.mp h)
  have kk' : en'.king ≠ GenGeo.behind w p.ep := fun h => pawnOf_ne_kingOf _ _ (ak'.mp h.symm)
  have hen2 : SideInv (((p.board.setIfInBounds m.to (pawnOf w)).setIfInBounds m.frm 0).setIfInBounds (GenGeo.behind w p.ep) 0)
      { en' with pawns := l' } (!w) :=
    ⟨sideOk_clear hen1.ok hK1s hm (mem_iff_of_not_mem kq') rfl kk',
      hnd, hen1.ndPieces, by have := hen1.lenPawns; dsimp only; omega, by have := hen1.len; dsimp only; omega⟩
  have hB2 := boardInv_clear hB1 hK
  refine finish (km := false) hI hw (by simpa using h1) h2 h3 hB2 hcur2 hen2 ?_ (.inl hmep)
  have hold := (castlingConsistent_iff hB.ok.size).mp hI.castling
  refine castlingOk_step hI.flags hold hf1 e1 [m.frm, m.to, GenGeo.behind w p.ep] (fun s hs' => ?_) (fun s hs' x hx => ?_)
  · simp only [List.mem_cons, List.not_mem_nil, or_false, not_or] at hs'
    rw [getElem?_set hK1s 0, if_neg hs'.2.2, hU.2 s, if_neg hs'.1, if_neg hs'.2.1]
  · simp only [List.mem_cons, List.not_mem_nil, or_false] at hs'
    rcases hs' with rfl | rfl | rfl
    · rw [hv] at hx; cases hx; exact touchOk_pawn w
    · rw [e3] at hx; cases hx; exact touchOk_zero
    · rw [e6] at hx; cases hx; exact touchOk_pawn (!w)

end Magog.MM
