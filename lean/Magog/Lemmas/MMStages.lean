import Magog.Lemmas.MMFlags

/-! The list stages of `makeMove` (`mmMover`, `mmCapture`) for a simple move (one man goes from
    `frm` to `to`, possibly capturing, possibly promoting): they succeed and transform each side's lists
    according to `ListSpec`. -/

namespace Magog.MM
open Magog Magog.Model Magog.Atk Magog.Geo Magog.Count

theorem not_man_facts {c : Bool} {v : Nat} (h : ¬ Man c v) :
    v ≠ pawnOf c ∧ v ∉ officersOf c ∧ v ≠ kingOf c :=
  ⟨fun e => h (.inl e), fun e => h (.inr (.inl e)), fun e => h (.inr (.inr e))⟩

section
variable {B : Array Nat} {cur : Side} {w : Bool} {frm to v t : Nat}

theorem listSpec_pawn (hs : SideInv B cur w) (hf : frm ∈ sq88) (hv : B[frm]? = some (pawnOf w))
    (htv : B[to]? = some t) (hnot : ¬ Man w t) :
    ListSpec cur { cur with pawns := replaceFirst cur.pawns frm to } w frm to (pawnOf w) := by
  obtain ⟨htp, htq, htk⟩ := hs.ok.not_mem_of_not_man htv hnot
  obtain ⟨ap, aq, ak⟩ := hs.ok.at hf hv
  have hfp := ap.mpr rfl
  have hfq : frm ∉ cur.pieces := fun hm => pawnOf_not_officer w w (aq.mp hm)
  have hfk : frm ≠ cur.king := fun hm => pawnOf_ne_kingOf w w (ak.mp hm)
  exact ⟨fun s => spec_moved (replaceFirst_mem hfp hs.ndPawns s) htp rfl,
    spec_same hfq htq (pawnOf_not_officer w w), spec_same hfk htk (pawnOf_ne_kingOf w w),
    replaceFirst_nodup hfp hs.ndPawns htp, hs.ndPieces, (replaceFirst_length cur.pawns frm to).symm ▸ hs.lenPawns,
    (replaceFirst_length cur.pawns frm to).symm ▸ hs.len⟩

theorem listSpec_promo (hs : SideInv B cur w) (hf : frm ∈ sq88) (hv : B[frm]? = some (pawnOf w))
    (htv : B[to]? = some t) (hnot : ¬ Man w t) (hoff : v ∈ officersOf w) {i : Nat}
    (hi : cur.pawns.idxOf? frm = some i) :
    ListSpec cur { cur with pawns := swapRemove cur.pawns i, pieces := cur.pieces ++ [to] } w frm to v := by
  obtain ⟨htp, htq, htk⟩ := hs.ok.not_mem_of_not_man htv hnot
  obtain ⟨ap, aq, ak⟩ := hs.ok.at hf hv
  have hfq : frm ∉ cur.pieces := fun hm => pawnOf_not_officer w w (aq.mp hm)
  have hfk : frm ≠ cur.king := fun hm => pawnOf_ne_kingOf w w (ak.mp hm)
  obtain ⟨_, e1, e2⟩ := officer_man hoff
  obtain ⟨hm, hnd, hlen⟩ := swapRemove_spec hi hs.ndPawns
  refine ⟨fun s => spec_lost_frm (hm s) htp e1,
    fun s => spec_gained (by rw [List.mem_append, List.mem_singleton]) hfq htq hoff, spec_same hfk htk e2, hnd, ?_, ?_, ?_⟩
  · dsimp only
    rw [List.nodup_append]
    refine ⟨hs.ndPieces, by simp, fun a ha b hb => ?_⟩
    rw [List.mem_singleton.mp hb]
    exact fun e => htq (e ▸ ha)
  · dsimp only; have := hs.lenPawns; omega
  · dsimp only; rw [List.length_append, List.length_singleton]; have := hs.len; omega

theorem listSpec_officer (hs : SideInv B cur w) (hf : frm ∈ sq88) (hv : B[frm]? = some v) (hvo : v ∈ officersOf w)
    (htv : B[to]? = some t) (hnot : ¬ Man w t) :
    ListSpec cur { cur with pieces := replaceFirst cur.pieces frm to } w frm to v := by
  obtain ⟨htp, htq, htk⟩ := hs.ok.not_mem_of_not_man htv hnot
  obtain ⟨ap, aq, ak⟩ := hs.ok.at hf hv
  have hfq := aq.mpr hvo
  obtain ⟨_, hvp, hvk⟩ := officer_man hvo
  exact ⟨spec_same (fun hm => hvp (ap.mp hm)) htp hvp, fun s => spec_moved (replaceFirst_mem hfq hs.ndPieces s) htq hvo,
    spec_same (fun hm => hvk (ak.mp hm)) htk hvk, hs.ndPawns, replaceFirst_nodup hfq hs.ndPieces htq, hs.lenPawns,
    (replaceFirst_length cur.pieces frm to).symm ▸ hs.len⟩

theorem listSpec_king (hs : SideInv B cur w) (hf : frm ∈ sq88) (hv : B[frm]? = some (kingOf w))
    (htv : B[to]? = some t) (hnot : ¬ Man w t) :
    ListSpec cur { cur with king := to } w frm to (kingOf w) := by
  obtain ⟨htp, htq, htk⟩ := hs.ok.not_mem_of_not_man htv hnot
  obtain ⟨ap, aq, ak⟩ := hs.ok.at hf hv
  have hfk : frm = cur.king := ak.mpr rfl
  exact ⟨spec_same (fun hm => pawnOf_ne_kingOf w w (ap.mp hm).symm) htp (pawnOf_ne_kingOf w w).symm,
    spec_same (fun hm => kingOf_not_officer w w (aq.mp hm)) htq (kingOf_not_officer w w),
    fun s => ⟨fun e => .inr ⟨e, rfl⟩, fun h => h.elim (fun h => absurd (h.2.2.trans hfk.symm) h.1) (·.1)⟩,
    hs.ndPawns, hs.ndPieces, hs.lenPawns, hs.len⟩

end

theorem mover_simple {B : Array Nat} {flags : Nat} {cur : Side} {m : Move} {w : Bool} {v t : Nat}
    (hs : SideInv B cur w) (hf : m.frm ∈ sq88)
    (hv : B[m.frm]? = some v) (hman : Man w v) (htv : B[m.to]? = some t) (hnot : ¬ Man w t)
    (hpromo : v = pawnOf w → m.promo = 0 ∨ m.promo ∈ promoKinds)
    (hnp : v ≠ pawnOf w → m.promo = 0)
    (hnc : v = kingOf w → ¬ (fileOf m.frm = Gen.E ∧ (fileOf m.to = Gen.C ∨ fileOf m.to = Gen.G))) :
    ∃ cur', mmMover B flags cur m (colorBit w) (homeRank w) (flagK w) (flagQ w)
        = .ok (B, (if v = kingOf w then clearBits flags (flagK w ||| flagQ w) else flags), cur') ∧
      ListSpec cur cur' w m.frm m.to (if m.promo = 0 then v else m.promo ||| colorBit w) := by
  obtain ⟨ap, aq, ak⟩ := hs.ok.at hf hv
  rcases hman with rfl | hvo | rfl
  · have hv' : B[m.frm]? = some (Pawn ||| colorBit w) := by rw [pawn_code]; exact hv
    rw [if_neg (pawnOf_ne_kingOf w w)]
    rcases hpromo rfl with h0 | hk
    · rw [if_pos h0]
      exact ⟨_, mmMover_pawn hv' h0, listSpec_pawn hs hf hv htv hnot⟩
    · have hk0 := promoKinds_ne_zero hk
      obtain ⟨i, hi⟩ := idxOf?_of_mem (ap.mpr rfl)
      have hcap : cur.pieces.length < pieceCap := by
        have := hs.len
        have := swapRemove_len hi
        omega
      rw [if_neg hk0]
      refine ⟨_, ?_, listSpec_promo hs hf hv htv hnot (promo_code_mem w hk) hi⟩
      rw [mmMover_promo hv' hk0, hi]
      simp only [appendCap, hcap, if_true, pure_eq_ok, Except.map]
  · obtain ⟨_, hvp, hvk⟩ := officer_man hvo
    rw [if_neg hvk, if_pos (hnp hvp)]
    exact ⟨_, mmMover_officer hv (by rw [pawn_code]; exact hvp) (fun e => hvk (ak.mp e)),
      listSpec_officer hs hf hv hvo htv hnot⟩
  · have hvp : kingOf w ≠ pawnOf w := fun e => pawnOf_ne_kingOf w w e.symm
    rw [if_pos rfl, if_pos (hnp hvp)]
    refine ⟨_, ?_, listSpec_king hs hf hv htv hnot⟩
    rw [mmMover_king hv (by rw [pawn_code]; exact hvp) (ak.mpr rfl), rookHop_none (hnc rfl)]

theorem capture_cases {B : Array Nat} {en : Side} {m : Move} {c : Bool} {t : Nat}
    (hs : SideInv B en c) (hto : m.to ∈ sq88) (htv : B[m.to]? = some t) (ht : t = 0 ∨ Man c t) :
    ∃ en', mmCapture B en m (colorBit c) = .ok en' ∧ en'.king = en.king ∧
      (∀ s, s ∈ en'.pawns ↔ s ∈ en.pawns ∧ s ≠ m.to) ∧ (∀ s, s ∈ en'.pieces ↔ s ∈ en.pieces ∧ s ≠ m.to) ∧
      en'.pawns.Nodup ∧ en'.pieces.Nodup ∧ en'.pawns.length ≤ en.pawns.length ∧
      en'.pawns.length + en'.pieces.length ≤ en.pawns.length + en.pieces.length := by
  obtain ⟨ap, aq, _⟩ := hs.ok.at hto htv
  have d1 := pawnOf_not_officer c c
  have d2 := pawnOf_ne_kingOf c c
  have d3 := kingOf_not_officer c c
  rw [mmCapture_eq htv, king_code, pawn_code]
  rcases ht with rfl | rfl | ho | rfl
  · exact ⟨en, by rw [if_pos (.inl rfl)], rfl, mem_iff_of_not_mem fun h => pawnOf_ne_zero c (ap.mp h).symm,
      mem_iff_of_not_mem fun h => officer_ne_zero (aq.mp h) rfl, hs.ndPawns, hs.ndPieces, Nat.le_refl _, Nat.le_refl _⟩
  · obtain ⟨l', hk, hm, hnd, hlen⟩ := kill_spec "enemyPawns" (ap.mpr rfl) hs.ndPawns
    refine ⟨{ en with pawns := l' }, ?_, rfl, hm, mem_iff_of_not_mem fun h => d1 (aq.mp h), hnd, hs.ndPieces, ?_, ?_⟩
    · rw [if_neg (fun h => h.elim (pawnOf_ne_zero _) d2), if_pos rfl, hk]
      rfl
    · dsimp only; omega
    · dsimp only; omega
  · obtain ⟨_, htp, htk⟩ := officer_man ho
    obtain ⟨l', hk, hm, hnd, hlen⟩ := kill_spec "enemyPieces" (aq.mpr ho) hs.ndPieces
    refine ⟨{ en with pieces := l' }, ?_, rfl, mem_iff_of_not_mem fun h => htp (ap.mp h), hm, hs.ndPawns, hnd,
      Nat.le_refl _, ?_⟩
    · rw [if_neg (fun h => h.elim (officer_ne_zero ho) htk), if_neg htp, hk]
      rfl
    · dsimp only; omega
  · exact ⟨en, by rw [if_pos (.inr rfl)], rfl, mem_iff_of_not_mem fun h => d2 (ap.mp h).symm,
      mem_iff_of_not_mem fun h => d3 (aq.mp h), hs.ndPawns, hs.ndPieces, Nat.le_refl _, Nat.le_refl _⟩

theorem victim_simple {B : Array Nat} {en : Side} {m : Move} {w : Bool} {v t v' : Nat}
    (hs : SideInv B en (!w)) (hto : m.to ∈ sq88)
    (hv : B[m.frm]? = some v) (hman : Man w v) (htv : B[m.to]? = some t)
    (ht : t = 0 ∨ t = pawnOf (!w) ∨ t ∈ officersOf (!w)) (hv' : Man w v') :
    ∃ en', mmCapture B en m (colorBit (!w)) = .ok en' ∧ ListSpec en en' (!w) m.frm m.to v' := by
  have hnv : ¬ Man (!w) v := fun h => man_not_other h (by simpa using hman)
  have hnv' : ¬ Man (!w) v' := fun h => man_not_other h (by simpa using hv')
  obtain ⟨hfp, hfq, hfk⟩ := hs.ok.not_mem_of_not_man hv hnv
  obtain ⟨n1, n2, n3⟩ := not_man_facts hnv'
  have htk : m.to ≠ en.king := fun e => by
    have := ((hs.ok.at hto htv).2.2.mp e)
    rcases ht with h | h | h
    · exact kingOf_ne_zero _ (this.symm.trans h)
    · exact pawnOf_ne_kingOf _ _ (h.symm.trans this)
    · exact kingOf_not_officer _ _ (this ▸ h)
  obtain ⟨en', h, hk, hp, hq, nd1, nd2, l1, l2⟩ :=
    capture_cases hs hto htv (ht.imp_right fun h => h.elim .inl fun h => .inr (.inl h))
  exact ⟨en', h, fun s => spec_lost_to (hp s) hfp n1, fun s => spec_lost_to (hq s) hfq n2,
    hk.symm ▸ spec_same hfk htk n3, nd1, nd2, Nat.le_trans l1 hs.lenPawns, Nat.le_trans l2 hs.len⟩

theorem listSpec_quiet {B : Array Nat} {en : Side} {w : Bool} {frm to v v' : Nat}
    (hs : SideInv B en (!w)) (hv : B[frm]? = some v) (hman : Man w v) (htv : B[to]? = some 0)
    (hv' : Man w v') : ListSpec en en (!w) frm to v' := by
  have hnv : ¬ Man (!w) v := fun h => man_not_other h (by simpa using hman)
  have hnv' : ¬ Man (!w) v' := fun h => man_not_other h (by simpa using hv')
  obtain ⟨hfp, hfq, hfk⟩ := hs.ok.not_mem_of_not_man hv hnv
  obtain ⟨n1, n2, n3⟩ := not_man_facts hnv'
  have hnt : ¬ Man (!w) 0 := fun h => man_ne_zero h rfl
  obtain ⟨htp, htq, htk⟩ := hs.ok.not_mem_of_not_man htv hnt
  exact ⟨spec_same hfp htp n1, spec_same hfq htq n2, spec_same hfk htk n3, hs.ndPawns, hs.ndPieces, hs.lenPawns, hs.len⟩

end Magog.MM
