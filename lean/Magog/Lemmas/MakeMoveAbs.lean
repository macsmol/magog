import Magog.Lemmas.MMGen
import Magog.Lemmas.MMPly
import Magog.AbsMove
import Magog.Lemmas.PseudoSpec

/-! C02, second half: `makeMove` commutes with the abstraction to the rules-of-chess specification
    (`abs p' = Spec.apply (abs p) (absMove m)`) for every generated move on a well-formed position.
    This file: common facts of generated moves, the flag arithmetic, side to move, en-passant target,
    castling rights. The board equation is in `MakeMoveAbsBoard.lean`. -/

namespace Magog.MMAbs
open Magog Magog.Model Magog.Atk Magog.Geo Magog.Count Magog.MM

def kindOf (v : Nat) : Spec.Kind :=
  match decodePiece v with
  | some m => m.kind
  | none => .pawn

theorem own_facts : ∀ w : Bool, ∀ fp ∈ pieceCodes, Man w fp →
    decodePiece fp = some ⟨colorOf w, kindOf fp⟩ ∧
    (kindOf fp == .pawn) = (fp == pawnOf w) ∧ (kindOf fp == .king) = (fp == kingOf w) := by decide +kernel

theorem decode_rookOf (w : Bool) : decodePiece (rookOf w) = some ⟨colorOf w, .rook⟩ := by cases w <;> rfl

/-- What all classes of `GenCase` share (`gen_common`): an own man `fp` on `m.frm` and on `m.to` a cell `tp` without
    the mover's colour bit. The flag, side-to-move and castling equations need no more; the en-passant and board
    equations take the class as well. -/
structure Common (p : Position) (m : Move) (fp tp : Nat) : Prop where
  frm88 : m.frm ∈ sq88
  to88 : m.to ∈ sq88
  hfp : p.board[m.frm]? = some fp
  own : Man (whiteTurn p) fp
  htp : p.board[m.to]? = some tp
  notOwn : tp &&& colorBit (whiteTurn p) = 0

theorem gen_common {p : Position} {m : Move} (hi : Inv p) (hc : GenCase p m) : ∃ fp tp, Common p m fp tp := by
  have hz : ∀ w, 0 &&& colorBit w = 0 := fun w => Nat.zero_and _
  cases hc with
  | push hfrm hpawn hto hto88 hempty hep hpromo =>
    exact ⟨_, 0, hfrm, hto88, hpawn, .inl rfl, hempty, hz _⟩
  | dbl hfrm hpawn hrank hto hto88 hempty hep hpromo =>
    exact ⟨_, 0, hfrm, hto88, hpawn, .inl rfl, hempty, hz _⟩
  | capture hfrm hpawn d hd hto hto88 x hx hen hep hpromo =>
    obtain ⟨h1, h2⟩ := mem_sq88.mp hto88
    obtain ⟨v, hv, hcode⟩ := hi.board.codes _ h1 h2
    rw [hx] at hv; cases hv
    exact ⟨_, x, hfrm, hto88, hpawn, .inl rfl, hx, other_bit ((man_iff_bit hcode).mpr hen)⟩
  | enpassant hfrm hpawn d hd hto hepsq hepok hep hpromo =>
    obtain ⟨h1, h2, h3, _⟩ := hepok
    exact ⟨_, 0, hfrm, hepsq ▸ mem_sq88.mpr ⟨h1, h2⟩, hpawn, .inl rfl, hepsq ▸ h3, hz _⟩
  | officer hfrm c hc hpc hto88 x hx hown hep hpromo =>
    exact ⟨c, x, hfrm, hto88, hpc, .inr (.inl hc), hx, hown⟩
  | king hk d hd hto hto88 x hx hown hep hpromo =>
    obtain ⟨h1, h2⟩ := (hi.side (whiteTurn p)).king_cell
    exact ⟨_, x, hk ▸ h1, hto88, hk ▸ h2, .inr (.inr rfl), hx, hown⟩
  | castleK hk hflag hhome hto hempty hep hpromo =>
    obtain ⟨h1, h2⟩ := (hi.side (whiteTurn p)).king_cell
    exact ⟨_, 0, hk ▸ h1, hto ▸ (castle_squares _).2.1, hk ▸ h2, .inr (.inr rfl), hempty, hz _⟩
  | castleQ hk hflag hhome hto hempty hep hpromo =>
    obtain ⟨h1, h2⟩ := (hi.side (whiteTurn p)).king_cell
    exact ⟨_, 0, hk ▸ h1, hto ▸ (castle_squares _).2.2.1, hk ▸ h2, .inr (.inr rfl), hempty, hz _⟩

theorem abs_at (p : Position) (s : Nat) : (abs p).at s = (absBoard p.board).getD s none := by
  unfold Spec.Pos.at abs
  rfl

namespace Common
variable {p : Position} {m : Move} {fp tp : Nat}

theorem facts (hc : Common p m fp tp) :
    decodePiece fp = some ⟨colorOf (whiteTurn p), kindOf fp⟩ ∧
    (kindOf fp == .pawn) = (fp == pawnOf (whiteTurn p)) ∧ (kindOf fp == .king) = (fp == kingOf (whiteTurn p)) :=
  own_facts _ fp (man_mem_codes hc.own) hc.own

theorem fp_of (hc : Common p m fp tp) {v : Nat} (hv : p.board[m.frm]? = some v) : fp = v :=
  Option.some.inj (hc.hfp.symm.trans hv)

theorem frm_ne (hc : Common p m fp tp) {s v : Nat} (hs : p.board[s]? = some v)
    (hv : v &&& colorBit (whiteTurn p) = 0) : m.frm ≠ s := by
  intro h
  have := hc.hfp
  rw [h, hs] at this
  cases this
  exact own_bit hc.own hv

theorem to_ne (hc : Common p m fp tp) {s v : Nat} (hs : p.board[s]? = some v)
    (hv : v &&& colorBit (whiteTurn p) ≠ 0) : m.to ≠ s := by
  intro h
  have := hc.htp
  rw [h, hs] at this
  cases this
  exact hv hc.notOwn

theorem frm_ne_to (hc : Common p m fp tp) : m.frm ≠ m.to :=
  hc.frm_ne hc.htp hc.notOwn

theorem king_iff (hc : Common p m fp tp) (hi : Inv p) :
    m.frm = (p.side (whiteTurn p)).king ↔ fp = kingOf (whiteTurn p) :=
  ((hi.side _).at hc.frm88 hc.hfp).2.2

theorem tp_code (hc : Common p m fp tp) (hi : Inv p) : tp = 0 ∨ tp ∈ pieceCodes := by
  obtain ⟨h1, h2⟩ := mem_sq88.mp hc.to88
  obtain ⟨v, hv, hcode⟩ := hi.board.codes _ h1 h2
  rw [hc.htp] at hv; cases hv
  exact hcode

theorem at_frm (hc : Common p m fp tp) :
    (abs p).at (to64 m.frm) = some ⟨colorOf (whiteTurn p), kindOf fp⟩ := by
  rw [abs_at, absBoard_at hc.frm88 hc.hfp, hc.facts.1]

theorem at_to (hc : Common p m fp tp) : (abs p).at (to64 m.to) = decodePiece tp := by
  rw [abs_at, absBoard_at hc.to88 hc.htp]

end Common

section
variable {p : Position} {m : Move} {fp tp : Nat} {p' : Position} {b : Bool}

theorem Common.fields (hc : Common p m fp tp) (h : makeMove p m = .ok (p', b)) :
    p'.board = boardAfter (whiteTurn p) p.board (p.side (whiteTurn p)).king p.ep fp m ∧
      p'.flags = flagsOf (whiteTurn p) p.flags (p.side (whiteTurn p)).king fp m := by
  obtain ⟨fp', _, _, _, hfp', _, _, _, _, _, rfl⟩ := makeMove_ok_closed rfl h
  cases hc.hfp.symm.trans hfp'
  exact ⟨mkPos_board .., mkPos_flags ..⟩

theorem Common.kingMoves_iff (hc : Common p m fp tp) (hi : Inv p) :
    KingMoves (whiteTurn p) (p.side (whiteTurn p)).king fp m ↔ fp = kingOf (whiteTurn p) := by
  unfold KingMoves
  rw [hc.king_iff hi, pawn_code]
  exact ⟨fun h => h.2, fun h => ⟨h ▸ (pawnOf_ne_kingOf _ _).symm, h⟩⟩

theorem makeMove_flags (hi : Inv p) (hc : Common p m fp tp) (h : makeMove p m = .ok (p', b)) :
    p'.flags = flagsAfter (whiteTurn p) p.flags (decide (m.frm = (p.side (whiteTurn p)).king))
      (cornerA m (whiteTurn p)) (cornerH m (whiteTurn p)) (cornerA' m (whiteTurn p)) (cornerH' m (whiteTurn p)) := by
  rw [(hc.fields h).2, ← newFlags_eq]
  simp only [flagsOf, (hc.kingMoves_iff hi).trans (hc.king_iff hi).symm, decide_eq_true_eq]

end

theorem makeMove_flag_bits {p : Position} {m : Move} {fp tp : Nat} {p' : Position} {b : Bool}
    (hi : Inv p) (hc : Common p m fp tp) (h : makeMove p m = .ok (p', b)) :
    (p'.flags &&& FWhiteTurn != 0) = !(p.flags &&& FWhiteTurn != 0) ∧
    (p'.flags &&& kFlagOf (whiteTurn p) != 0) = ((p.flags &&& kFlagOf (whiteTurn p) != 0) &&
      !decide (m.frm = (p.side (whiteTurn p)).king) &&
      !(fileOf m.frm == Gen.H && rankOf m.frm == homeRank (whiteTurn p))) ∧
    (p'.flags &&& qFlagOf (whiteTurn p) != 0) = ((p.flags &&& qFlagOf (whiteTurn p) != 0) &&
      !decide (m.frm = (p.side (whiteTurn p)).king) &&
      !(fileOf m.frm == Gen.A && rankOf m.frm == homeRank (whiteTurn p))) ∧
    (p'.flags &&& kFlagOf (!whiteTurn p) != 0) = ((p.flags &&& kFlagOf (!whiteTurn p) != 0) &&
      !(fileOf m.to == Gen.H && rankOf m.to == homeRank (!whiteTurn p))) ∧
    (p'.flags &&& qFlagOf (!whiteTurn p) != 0) = ((p.flags &&& qFlagOf (!whiteTurn p) != 0) &&
      !(fileOf m.to == Gen.A && rankOf m.to == homeRank (!whiteTurn p))) := by
  rw [makeMove_flags hi hc h]
  exact (flagsAfter_bits _ hi.flags _ _ _ _ _ _).2

theorem abs_turn_flip {p : Position} {m : Move} {fp tp : Nat} {p' : Position} {b : Bool}
    (hc : Common p m fp tp) (h : makeMove p m = .ok (p', b)) :
    (abs p').turn = (Spec.apply (abs p) (absMove m)).turn := by
  rw [PseudoSpec.apply_some (m := absMove m) hc.at_frm]
  show colorOf (whiteTurn p') = (colorOf (whiteTurn p)).other
  rw [(makeMove_ply_aux h).2, other_colorOf]

theorem ep_step_fin : ∀ f ∈ sq88, ∀ w : Bool,
    (isValid (addb f (GenGeoO.advOf w)) = true →
      Spec.adiff (Spec.rankOf (to64 f)) (Spec.rankOf (to64 (addb f (GenGeoO.advOf w)))) ≠ 2) ∧
    ∀ d ∈ [255, 1], isValid (addb (addb f (GenGeoO.advOf w)) d) = true →
      Spec.adiff (Spec.rankOf (to64 f)) (Spec.rankOf (to64 (addb (addb f (GenGeoO.advOf w)) d))) ≠ 2 := by
  decide +kernel

theorem mem_255_1 {d : Nat} (h : d = 255 ∨ d = 1) : d ∈ [255, 1] := by
  rcases h with rfl | rfl <;> simp

theorem abs_ep_eq {p : Position} {m : Move} {fp tp : Nat} {p' : Position} {b : Bool}
    (hi : Inv p) (hg : GenCase p m) (hc : Common p m fp tp) (h : makeMove p m = .ok (p', b)) :
    (abs p').ep = (Spec.apply (abs p) (absMove m)).ep := by
  have hep' := makeMove_ep h
  rw [PseudoSpec.apply_some (m := absMove m) hc.at_frm]
  show (if isValid p'.ep then some (to64 p'.ep) else none) = _
  rw [hep']
  have hkp := hc.facts.2.1
  show _ = if (kindOf fp == Spec.Kind.pawn && Spec.adiff (Spec.rankOf (to64 m.frm)) (Spec.rankOf (to64 m.to)) == 2) = true
    then some (Spec.mkSq (Spec.fileOf (to64 m.frm)) ((Spec.rankOf (to64 m.frm) + Spec.rankOf (to64 m.to)) / 2)) else none
  -- but for the double push neither side has an en-passant square: the test on the right is `false`
  have hnp : fp ≠ pawnOf (whiteTurn p) → (kindOf fp == Spec.Kind.pawn &&
      Spec.adiff (Spec.rankOf (to64 m.frm)) (Spec.rankOf (to64 m.to)) == 2) = false := by
    intro hne
    rw [hkp]
    simp [hne]
  have hnd : Spec.adiff (Spec.rankOf (to64 m.frm)) (Spec.rankOf (to64 m.to)) ≠ 2 → (kindOf fp == Spec.Kind.pawn &&
      Spec.adiff (Spec.rankOf (to64 m.frm)) (Spec.rankOf (to64 m.to)) == 2) = false := by
    intro hne
    simp [hne]
  cases hg with
  | push hfrm hpawn hto hto88 hempty hep hpromo =>
    rw [hep, hnd (by rw [hto]; exact (ep_step_fin _ hfrm _).1 (mem_sq88.mp (hto ▸ hto88)).2)]
    rfl
  | dbl hfrm hpawn hrank hto hto88 hempty hep hpromo =>
    have geo := GenGeoO.pawnGeo (whiteTurn p) hfrm (GenGeoO.notBack_iff.2 (pawn_ranks hi hpawn))
    obtain ⟨_, e2, e3⟩ := geo.dblAux hrank
    have hk : (kindOf fp == Spec.Kind.pawn) = true := by rw [hkp, hc.fp_of hpawn]; simp
    rw [hep, (mem_sq88.mp geo.to1_mem).2, hto, hk, e2, e3]
    rfl
  | capture hfrm hpawn d hd hto hto88 x hx hen hep hpromo =>
    rw [hep, hnd (by rw [hto]; exact (ep_step_fin _ hfrm _).2 d (mem_255_1 hd) (mem_sq88.mp (hto ▸ hto88)).2)]
    rfl
  | enpassant hfrm hpawn d hd hto hepsq hepok hep hpromo =>
    rw [hep, hnd (by rw [hto]; exact (ep_step_fin _ hfrm _).2 d (mem_255_1 hd) (mem_sq88.mp (hto ▸ hc.to88)).2)]
    rfl
  | officer hfrm c hcc hpc hto88 x hx hown hep hpromo =>
    rw [hep, hnp (fun hh => pawnOf_not_officer _ _ (hh ▸ hc.fp_of hpc ▸ hcc))]
    rfl
  | king hk d hd hto hto88 x hx hown hep hpromo =>
    rw [hep, hnp (fun hh => pawnOf_ne_kingOf _ _ (hh.symm.trans ((hc.king_iff hi).mp hk)))]
    rfl
  | castleK hk hflag hhome hto hempty hep hpromo =>
    rw [hep, hnp (fun hh => pawnOf_ne_kingOf _ _ (hh.symm.trans ((hc.king_iff hi).mp hk)))]
    rfl
  | castleQ hk hflag hhome hto hempty hep hpromo =>
    rw [hep, hnp (fun hh => pawnOf_ne_kingOf _ _ (hh.symm.trans ((hc.king_iff hi).mp hk)))]
    rfl

/-- the specification's `touch`: the move starts or ends on square `s` (0..63) -/
def touch (m : Move) (s : Nat) : Bool := (to64 m.frm == s || to64 m.to == s)

theorem to64_beq : ∀ s ∈ sq88, ∀ t ∈ sq88, (to64 s == to64 t) = decide (s = t) := fun s hs t ht => by
  rw [Bool.eq_iff_iff, beq_iff_eq, decide_eq_true_iff, GenGeoO.to64_eq_iff hs ht]

theorem corner_beq {s : Nat} (hs : s ∈ sq88) (v : Bool) :
    (fileOf s == Gen.H && rankOf s == homeRank v) = decide (s = rookK88 v) ∧
    (fileOf s == Gen.A && rankOf s == homeRank v) = decide (s = rookQ88 v) := by
  obtain ⟨hq, hk⟩ := MM.corner_fin v s (mem_sq88.mp hs).1
  exact ⟨by rw [Bool.eq_iff_iff, decide_eq_true_iff]; exact hk, by rw [Bool.eq_iff_iff, decide_eq_true_iff]; exact hq⟩

section
variable {p : Position} {m : Move} {fp tp : Nat} {p' : Position} {b : Bool}

/-- A right of the side to move (`fl` its flag, `rk` its rook's home): the model clears it when the king or
    the man on `rk` moves; while it is set these stand at home, so that is the specification's `touch`. -/
theorem flag_cur (hi : Inv p) (hc : Common p m fp tp) {rk fl : Nat} (hrk88 : rk ∈ sq88) {c : Bool}
    (hbits : (p'.flags &&& fl != 0) =
      ((p.flags &&& fl != 0) && !decide (m.frm = (p.side (whiteTurn p)).king) && !c))
    (hcorner : c = decide (m.frm = rk))
    (hhome : p.flags &&& fl ≠ 0 →
      (p.side (whiteTurn p)).king = kingHome (whiteTurn p) ∧ p.board[rk]? = some (rookOf (whiteTurn p))) :
    (p'.flags &&& fl != 0) =
      ((p.flags &&& fl != 0) && !touch m (to64 (kingHome (whiteTurn p))) && !touch m (to64 rk)) := by
  rw [hbits]
  cases hfl : (p.flags &&& fl != 0)
  · rfl
  · obtain ⟨hkh, hR⟩ := hhome (by simpa using hfl)
    have hK : p.board[kingHome (whiteTurn p)]? = some (kingOf (whiteTurn p)) := hkh ▸ (hi.side _).king_cell.2
    have h88k := (castle_squares (whiteTurn p)).1
    have e1 := to64_beq _ hc.frm88 _ h88k
    have e2 : (to64 m.to == to64 (kingHome (whiteTurn p))) = false := by
      rw [to64_beq _ hc.to88 _ h88k]; simpa using hc.to_ne hK (own_bit (.inr (.inr rfl)))
    have e3 := to64_beq _ hc.frm88 _ hrk88
    have e4 : (to64 m.to == to64 rk) = false := by
      rw [to64_beq _ hc.to88 _ hrk88]; simpa using hc.to_ne hR (own_bit (rookOf_man _))
    simp only [touch, e1, e2, e3, e4, hcorner, hkh, Bool.or_false]

/-- a right of the side not to move: cleared when the man on `rk` is captured; the king is not captured -/
theorem flag_en (hi : Inv p) (hc : Common p m fp tp) (hk : m.to ≠ (p.side (!whiteTurn p)).king)
    {rk fl : Nat} (hrk88 : rk ∈ sq88) {c : Bool}
    (hbits : (p'.flags &&& fl != 0) = ((p.flags &&& fl != 0) && !c)) (hcorner : c = decide (m.to = rk))
    (hhome : p.flags &&& fl ≠ 0 →
      (p.side (!whiteTurn p)).king = kingHome (!whiteTurn p) ∧ p.board[rk]? = some (rookOf (!whiteTurn p))) :
    (p'.flags &&& fl != 0) =
      ((p.flags &&& fl != 0) && !touch m (to64 (kingHome (!whiteTurn p))) && !touch m (to64 rk)) := by
  rw [hbits]
  cases hfl : (p.flags &&& fl != 0)
  · rfl
  · obtain ⟨hkh, hR⟩ := hhome (by simpa using hfl)
    have hK : p.board[kingHome (!whiteTurn p)]? = some (kingOf (!whiteTurn p)) := hkh ▸ (hi.side _).king_cell.2
    have h88k := (castle_squares (!whiteTurn p)).1
    have e1 : (to64 m.frm == to64 (kingHome (!whiteTurn p))) = false := by
      rw [to64_beq _ hc.frm88 _ h88k]; simpa using hc.frm_ne hK (other_bit (.inr (.inr rfl)))
    have e2 : (to64 m.to == to64 (kingHome (!whiteTurn p))) = false := by
      rw [to64_beq _ hc.to88 _ h88k]; simpa using hkh ▸ hk
    have e3 : (to64 m.frm == to64 rk) = false := by
      rw [to64_beq _ hc.frm88 _ hrk88]; simpa using hc.frm_ne hR (other_bit (rookOf_man _))
    have e4 := to64_beq _ hc.to88 _ hrk88
    simp only [touch, e1, e2, e3, e4, hcorner, Bool.or_false, Bool.false_or, Bool.not_false, Bool.and_true]

theorem flag_cur_K (hi : Inv p) (hc : Common p m fp tp) (h : makeMove p m = .ok (p', b)) :
    (p'.flags &&& kFlagOf (whiteTurn p) != 0) =
      ((p.flags &&& kFlagOf (whiteTurn p) != 0) && !touch m (to64 (kingHome88 (whiteTurn p))) &&
        !touch m (to64 (rookK88 (whiteTurn p)))) :=
  flag_cur hi hc (castle_squares _).2.2.2.1 (makeMove_flag_bits hi hc h).2.1 (corner_beq hc.frm88 _).1 (castle_home hi _).1

theorem flag_cur_Q (hi : Inv p) (hc : Common p m fp tp) (h : makeMove p m = .ok (p', b)) :
    (p'.flags &&& qFlagOf (whiteTurn p) != 0) =
      ((p.flags &&& qFlagOf (whiteTurn p) != 0) && !touch m (to64 (kingHome88 (whiteTurn p))) &&
        !touch m (to64 (rookQ88 (whiteTurn p)))) :=
  flag_cur hi hc (castle_squares _).2.2.2.2.1 (makeMove_flag_bits hi hc h).2.2.1 (corner_beq hc.frm88 _).2 (castle_home hi _).2

theorem abs_castling_eq (hi : Inv p) (hc : Common p m fp tp) (h : makeMove p m = .ok (p', b))
    (hk : m.to ≠ (p.side (!whiteTurn p)).king) :
    (abs p').wk = (Spec.apply (abs p) (absMove m)).wk ∧ (abs p').wq = (Spec.apply (abs p) (absMove m)).wq ∧
    (abs p').bk = (Spec.apply (abs p) (absMove m)).bk ∧ (abs p').bq = (Spec.apply (abs p) (absMove m)).bq := by
  rw [PseudoSpec.apply_some (m := absMove m) hc.at_frm]
  have h1 := flag_cur_K hi hc h
  have h2 := flag_cur_Q hi hc h
  have h3 := flag_en hi hc hk (castle_squares _).2.2.2.1 (makeMove_flag_bits hi hc h).2.2.2.1 (corner_beq hc.to88 _).1
    (castle_home hi _).1
  have h4 := flag_en hi hc hk (castle_squares _).2.2.2.2.1 (makeMove_flag_bits hi hc h).2.2.2.2 (corner_beq hc.to88 _).2
    (castle_home hi _).2
  -- the goals carry the numerals of `Spec.apply` (`touch 4`, `touch 7`, `touch 0`; 60, 63, 56 for Black): with the
  -- colour a constant, `to64` of the king's and the rooks' home squares in `h1`…`h4` reduces to them
  cases hw : whiteTurn p
  · rw [hw] at h1 h2 h3 h4
    exact ⟨h3, h4, h1, h2⟩
  · rw [hw] at h1 h2 h3 h4
    exact ⟨h1, h2, h3, h4⟩

end

end Magog.MMAbs
