import Magog.Lemmas.MakeMoveAbs
import Magog.Lemmas.CountKing

/-! C02, second half, the board equation: piece placement after `makeMove` is the placement the rules
    define (`Spec.apply`), on all 64 squares, by move shape: plain move or capture, promotion,
    en-passant capture, castling king side / queen side. -/

namespace Magog.MMAbs
open Magog Magog.Model Magog.Atk Magog.Geo Magog.Count Magog.MM

theorem absBoard_set {B : Array Nat} (hsz : B.size = 128) {s : Nat} (hs : s ∈ sq88) (v : Nat) :
    absBoard (B.setIfInBounds s v) = (absBoard B).setIfInBounds (to64 s) (decodePiece v) := by
  apply Array.ext
  · simp [absBoard]
  · intro i h1 _
    have hi : i < 64 := by simpa [absBoard] using h1
    have hs128 : s < 128 := (mem_sq88.mp hs).1
    rw [Array.getElem_setIfInBounds (by rw [absBoard_size]; exact hi)]
    simp only [absBoard, Array.getElem_ofFn, Array.getD_eq_getD_getElem?, Array.getElem?_setIfInBounds]
    by_cases he : to64 s = i
    · have hse : s = to88 i := by rw [← he, to88_to64 hs]
      simp [he, ← hse, hsz, hs128]
    · have hse : s ≠ to88 i := fun hh => he (by rw [hh, to64_to88 hi])
      simp [he, hse]

theorem to64_inj {s t : Nat} (hs : s ∈ sq88) (ht : t ∈ sq88) (h : s ≠ t) : to64 s ≠ to64 t :=
  fun e => h (GenGeoO.to64_inj hs ht e)

theorem isEnPassant_eq {P : Spec.Pos} {mv : Spec.Move} {man : Spec.Man} (h : P.at mv.frm = some man) :
    Spec.isEnPassant P mv =
      (man.kind == .pawn && (Spec.fileOf mv.frm != Spec.fileOf mv.to && (P.at mv.to).isNone)) := by
  obtain ⟨c, k⟩ := man
  cases k <;> simp [Spec.isEnPassant, h]

theorem isCastle_eq {P : Spec.Pos} {mv : Spec.Move} {man : Spec.Man} (h : P.at mv.frm = some man) :
    Spec.isCastle P mv =
      (man.kind == .king && Spec.adiff (Spec.fileOf mv.frm) (Spec.fileOf mv.to) == 2) := by
  obtain ⟨c, k⟩ := man
  cases k <;> simp [Spec.isCastle, h]

theorem decode_zero : decodePiece 0 = none := by decide

theorem absMove_promo_none {m : Move} (h : m.promo = 0) : (absMove m).promo = none := by
  simp [absMove, h, decodePromo]

theorem promo_fin : ∀ w : Bool, ∀ k ∈ [Queen, Rook, Bishop, Knight],
    ∃ k', decodePromo k = some k' ∧ decodePiece (k ||| colorBit w) = some ⟨colorOf w, k'⟩ ∧ k ≠ 0 := by
  intro w k hk
  simp only [List.mem_cons, List.not_mem_nil, or_false] at hk
  rcases hk with rfl | rfl | rfl | rfl <;> cases w
  all_goals first
    | exact ⟨.queen, by decide, by decide, by decide⟩
    | exact ⟨.rook, by decide, by decide, by decide⟩
    | exact ⟨.bishop, by decide, by decide, by decide⟩
    | exact ⟨.knight, by decide, by decide, by decide⟩

section
variable {p : Position} {m : Move} {fp tp : Nat} {p' : Position} {b : Bool}

theorem sep_not_pawn (hc : Common p m fp tp) (hne : fp ≠ pawnOf (whiteTurn p)) :
    Spec.isEnPassant (abs p) (absMove m) = false := by
  rw [isEnPassant_eq (mv := absMove m) hc.at_frm]
  show (kindOf fp == Spec.Kind.pawn && _) = false
  rw [hc.facts.2.1]
  simp [hne]

theorem sep_same_file (hc : Common p m fp tp) (hf : Spec.fileOf (to64 m.frm) = Spec.fileOf (to64 m.to)) :
    Spec.isEnPassant (abs p) (absMove m) = false := by
  rw [isEnPassant_eq (mv := absMove m) hc.at_frm]
  show (_ && (Spec.fileOf (to64 m.frm) != Spec.fileOf (to64 m.to) && _)) = false
  rw [hf]
  simp

theorem sep_occupied (hi : Inv p) (hc : Common p m fp tp) (hx : tp ≠ 0) :
    Spec.isEnPassant (abs p) (absMove m) = false := by
  rw [isEnPassant_eq (mv := absMove m) hc.at_frm]
  show (_ && (_ && ((abs p).at (to64 m.to)).isNone)) = false
  rw [hc.at_to, decode_isNone (hc.tp_code hi)]
  simp [hx]

theorem sc_not_king (hc : Common p m fp tp) (hne : fp ≠ kingOf (whiteTurn p)) :
    Spec.isCastle (abs p) (absMove m) = false := by
  rw [isCastle_eq (mv := absMove m) hc.at_frm]
  show (kindOf fp == Spec.Kind.king && _) = false
  rw [hc.facts.2.2]
  simp [hne]

theorem sc_step (hc : Common p m fp tp)
    (hd : Spec.adiff (Spec.fileOf (to64 m.frm)) (Spec.fileOf (to64 m.to)) ≠ 2) :
    Spec.isCastle (abs p) (absMove m) = false := by
  rw [isCastle_eq (mv := absMove m) hc.at_frm]
  show (_ && Spec.adiff (Spec.fileOf (to64 m.frm)) (Spec.fileOf (to64 m.to)) == 2) = false
  simp [hd]

theorem Common.hop_none (hc : Common p m fp tp) (hi : Inv p)
    (hns : fp = kingOf (whiteTurn p) → ¬ (fileOf m.frm = Gen.E ∧ (fileOf m.to = Gen.C ∨ fileOf m.to = Gen.G))) :
    hop (whiteTurn p) (p.side (whiteTurn p)).king fp m = none := by
  by_cases hK : KingMoves (whiteTurn p) (p.side (whiteTurn p)).king fp m
  · rw [hop_king hK]
    exact rookHop_none (hns ((hc.kingMoves_iff hi).mp hK)) _
  · exact MM.hop_none hK

theorem board_plain (hi : Inv p) (hc : Common p m fp tp) (h : makeMove p m = .ok (p', b))
    (hpromo : m.promo = 0) (hnep : ¬ (p.ep = m.to ∧ fp = pawnOf (whiteTurn p)))
    (hns : fp = kingOf (whiteTurn p) → ¬ (fileOf m.frm = Gen.E ∧ (fileOf m.to = Gen.C ∨ fileOf m.to = Gen.G)))
    (hsep : Spec.isEnPassant (abs p) (absMove m) = false) (hsc : Spec.isCastle (abs p) (absMove m) = false) :
    (abs p').board = (Spec.apply (abs p) (absMove m)).board := by
  have hsz := hi.board.size
  rw [PseudoSpec.apply_some (m := absMove m) hc.at_frm]
  simp only [hsep, hsc, Bool.false_eq_true, if_false]
  show absBoard p'.board = _
  rw [(hc.fields h).1, boardAfter_noHop (hc.hop_none hi hns), if_neg (fun h => hnep (pawn_code _ ▸ h.2)), placed, if_pos hpromo,
    absBoard_set (by simp [hsz]) hc.frm88, absBoard_set hsz hc.to88, decode_zero, hc.facts.1]
  have hpr := absMove_promo_none hpromo
  simp only [hpr]
  exact Array.setIfInBounds_comm _ _ (to64_inj hc.to88 hc.frm88 hc.frm_ne_to.symm)

theorem board_promo (hi : Inv p) (hc : Common p m fp tp) (h : makeMove p m = .ok (p', b))
    (hpawn : fp = pawnOf (whiteTurn p)) (hpromo : m.promo ∈ [Queen, Rook, Bishop, Knight])
    (hsep : Spec.isEnPassant (abs p) (absMove m) = false) :
    (abs p').board = (Spec.apply (abs p) (absMove m)).board := by
  have c2 := pawnOf_ne_kingOf (whiteTurn p) (whiteTurn p)
  obtain ⟨k', hk1, hk2, hk0⟩ := promo_fin (whiteTurn p) m.promo hpromo
  have hsz := hi.board.size
  have hsc := sc_not_king hc (hpawn ▸ c2)
  rw [PseudoSpec.apply_some (m := absMove m) hc.at_frm]
  simp only [hsep, hsc, Bool.false_eq_true, if_false]
  show absBoard p'.board = _
  rw [(hc.fields h).1, boardAfter_noHop (hc.hop_none hi fun hk => absurd (hpawn.symm.trans hk) c2),
    if_neg (fun h => hk0 h.1), placed, if_neg hk0, absBoard_set (by simp [hsz]) hc.frm88, absBoard_set hsz hc.to88,
    decode_zero, hk2]
  have hpr : (absMove m).promo = some k' := hk1
  simp only [hpr]
  exact Array.setIfInBounds_comm _ _ (to64_inj hc.to88 hc.frm88 hc.frm_ne_to.symm)

end

theorem ep_kill_fin : ∀ f ∈ sq88, ∀ w : Bool, ∀ d ∈ [255, 1], isValid (addb (addb f (GenGeoO.advOf w)) d) = true →
    ((fileOf (addb (addb f (GenGeoO.advOf w)) d) + rankOf f) % 256 < 128 ∧
      isValid ((fileOf (addb (addb f (GenGeoO.advOf w)) d) + rankOf f) % 256) = true) ∧
    to64 ((fileOf (addb (addb f (GenGeoO.advOf w)) d) + rankOf f) % 256)
      = Spec.mkSq (Spec.fileOf (to64 (addb (addb f (GenGeoO.advOf w)) d))) (Spec.rankOf (to64 f)) ∧
    (fileOf (addb (addb f (GenGeoO.advOf w)) d) + rankOf f) % 256 ≠ addb (addb f (GenGeoO.advOf w)) d ∧
    (fileOf (addb (addb f (GenGeoO.advOf w)) d) + rankOf f) % 256 ≠ f ∧
    (Spec.fileOf (to64 f) != Spec.fileOf (to64 (addb (addb f (GenGeoO.advOf w)) d))) = true := by
  decide +kernel

section
variable {p : Position} {m : Move} {fp tp : Nat} {p' : Position} {b : Bool}

theorem board_ep (hi : Inv p) (hc : Common p m fp tp) (h : makeMove p m = .ok (p', b))
    (hpawn : fp = pawnOf (whiteTurn p)) (hpromo : m.promo = 0) (hep : p.ep = m.to) (htp : tp = 0)
    (d : Nat) (hd : d = 255 ∨ d = 1) (hto : m.to = addb (addb m.frm (GenGeoO.advOf (whiteTurn p))) d) :
    (abs p').board = (Spec.apply (abs p) (absMove m)).board := by
  have hsz := hi.board.size
  obtain ⟨k1, k2, k3, k4, k5⟩ := ep_kill_fin m.frm hc.frm88 (whiteTurn p) d (mem_255_1 hd) (mem_sq88.mp (hto ▸ hc.to88)).2
  rw [← hto] at k1 k2 k3 k4 k5
  have k1 := mem_sq88.mpr k1
  have hb : p'.board = _ := (hc.fields h).1
  rw [boardAfter_noHop (hc.hop_none hi fun hk => absurd (hpawn.symm.trans hk) (pawnOf_ne_kingOf _ _)),
    if_pos ⟨hpromo, hep, hpawn.trans (pawn_code _).symm⟩, placed, if_pos hpromo, epSq] at hb
  have hkp : (kindOf fp == Spec.Kind.pawn) = true := by rw [hc.facts.2.1, hpawn]; simp
  have hsep : Spec.isEnPassant (abs p) (absMove m) = true := by
    rw [isEnPassant_eq (mv := absMove m) hc.at_frm]
    show (kindOf fp == Spec.Kind.pawn && (Spec.fileOf (to64 m.frm) != Spec.fileOf (to64 m.to) &&
      ((abs p).at (to64 m.to)).isNone)) = true
    rw [hkp, k5, hc.at_to, htp, decode_zero]
    rfl
  have hsc := sc_not_king hc (hpawn ▸ pawnOf_ne_kingOf _ _)
  rw [PseudoSpec.apply_some (m := absMove m) hc.at_frm]
  simp only [hsep, hsc, Bool.false_eq_true, if_false, if_true]
  show absBoard p'.board = _
  rw [hb, absBoard_set (by simp [hsz]) hc.frm88, absBoard_set (by simp [hsz]) k1,
    absBoard_set hsz hc.to88, decode_zero, hc.facts.1, k2]
  have hpr := absMove_promo_none hpromo
  simp only [hpr]
  show _ = (((absBoard p.board).setIfInBounds (to64 m.frm) none).setIfInBounds (to64 m.to) _).setIfInBounds
    (Spec.mkSq (Spec.fileOf (to64 m.to)) (Spec.rankOf (to64 m.frm))) none
  rw [← k2]
  -- the same three writes: the specification empties the origin first, the model last
  have n1 : to64 m.frm ≠ to64 m.to := to64_inj hc.frm88 hc.to88 hc.frm_ne_to
  have n2 : to64 m.frm ≠ to64 ((fileOf m.to + rankOf m.frm) % 256) := to64_inj hc.frm88 k1 (Ne.symm k4)
  rw [Array.setIfInBounds_comm (xs := absBoard p.board) none _ n1,
    Array.setIfInBounds_comm (xs := (absBoard p.board).setIfInBounds (to64 m.to) _) none none n2]

end

theorem set4_comm {α} (A : Array α) {a b c d : Nat} (x y z u : α) (hab : a ≠ b) (hac : a ≠ c) (had : a ≠ d)
    (hbc : b ≠ c) (hbd : b ≠ d) :
    (((A.setIfInBounds c x).setIfInBounds d y).setIfInBounds b z).setIfInBounds a u =
      (((A.setIfInBounds a u).setIfInBounds b z).setIfInBounds c x).setIfInBounds d y := by
  rw [Array.setIfInBounds_comm (xs := (A.setIfInBounds c x).setIfInBounds d y) z u hab.symm,
    Array.setIfInBounds_comm (xs := A.setIfInBounds c x) y u had.symm,
    Array.setIfInBounds_comm (xs := A) x u hac.symm,
    Array.setIfInBounds_comm (xs := (A.setIfInBounds a u).setIfInBounds c x) y z hbd.symm,
    Array.setIfInBounds_comm (xs := A.setIfInBounds a u) x z hbc.symm]

theorem castleK_fin : ∀ w : Bool,
    rookHop (kingHome88 w) (kingToK w) (homeRank w) = some (rookHomeK w, rookToK w) ∧
    rookHomeK w ∈ sq88 ∧ rookToK w ∈ sq88 ∧ kingHome88 w ≠ rookHomeK w ∧ kingHome88 w ≠ rookToK w ∧
    kingToK w ≠ rookHomeK w ∧ kingToK w ≠ rookToK w ∧
    Spec.adiff (Spec.fileOf (to64 (kingHome88 w))) (Spec.fileOf (to64 (kingToK w))) = 2 ∧
    (Spec.fileOf (to64 (kingToK w)) == 6) = true ∧
    to64 (rookHomeK w) = Spec.mkSq 7 (Spec.rankOf (to64 (kingHome88 w))) ∧
    to64 (rookToK w) = Spec.mkSq 5 (Spec.rankOf (to64 (kingHome88 w))) := by decide +kernel

theorem castleQ_fin : ∀ w : Bool,
    rookHop (kingHome88 w) (kingToQ w) (homeRank w) = some (rookHomeQ w, rookToQ w) ∧
    rookHomeQ w ∈ sq88 ∧ rookToQ w ∈ sq88 ∧ kingHome88 w ≠ rookHomeQ w ∧ kingHome88 w ≠ rookToQ w ∧
    kingToQ w ≠ rookHomeQ w ∧ kingToQ w ≠ rookToQ w ∧
    Spec.adiff (Spec.fileOf (to64 (kingHome88 w))) (Spec.fileOf (to64 (kingToQ w))) = 2 ∧
    (Spec.fileOf (to64 (kingToQ w)) == 6) = false ∧
    to64 (rookHomeQ w) = Spec.mkSq 0 (Spec.rankOf (to64 (kingHome88 w))) ∧
    to64 (rookToQ w) = Spec.mkSq 3 (Spec.rankOf (to64 (kingHome88 w))) := by decide +kernel

section
variable {p : Position} {m : Move} {fp tp : Nat} {p' : Position} {b : Bool}

/-- **castling**, either wing: the king move makes the rook hop from `rf` to `rt`, and these are the
    squares the specification moves the rook between (`hspec`). Both sides are four-cell updates of
    the old board. -/
theorem board_castle (hi : Inv p) (hc : Common p m fp tp) (h : makeMove p m = .ok (p', b))
    (hk : fp = kingOf (whiteTurn p)) (hpromo : m.promo = 0) {rf rt : Nat}
    (hhop : rookHop m.frm m.to (homeRank (whiteTurn p)) = some (rf, rt)) (hrf : rf ∈ sq88) (hrt : rt ∈ sq88)
    (hne1 : m.frm ≠ rf) (hne2 : m.frm ≠ rt) (hne3 : m.to ≠ rf) (hne4 : m.to ≠ rt)
    (hdiff : Spec.adiff (Spec.fileOf (to64 m.frm)) (Spec.fileOf (to64 m.to)) = 2)
    (hspec : ∀ (A : Array (Option Spec.Man)) (x : Option Spec.Man),
      (if Spec.fileOf (to64 m.to) == 6 then
        (A.setIfInBounds (Spec.mkSq 7 (Spec.rankOf (to64 m.frm))) none).setIfInBounds
          (Spec.mkSq 5 (Spec.rankOf (to64 m.frm))) x
       else (A.setIfInBounds (Spec.mkSq 0 (Spec.rankOf (to64 m.frm))) none).setIfInBounds
          (Spec.mkSq 3 (Spec.rankOf (to64 m.frm))) x) =
        (A.setIfInBounds (to64 rf) none).setIfInBounds (to64 rt) x) :
    (abs p').board = (Spec.apply (abs p) (absMove m)).board := by
  have hsz := hi.board.size
  -- the model: rook first, then the king
  have hh := (hop_king ((hc.kingMoves_iff hi).mpr hk)).trans hhop
  have hb : p'.board = _ := (hc.fields h).1
  rw [boardAfter_hop hh, placed, if_pos hpromo, rook_code] at hb
  -- the specification: king first, then the rook
  have hkk : (kindOf fp == Spec.Kind.king) = true := by rw [hc.facts.2.2, hk]; simp
  have hsep := sep_not_pawn hc (hk ▸ (pawnOf_ne_kingOf _ _).symm)
  have hsc : Spec.isCastle (abs p) (absMove m) = true := by
    rw [isCastle_eq (mv := absMove m) hc.at_frm]
    show (kindOf fp == Spec.Kind.king &&
      Spec.adiff (Spec.fileOf (to64 m.frm)) (Spec.fileOf (to64 m.to)) == 2) = true
    rw [hkk, hdiff]; rfl
  have hpr := absMove_promo_none hpromo
  rw [PseudoSpec.apply_some (m := absMove m) hc.at_frm]
  simp only [hsep, hsc, hpr, Bool.false_eq_true, if_false, if_true]
  refine Eq.trans ?_ (hspec _ _).symm
  show absBoard p'.board = ((((absBoard p.board).setIfInBounds (to64 m.frm) none).setIfInBounds (to64 m.to) _).setIfInBounds
    (to64 rf) none).setIfInBounds (to64 rt) (some ⟨colorOf (whiteTurn p), .rook⟩)
  rw [hb, absBoard_set (by simp [hsz]) hc.frm88, absBoard_set (by simp [hsz]) hc.to88,
    absBoard_set (by simp [hsz]) hrt, absBoard_set hsz hrf, decode_zero, hc.facts.1, decode_rookOf]
  exact set4_comm _ _ _ _ _ (to64_inj hc.frm88 hc.to88 hc.frm_ne_to) (to64_inj hc.frm88 hrf hne1)
    (to64_inj hc.frm88 hrt hne2) (to64_inj hc.to88 hrf hne3) (to64_inj hc.to88 hrt hne4)

end

section
variable {p : Position} {m : Move} {fp tp : Nat} {p' : Position} {b : Bool}

theorem mem_promos {k : Nat} (h : PromoOk k) (h0 : k ≠ 0) : k ∈ [Queen, Rook, Bishop, Knight] := by
  rcases h with h | h | h | h | h
  · exact absurd h h0
  all_goals simp [h]

theorem abs_board_eq (hi : Inv p) (hg : GenCase p m) (hc : Common p m fp tp)
    (h : makeMove p m = .ok (p', b)) :
    (abs p').board = (Spec.apply (abs p) (absMove m)).board := by
  have c2 := pawnOf_ne_kingOf (whiteTurn p) (whiteTurn p)
  have tp_of : ∀ v, p.board[m.to]? = some v → tp = v := fun v hv => by
    have := hc.htp; rw [hv] at this; cases this; rfl
  -- Each class ends in one of `board_plain`, `board_promo`, `board_ep`, `board_castle`. What a branch owes is that the
  -- model's tests (`m.promo = 0`, "a pawn moves onto `p.ep`", a king move of castling shape) and the specification's
  -- (`isEnPassant`: a pawn changes file onto an empty square; `isCastle`: a king moves two files) fall the same way.
  cases hg with
  | push hfrm hpawn hto hto88 hempty hep hpromo =>
    -- same file: no en passant for the specification; nor for the model, since the square behind `p.ep` holds an
    -- enemy pawn and the square behind the target is `m.frm`
    have hfp := hc.fp_of hpawn
    have geo := GenGeo.pawnSq (whiteTurn p) hfrm (GenGeoO.notBack_iff.2 (pawn_ranks hi hpawn))
    have hsep := sep_same_file hc (by
      rw [hto]; exact ((GenGeoO.mkSq_eq_iff (GenGeoO.fileOf_lt _)).1 geo.mid.symm).1.symm)
    by_cases hp0 : m.promo = 0
    · refine board_plain hi hc h hp0 ?_ (fun hk => absurd (hfp.symm.trans hk) c2) hsep
        (sc_not_king hc (hfp ▸ c2))
      rintro ⟨he, _⟩
      have hb := (epOk_facts rfl (epOk_of_ne hi (he ▸ ne_invalid hto88))).2.2.2.2.2
      rw [he, hto, geo.from1, hpawn] at hb
      exact pawnOf_ne_not _ (Option.some.inj hb)
    · exact board_promo hi hc h hfp (mem_promos (promoOk_of_shape hpromo) hp0) hsep
  | dbl hfrm hpawn hrank hto hto88 hempty hep hpromo =>
    -- same file; the target is not `p.ep`, being on another rank
    have hfp := hc.fp_of hpawn
    have geo := GenGeo.pawnSq (whiteTurn p) hfrm (GenGeoO.notBack_iff.2 (pawn_ranks hi hpawn))
    have e1 := geo.dbl _ (hto ▸ hto88)
    simp only [GenGeoO.dblRel, hrank, beq_self_eq_true, Bool.and_self, Bool.and_eq_true, beq_iff_eq] at e1
    refine board_plain hi hc h hpromo ?_ (fun hk => absurd (hfp.symm.trans hk) c2)
      (sep_same_file hc (by rw [hto]; exact e1.1.1.symm)) (sc_not_king hc (hfp ▸ c2))
    rintro ⟨he, _⟩
    have hr := epOk_rank rfl (epOk_of_ne hi (he ▸ ne_invalid hto88))
    rw [he, hto] at hr
    exact (geo.dbl88 hrank).2.2.1 hr
  | capture hfrm hpawn d hd hto hto88 x hx hen hep hpromo =>
    -- the target is occupied: no en passant for the specification, and it is not `p.ep`, which is empty
    have hfp := hc.fp_of hpawn
    have htx := tp_of _ hx
    have hx0 : tp ≠ 0 := by
      intro h0
      rw [← htx, h0] at hen
      exact hen (Nat.zero_and _)
    have hsep := sep_occupied hi hc hx0
    by_cases hp0 : m.promo = 0
    · refine board_plain hi hc h hp0 ?_ (fun hk => absurd (hfp.symm.trans hk) c2) hsep
        (sc_not_king hc (hfp ▸ c2))
      rintro ⟨he, _⟩
      have hb := (epOk_facts rfl (epOk_of_ne hi (he ▸ ne_invalid hto88))).2.2.1
      rw [he, hc.htp] at hb
      cases hb
      exact hx0 rfl
    · exact board_promo hi hc h hfp (mem_promos (promoOk_of_shape hpromo) hp0) hsep
  | enpassant hfrm hpawn d hd hto hepsq hepok hep hpromo =>
    have h0 := hepok.2.2.1
    rw [← hepsq] at h0
    exact board_ep hi hc h (hc.fp_of hpawn) hpromo hepsq.symm (tp_of _ h0) d hd hto
  | officer hfrm c hcc hpc hto88 x hx hown hep hpromo =>
    -- neither pawn nor king: every test fails on both sides
    have hfp := hc.fp_of hpc
    obtain ⟨_, hnp, hnk⟩ := officer_man (hfp ▸ hcc)
    exact board_plain hi hc h hpromo (fun hh => hnp hh.2) (fun hk => absurd hk hnk)
      (sep_not_pawn hc hnp) (sc_not_king hc hnk)
  | king hk d hd hto hto88 x hx hown hep hpromo =>
    -- a step changes the file by at most one: no `isCastle` (`king_near`), no rook hop (`king_step_not_castle`)
    have hfk := (hc.king_iff hi).mp hk
    have hnp : fp ≠ pawnOf (whiteTurn p) := fun hh => c2 (hh.symm.trans hfk)
    refine board_plain hi hc h hpromo (fun hh => hnp hh.2) ?_ (sep_not_pawn hc hnp)
      (sc_step hc (beq_eq_false_iff_ne.1 (PseudoSpec.king_near ((GenGeoO.king_step hc.frm88 hto88).1
        (GenGeoO.stepSqs_iff.2 ⟨d, hd, hto.symm, (mem_sq88.1 hto88).2⟩)))))
    rintro _ ⟨hE, hCG⟩
    have := king_step_not_castle m.frm hd hE
    rw [← hto] at this
    rcases hCG with hC | hG
    · exact this.1 hC
    · exact this.2 hG
  | castleK hk hflag hhome hto hempty hep hpromo =>
    obtain ⟨f1, f2, f3, f4, f5, f6, f7, f8, f9, f10, f11⟩ := castleK_fin (whiteTurn p)
    -- `GenCase.castleK` states the target as `if whiteTurn p then Gen.G1 else Gen.G8`, the body of `kingToK`, in which
    -- `castleK_fin` is stated; likewise `kingToQ` below
    change m.to = kingToK (whiteTurn p) at hto
    rw [← hhome] at f1 f4 f5 f8 f10 f11
    rw [← hto] at f1 f6 f7 f8 f9
    exact board_castle hi hc h ((hc.king_iff hi).mp hk) hpromo f1 f2 f3 f4 f5 f6 f7 f8
      (fun A x => by rw [if_pos f9, f10, f11])
  | castleQ hk hflag hhome hto hempty hep hpromo =>
    obtain ⟨f1, f2, f3, f4, f5, f6, f7, f8, f9, f10, f11⟩ := castleQ_fin (whiteTurn p)
    change m.to = kingToQ (whiteTurn p) at hto
    rw [← hhome] at f1 f4 f5 f8 f10 f11
    rw [← hto] at f1 f6 f7 f8 f9
    exact board_castle hi hc h ((hc.king_iff hi).mp hk) hpromo f1 f2 f3 f4 f5 f6 f7 f8
      (fun A x => by rw [if_neg (by rw [f9]; exact Bool.false_ne_true), f10, f11])

end

end Magog.MMAbs
