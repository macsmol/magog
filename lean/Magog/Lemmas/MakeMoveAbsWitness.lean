import Magog.Lemmas.MakeMoveAbsBoard

/-! C02, second half: assembly helpers and concrete witnesses — the non-vacuity witness (1.e4 from the
    initial position) and the king-capture position showing that the hypothesis "the move does not
    capture the enemy king" of `makeMove_abs` cannot be dropped. -/

namespace Magog.MMAbs
open Magog Magog.Model Magog.Atk Magog.Geo Magog.Count

/-- the mover's own two castling rights agree with the rules without any further hypothesis -/
theorem abs_castling_mover_eq {p : Position} {m : Move} {fp tp : Nat} {p' : Position} {b : Bool}
    (hi : Inv p) (hc : Common p m fp tp) (h : makeMove p m = .ok (p', b)) :
    if whiteTurn p then
      (abs p').wk = (Spec.apply (abs p) (absMove m)).wk ∧ (abs p').wq = (Spec.apply (abs p) (absMove m)).wq
    else
      (abs p').bk = (Spec.apply (abs p) (absMove m)).bk ∧ (abs p').bq = (Spec.apply (abs p) (absMove m)).bq := by
  rw [PseudoSpec.apply_some (m := absMove m) hc.at_frm]
  have h1 := flag_cur_K hi hc h
  have h2 := flag_cur_Q hi hc h
  cases hw : whiteTurn p
  · rw [hw] at h1 h2
    simp only [Bool.false_eq_true, if_false]
    exact ⟨h1, h2⟩
  · rw [hw] at h1 h2
    simp only [if_true]
    exact ⟨h1, h2⟩

theorem generated_of_check {p : Position} {m : Move}
    (h : okAnd' (fun ms => (ms.map (·.mov)).contains m) (genPseudo Killers.empty p) = true) : Generated p m := by
  obtain ⟨ms, hgen, h⟩ := okAnd'_elim h
  exact ⟨Killers.empty, ms, hgen, List.contains_iff_mem.1 h⟩

/-- the position `makeMove` returns (the argument itself if it panics; only used on witnesses) -/
def after (p : Position) (m : Move) : Position :=
  match makeMove p m with
  | .ok r => r.1
  | .error _ => p

def afterSafe (p : Position) (m : Move) : Bool :=
  match makeMove p m with
  | .ok r => r.2
  | .error _ => false

theorem makeMove_after {p : Position} {m : Move} (h : (okVal (makeMove p m)).isSome = true) :
    makeMove p m = .ok (after p m, afterSafe p m) := by
  unfold after afterSafe
  cases hm : makeMove p m with
  | error e => simp [hm, okVal] at h
  | ok r => rfl

/-- 1.e4 -/
def e2e4 : Move := ⟨0x14, 0x34, 0, 0x24⟩

theorem generated_e2e4 : Generated startPosition e2e4 :=
  generated_of_check (by rw [startPosition_eq]; decide +kernel)

theorem makeMove_e2e4 : makeMove startPosition e2e4 = .ok (after startPosition e2e4, afterSafe startPosition e2e4) :=
  makeMove_after (by rw [startPosition_eq]; decide +kernel)

/-- White Ke1, Qe7; Black Ke8, Rh8 with the right `k` still set; White to move. Well-formed (`Inv`),
    but Black is in check with White to move, so the pseudo-legal Qe7xe8 captures the king. -/
def kingCapturePos : Position :=
  { board := ((((Array.replicate 128 0).setIfInBounds Gen.E1 Gen.WKing).setIfInBounds Gen.E7 Gen.WQueen).setIfInBounds
      Gen.E8 Gen.BKing).setIfInBounds Gen.H8 Gen.BRook,
    blackPieces := [Gen.H8], whitePieces := [Gen.E7], blackPawns := [], whitePawns := [],
    blackKing := Gen.E8, whiteKing := Gen.E1,
    flags := Gen.FlagWhiteTurn ||| Gen.FlagBlackCanCastleKside, ep := InvalidSq, ply := 0 }

def kingCaptureMove : Move := ⟨Gen.E7, Gen.E8, 0, InvalidSq⟩

theorem inv_kingCapturePos : Inv kingCapturePos := inv_of_invC (by decide +kernel)

theorem generated_kingCapture : Generated kingCapturePos kingCaptureMove :=
  generated_of_check (by decide +kernel)

theorem makeMove_kingCapture : makeMove kingCapturePos kingCaptureMove =
    .ok (after kingCapturePos kingCaptureMove, afterSafe kingCapturePos kingCaptureMove) :=
  makeMove_after (by decide +kernel)

/-- the engine keeps Black's `k` right, the rules (`touch` on e8) remove it -/
theorem kingCapture_bk : (abs (after kingCapturePos kingCaptureMove)).bk = true ∧
    (Spec.apply (abs kingCapturePos) (absMove kingCaptureMove)).bk = false := by decide +kernel

end Magog.MMAbs
