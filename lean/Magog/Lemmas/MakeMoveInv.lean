import Magog.Lemmas.MMGen
import Magog.Lemmas.CountKing
import Magog.Lemmas.GenPseudo

/-! `makeMove` on a generated move of a well-formed position with the opponent not in check:
    it succeeds, the result is well-formed, and the returned verdict is "the mover is not in check"
    (`makeMove_spec`). The class of the move comes from `MMAbs.generated_cases`, that it does not land on the
    enemy king from `GenPseudo.generated_not_king` (a generated move attacks its target); one lemma per class
    (`pawn_capture_spec`, `pawn_ep_spec`, `pawn_push_spec`, `pawn_dbl_spec`, `step_spec`) turns the class into the
    facts the stage lemmas need and ends in `simple_result` / `ep_result`; castling goes to `castleK_result` /
    `castleQ_result`. Around it: `Safe`, which is `OppSafe` by kind of attacker (for `CountInv`), and the step from one
    move to games: `history` (every prefix of a `GameOk` game ends in a well-formed position with the opponent not in
    check), `gameOk_of_B` for games checked by evaluation, `game_e2e4` as the first of them. -/

namespace Magog.MM
open Magog Magog.Model Magog.Atk Magog.Geo Magog.Count Magog.GenGeo
open Magog.GenPure (PromoShape)
open Magog.GenGeoO (advOf startRankOf)

/-! `OppSafe` by kind of attacker: no pawn, no piece and not the king of the side `w` to move attacks the other
    king. `CountInv.kingsOk_of_inv` reads the last (the kings are not adjacent). -/

structure Safe (p : Position) (w : Bool) : Prop where
  pawns : ∀ a ∈ (p.side w).pawns, attackAt a (p.side (!w)).king &&& pawnFlag w = 0
  pieces : ∀ a ∈ (p.side w).pieces, pieceAttacks p.board (p.side (!w)).king a = .ok false
  king : attackAt (p.side w).king (p.side (!w)).king &&& Gen.KingAttacks = 0

theorem pawnFlagOf_king (w : Bool) : pawnFlagOf (kingOf w) = pawnFlag w := by cases w <;> decide

theorem safe_of_oppSafe {p : Position} {w : Bool} (hI : Inv p) (hw : whiteTurn p = w) (hS : OppSafe p) : Safe p w := by
  unfold OppSafe at hS
  rw [hw] at hS
  obtain ⟨kpc, hk, hp, hq, t, ht, hz⟩ := isUnderCheck_false hS
  have hcur := (hI.sideInv w).ok
  have hen := (hI.sideInv (!w)).ok
  have hK := hen.king_cell.1
  have hkc := hcur.king_cell
  rw [bget_ok_iff, hkc.2] at hk
  have hk' : kpc = kingOf w := (Option.some.inj hk).symm
  subst hk'
  refine ⟨fun a ha => ?_, hq, ?_⟩
  · have h := hp a ha
    have ha88 := (hcur.pawn_cell ha).1
    simp only [pawnAttacks, tget_attack ha88 hK, ok_bind, pure_eq_ok, Except.ok.injEq, pawnFlagOf_king,
      bne_eq_false_iff_eq] at h
    exact h
  · rw [tget_attack hkc.1 hK] at ht
    cases ht
    exact hz

theorem target_cases {p : Position} {w : Bool} (hI : Inv p) {t x : Nat} (hto : t ∈ sq88)
    (hx : p.board[t]? = some x) (hcb : x &&& colorBit w = 0) (hnk : x ≠ kingOf (!w)) :
    x = 0 ∨ x = pawnOf (!w) ∨ x ∈ officersOf (!w) := by
  obtain ⟨v, hv, hc⟩ := cell_of_valid hI.board hto
  rw [hx] at hv
  cases hv
  rcases not_own_cases hc hcb with h | h | h | h
  · exact .inl h
  · exact .inr (.inl h)
  · exact .inr (.inr h)
  · exact absurd h hnk

section
variable {p : Position} {m : Move} {w : Bool}

theorem simple_noEp {v t : Nat} (hI : Inv p) (hw : whiteTurn p = w) (hs : SimpleMove p w m v t)
    (he : m.ep = InvalidSq) : ∃ p' b, makeMove p m = .ok (p', b) ∧ Inv p' ∧ (b = true ↔ OppSafe p') :=
  simple_result hI hw hs fun _ _ _ _ _ _ => .inl he

/-- a pawn captures an enemy man towards `δ` (255 queen side, 1 king side) -/
theorem pawn_capture_spec {frm δ x : Nat} (hI : Inv p) (hw : whiteTurn p = w)
    (hnk : m.to ≠ (p.side (!w)).king) (hfrm : frm ∈ (p.side w).pawns) (hδ : δ = 0xFF ∨ δ = 1) (e1 : m.frm = frm)
    (e2 : m.to = addb (addb frm (advOf w)) δ) (e3 : m.ep = InvalidSq) (e4 : PromoShape (homeRank (!w)) m.to m.promo)
    (hto88 : m.to ∈ sq88) (hx : p.board[m.to]? = some x) (hxb : x &&& colorBit (!w) ≠ 0) :
    ∃ p' b, makeMove p m = .ok (p', b) ∧ Inv p' ∧ (b = true ↔ OppSafe p') := by
  obtain ⟨hf88, hv⟩ := (hI.sideInv w).ok.pawn_cell hfrm
  have geo := pawnSq w hf88 (GenGeoO.notBack_iff.2 (pawn_ranks hI hv))
  have hx0 : x ≠ 0 := fun e => by subst e; simp at hxb
  obtain ⟨v, hv', hc⟩ := cell_of_valid hI.board hto88
  rw [hx] at hv'; cases hv'
  have hxk : x ≠ kingOf (!w) := fun e => hnk (king_unique hI hto88 (e ▸ hx))
  have htgt : x = 0 ∨ x = pawnOf (!w) ∨ x ∈ officersOf (!w) := by
    rcases (man_iff_bit hc).mpr hxb with h | h | h
    · exact .inr (.inl h)
    · exact .inr (.inr h)
    · exact absurd h hxk
  have hs : SimpleMove p w m (pawnOf w) x :=
    { frm := e1 ▸ hf88, «to» := hto88, hv := e1 ▸ hv, man := .inl rfl, ht := hx, tgt := htgt
      promo := fun _ => e4, pawnRank := fun _ => e2 ▸ (geo.cap88 δ hδ (e2 ▸ hto88)).1
      notEp := fun _ hh => by
        have := (epOk_facts hw (epOk_of_ne hI (hh ▸ ne_invalid hto88))).2.2.1
        rw [← hh, hx] at this
        exact hx0 (Option.some.inj this)
      nonPawn := fun h => absurd rfl h
      notCastle := fun h => absurd h (pawnOf_ne_kingOf w w) }
  exact simple_noEp hI hw hs e3

/-- a pawn captures en passant towards `δ`: the victim stands on the mover's rank in the target's file -/
theorem pawn_ep_spec {frm δ : Nat} (hI : Inv p) (hw : whiteTurn p = w) (hfrm : frm ∈ (p.side w).pawns)
    (hδ : δ = 0xFF ∨ δ = 1) (e1 : m.frm = frm) (e2 : m.to = addb (addb frm (advOf w)) δ) (e3 : m.ep = InvalidSq)
    (e4 : m.promo = 0) (hep : m.to = p.ep) (h : FenSpec.EpOk p) :
    ∃ p' b, makeMove p m = .ok (p', b) ∧ Inv p' ∧ (b = true ↔ OppSafe p') := by
  obtain ⟨hf88, hv⟩ := (hI.sideInv w).ok.pawn_cell hfrm
  have geo := pawnSq w hf88 (GenGeoO.notBack_iff.2 (pawn_ranks hI hv))
  have hto88 : m.to ∈ sq88 := mem_sq88.mpr ⟨hep ▸ h.1, hep ▸ h.2.1⟩
  have hrank : rankOf m.to = epRank w := hep ▸ epOk_rank hw h
  have hkill := (geo.cap88 δ hδ (e2 ▸ hto88)).2.1 (e2 ▸ hrank)
  rw [← e2] at hkill
  refine ep_result hI hw (e1 ▸ hfrm) hep h ?_ e4 e3
  rw [e1, hkill, hep]

theorem pawn_push_spec {frm : Nat} (hI : Inv p) (hw : whiteTurn p = w) (hfrm : frm ∈ (p.side w).pawns)
    (e1 : m.frm = frm) (e2 : m.to = addb frm (advOf w)) (e3 : m.ep = InvalidSq)
    (e4 : PromoShape (homeRank (!w)) m.to m.promo) (e5 : p.board[m.to]? = some 0) :
    ∃ p' b, makeMove p m = .ok (p', b) ∧ Inv p' ∧ (b = true ↔ OppSafe p') := by
  obtain ⟨hf88, hv⟩ := (hI.sideInv w).ok.pawn_cell hfrm
  have geo := pawnSq w hf88 (GenGeoO.notBack_iff.2 (pawn_ranks hI hv))
  -- were the target the en-passant square, the pawn behind it would be the enemy's, but it is the mover
  have notEp : addb frm (advOf w) ≠ p.ep := by
    intro hh
    have hv6 := (epOk_facts hw (epOk_of_ne hI (hh ▸ ne_invalid geo.to1_mem))).2.2.2.2.2
    have : behind w p.ep = frm := hh ▸ geo.from1
    rw [this, hv] at hv6
    exact pawnOf_ne_not w (Option.some.inj hv6)
  have hs : SimpleMove p w m (pawnOf w) 0 :=
    { frm := e1 ▸ hf88, «to» := e2 ▸ geo.to1_mem, hv := e1 ▸ hv, man := .inl rfl, ht := e5, tgt := .inl rfl
      promo := fun _ => e4, pawnRank := fun _ => e2 ▸ geo.rank1
      notEp := fun _ => e2 ▸ notEp
      nonPawn := fun h => absurd rfl h
      notCastle := fun h => absurd h (pawnOf_ne_kingOf w w) }
  exact simple_noEp hI hw hs e3

/-- a double push: the square passed over becomes the en-passant square of the new position -/
theorem pawn_dbl_spec (hI : Inv p) (hw : whiteTurn p = w) (hfrm : m.frm ∈ (p.side w).pawns)
    (e2 : rankOf m.frm = startRankOf w) (hto : m.to = addb (addb m.frm (advOf w)) (advOf w)) (hpromo : m.promo = 0)
    (hmep : m.ep = addb m.frm (advOf w)) (e3 : p.board[m.ep]? = some 0) (e4 : p.board[m.to]? = some 0) :
    ∃ p' b, makeMove p m = .ok (p', b) ∧ Inv p' ∧ (b = true ↔ OppSafe p') := by
  obtain ⟨frm, _, _, _⟩ := m
  dsimp only at hfrm e2 hto hpromo hmep e3 e4
  subst hto hpromo hmep
  obtain ⟨hf88, hv⟩ := (hI.sideInv w).ok.pawn_cell hfrm
  have geo := pawnSq w hf88 (GenGeoO.notBack_iff.2 (pawn_ranks hI hv))
  have g1 := geo.to1_mem
  have d1 := geo.to2_mem e2
  have g4 := geo.from1
  -- the target is not on rank 1, not on rank 8, not on the en-passant rank of `w` (nor, unused, of `!w`); the square
  -- passed is on the en-passant rank of `!w` (`d5`), one rank short of the target (`d7`) and differs from it (`d6`)
  obtain ⟨d2, d3, d4, _, d5, d7, d6⟩ := geo.dbl88 e2
  have hs : SimpleMove p w ⟨frm, addb (addb frm (advOf w)) (advOf w), 0, addb frm (advOf w)⟩ (pawnOf w) 0 :=
    { frm := hf88, «to» := d1, hv := hv, man := .inl rfl, ht := e4, tgt := .inl rfl
      promo := fun _ => by
        have : rankOf (addb (addb frm (advOf w)) (advOf w)) ≠ homeRank (!w) := by
          cases w
          · exact d2
          · exact d3
        simp only [this, if_false]
      pawnRank := fun _ => by
        cases w
        · exact d3
        · exact d2
      notEp := fun _ (hh : addb (addb frm (advOf w)) (advOf w) = p.ep) =>
        d4 (hh ▸ epOk_rank hw (epOk_of_ne hI (hh ▸ ne_invalid d1)))
      nonPawn := fun h => absurd rfl h
      notCastle := fun h => absurd h (pawnOf_ne_kingOf w w) }
  refine simple_result hI hw hs (fun B' cur' en' f' hU ht => .inr ?_)
  simp only [if_true] at hU
  obtain ⟨t1, t2⟩ := mem_sq88.mp g1
  have b0 : B'[addb frm (advOf w)]? = some 0 := by
    rw [hU.2, if_neg geo.ne1, if_neg d6]; exact e3
  have bf : B'[frm]? = some 0 := by rw [hU.2, if_pos rfl]
  have bt : B'[addb (addb frm (advOf w)) (advOf w)]? = some (pawnOf w) := by
    rw [hU.2, if_neg (fun e => by
      have := hs.hv; have h2 := hs.ht; simp only [] at this h2; rw [e, this] at h2
      exact pawnOf_ne_zero w (Option.some.inj h2)), if_pos rfl]
  refine ⟨by rw [mkPos_ep]; exact t1, by rw [mkPos_ep]; exact t2, by rw [mkPos_ep, mkPos_board]; exact b0, ?_⟩
  rw [ht, mkPos_ep, mkPos_board]
  cases w
  · simp only [Bool.not_false, if_true]
    simp only [behind, Bool.false_eq_true, if_false] at g4 d7
    refine ⟨d5, ?_, ?_⟩
    · rw [d7]; exact bt
    · rw [g4]; exact bf
  · simp only [Bool.not_true, Bool.false_eq_true, if_false]
    simp only [behind, if_true] at g4 d7
    refine ⟨d5, ?_, ?_⟩
    · rw [d7]; exact bt
    · rw [g4]; exact bf

/-- a non-pawn man steps, slides or captures onto a valid square not holding an own man or the enemy king -/
theorem step_spec {v x : Nat} (hI : Inv p) (hw : whiteTurn p = w) (hnk : m.to ≠ (p.side (!w)).king)
    (hfrm : m.frm ∈ sq88) (hv : p.board[m.frm]? = some v) (hman : Man w v) (hnp : v ≠ pawnOf w) (hto : m.to ∈ sq88)
    (hx : p.board[m.to]? = some x) (hcb : x &&& colorBit w = 0) (hep : m.ep = InvalidSq) (hpromo : m.promo = 0)
    (hnc : v = kingOf w → ¬ (fileOf m.frm = Gen.E ∧ (fileOf m.to = Gen.C ∨ fileOf m.to = Gen.G))) :
    ∃ p' b, makeMove p m = .ok (p', b) ∧ Inv p' ∧ (b = true ↔ OppSafe p') :=
  simple_noEp hI hw
    { frm := hfrm, «to» := hto, hv := hv, man := hman, ht := hx
      tgt := target_cases hI hto hx hcb fun e => hnk (king_unique hI hto (e ▸ hx))
      promo := fun e => absurd e hnp, pawnRank := fun e => absurd e hnp, notEp := fun e => absurd e hnp
      nonPawn := fun _ => hpromo, notCastle := hnc } hep

end

theorem makeMove_spec {p : Position} {m : Move} (hI : Inv p) (hS : OppSafe p) (hG : Generated p m) :
    ∃ p' b, makeMove p m = .ok (p', b) ∧ Inv p' ∧ (b = true ↔ OppSafe p') := by
  have hnk := GenPseudo.generated_not_king hI hS hG
  have hcur := hI.sideInv (whiteTurn p)
  cases MMAbs.generated_cases hI hG with
  | push hfrm hpawn hto hto88 hempty hep hpromo =>
    exact pawn_push_spec hI rfl ((hcur.ok.at hfrm hpawn).1.mpr rfl) rfl hto hep hpromo hempty
  | dbl hfrm hpawn hrank hto hto88 hempty hep hpromo hmid =>
    exact pawn_dbl_spec hI rfl ((hcur.ok.at hfrm hpawn).1.mpr rfl) hrank hto hpromo hep hmid hempty
  | capture hfrm hpawn d hd hto hto88 x hx hen hep hpromo =>
    exact pawn_capture_spec hI rfl hnk ((hcur.ok.at hfrm hpawn).1.mpr rfl) hd rfl hto hep hpromo hto88 hx hen
  | enpassant hfrm hpawn d hd hto hepsq hepok hep hpromo =>
    exact pawn_ep_spec hI rfl ((hcur.ok.at hfrm hpawn).1.mpr rfl) hd rfl hto hep hpromo hepsq hepok
  | officer hfrm c hc hpc hto88 x hx hown hep hpromo =>
    obtain ⟨hman, hnp, hnkk⟩ := officer_man hc
    exact step_spec hI rfl hnk hfrm hpc hman hnp hto88 hx hown hep hpromo fun e => absurd e hnkk
  | king hk d hd hto hto88 x hx hown hep hpromo =>
    have hkc := hcur.ok.king_cell
    refine step_spec hI rfl hnk (hk ▸ hkc.1) (hk ▸ hkc.2) (kingOf_man _) (fun e => pawnOf_ne_kingOf _ _ e.symm) hto88
      hx hown hep hpromo fun _ ⟨hE, hCG⟩ => ?_
    have := king_step_not_castle m.frm hd hE
    rw [← hto] at this
    exact hCG.elim this.1 this.2
  | castleK hk hflag hhome hto hempty hep hpromo hmid =>
    exact castleK_result hI rfl hflag hhome hto hmid hempty hpromo hep
  | castleQ hk hflag hhome hto hempty hep hpromo hmid =>
    exact castleQ_result hI rfl hflag hhome hto hmid hempty hpromo hep

theorem gameOk_of_B {kt : Killers} : ∀ {p : Position} {ms : List Move}, gameOkB kt p ms = true → GameOk p ms := by
  intro p ms
  induction ms generalizing p with
  | nil => intro _; trivial
  | cons m ms ih =>
    intro h
    unfold gameOkB at h
    split at h
    · rename_i l p' hg hmm
      simp only [Bool.and_eq_true, List.contains_iff_mem] at h
      exact ⟨⟨kt, l, hg, h.1⟩, p', hmm, ih h.2⟩
    · cases h

theorem GameOk.append_left : ∀ {ms : List Move} {p : Position} (ms' : List Move), GameOk p (ms ++ ms') → GameOk p ms
  | [], _, _, _ => trivial
  | _ :: _, _, ms', ⟨hg, p', hm, hr⟩ => ⟨hg, p', hm, GameOk.append_left ms' hr⟩

theorem history {p : Position} (hI : Inv p) (hS : OppSafe p) : ∀ {ms : List Move}, GameOk p ms →
    ∀ k, k ≤ ms.length → ∃ q, playM p (ms.take k) = .ok q ∧ Inv q ∧ OppSafe q := by
  intro ms
  induction ms generalizing p with
  | nil =>
    intro _ k hk
    have : k = 0 := by simpa using hk
    subst this
    exact ⟨p, rfl, hI, hS⟩
  | cons m ms ih =>
    intro hg k hk
    obtain ⟨hgen, p', hmm, hrest⟩ := hg
    cases k with
    | zero => exact ⟨p, rfl, hI, hS⟩
    | succ k =>
      obtain ⟨p'', b, h1, h2, h3⟩ := makeMove_spec hI hS hgen
      rw [hmm] at h1
      simp only [Except.ok.injEq, Prod.mk.injEq] at h1
      obtain ⟨rfl, rfl⟩ := h1
      obtain ⟨q, hq, hIq, hSq⟩ := ih h2 (h3.mp rfl) hrest k (by simpa using hk)
      refine ⟨q, ?_, hIq, hSq⟩
      simp only [List.take_succ_cons, playM, hmm, ok_bind]
      exact hq

/-- 1. e2-e4 (a double push setting the en-passant square e3) on the start position: generated and accepted -/
theorem game_e2e4 : GameOk startPosition [⟨0x14, 0x34, 0, 0x24⟩] :=
  gameOk_of_B (kt := Killers.empty) (by rw [startPosition_eq]; decide +kernel)

end Magog.MM
