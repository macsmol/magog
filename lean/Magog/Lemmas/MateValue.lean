import Magog.Lemmas.EvalBound
import Magog.Spec.MateM

/-! Lemmas for C05: mate scores of the plain minimax value `Spec.Minimax.V` are exact with respect to
    forced mates on the model's own game tree (`Spec.MateM.winsInM` / `losesInM`).

    Scores: with `L = Gen.LostScore`, a node at depth `d` whose side to move is mated in `n` plies has value
    `L + d + n`; one that mates in `n` plies has value `−(L + d + n)`.

    The full-width part has `rem` plies; below it the quiescence value `QV` still recognises (a) a checkmated
    leaf (stand-pat = mate score) and (b) a mate delivered by a tactical move at the leaf. Hence `V` with `rem`
    plies can show mates of length up to `rem + 1`; within `rem` the detection is complete, at `rem + 1` it is
    sound only (a quiet mating move at the horizon is not seen). -/

namespace Magog.Lemmas.MateValue
open Magog Magog.Model Magog.Spec.Minimax Magog.Spec.MateM Magog.Lemmas.AlphaBeta Magog.Lemmas.EvalBound

/-- the conclusion of `EvalBound.evaluate_class`, as a hypothesis on a set of positions -/
def EvalBoundOn (blend : Blend) (G : Position → Prop) : Prop :=
  ∀ p, G p → ∀ (d x : Int), evaluate blend p d = .ok x →
    (isCheckMate p = .ok true ∧ x = Gen.LostScore + d) ∨ (isCheckMate p = .ok false ∧ x.natAbs ≤ evalB)

theorem evalBoundOn_of_inv {blend : Blend} {G : Position → Prop} (hG : ∀ p, G p → Inv p)
    (hb : BlendBounded blend pstMaxAbs) : EvalBoundOn blend G :=
  fun p hp _ _ h => evaluate_class (hG p hp) hb h

/-- what the mate proofs need of the three move loops (full generator, tactical generator, counter), on a set of
    positions. `count` and `tact` are C06's `countMoves_eq_length` / `tactical_is_filter` (`genLink_of_countOk`). -/
structure GenLink (G : Position → Prop) : Prop where
  gen : ∀ p, G p → ∃ ms, generateMoves Killers.empty p = .ok ms
  count : ∀ p ms n, G p → generateMoves Killers.empty p = .ok ms → countMoves p = .ok n → n = ms.length
  tact : ∀ p ms ts, G p → generateMoves Killers.empty p = .ok ms → generateTacticalMoves p = .ok ts →
    ts.map (·.mov) = (ms.filter (·.tactical)).map (·.mov)

theorem genLink_of_countOk {G : Position → Prop}
    (hgen : ∀ p, G p → ∃ ms, generateMoves Killers.empty p = .ok ms)
    (hc : ∀ p, G p → Count.CountOk p) (hcells : ∀ p, G p → Count.CellsOk p) : GenLink G where
  gen := hgen
  count := fun p _ _ hp hf hn =>
    let c := hc p hp
    Count.countMoves_length c.size c.ep c.pawns c.capture c.king c.castle hf hn
  tact := fun p _ _ hp hf ht => Count.generate_tactical_rel (hcells p hp) hf ht

theorem allM'_of_ok {α} {f : α → M Bool} {g : α → Bool} {l : List α} (h : ∀ x ∈ l, f x = .ok (g x)) :
    allM' f l = .ok (l.all g) := by
  induction l with
  | nil => rfl
  | cons x xs ih =>
    have hx := h x List.mem_cons_self
    have hxs := ih (fun y hy => h y (List.mem_cons_of_mem _ hy))
    simp only [allM', hx, bind, Except.bind, List.all_cons]
    cases g x
    · rfl
    · simpa using hxs

theorem anyM'_spec {α} (f : α → M Bool) (l : List α) (h : ∀ x ∈ l, ∃ b, f x = .ok b) :
    ∃ b, anyM' f l = .ok b ∧ (b = true ↔ ∃ x ∈ l, f x = .ok true) :=
  ⟨_, Atk.anyM'_ok f (fun x => Count.okTrue (f x)) l fun x hx => (Count.ok_okTrue (h x hx)).1, by
    rw [List.any_eq_true]
    exact exists_congr fun x => and_congr_right fun hx => (Count.ok_okTrue (h x hx)).2⟩

theorem allM'_spec {α} (f : α → M Bool) (l : List α) (h : ∀ x ∈ l, ∃ b, f x = .ok b) :
    ∃ b, allM' f l = .ok b ∧ (b = true ↔ ∀ x ∈ l, f x = .ok true) :=
  ⟨_, allM'_of_ok (g := fun x => Count.okTrue (f x)) fun x hx => (Count.ok_okTrue (h x hx)).1, by
    rw [List.all_eq_true]
    exact forall_congr' fun x => imp_congr_right fun hx => (Count.ok_okTrue (h x hx)).2⟩

theorem allM'_false {α} (f : α → M Bool) (l : List α) (h : allM' f l = .ok false) :
    ∃ x ∈ l, f x = .ok false := by
  induction l with
  | nil => simp only [allM', pure_ok] at h; cases h
  | cons x xs ih =>
    simp only [allM', bind_ok] at h
    obtain ⟨b, hb, h⟩ := h
    cases b with
    | false => exact ⟨x, by simp, hb⟩
    | true =>
      simp only [if_true] at h
      obtain ⟨y, hy, hfy⟩ := ih h
      exact ⟨y, List.mem_cons_of_mem _ hy, hfy⟩

theorem isCheckMate_ok {p : Position} {b : Bool} : isCheckMate p = .ok b ↔
    ∃ chk, isCurrentKingUnderCheck p = .ok chk ∧
      (chk = true ∧ (∃ n, countMoves p = .ok n ∧ b = (n == 0)) ∨ ¬chk = true ∧ b = false) := by
  simp only [isCheckMate, Model.andM, ite_ok, bind_ok, pure_ok']

theorem isCheckMate_true {p : Position} (h : isCheckMate p = .ok true) :
    isCurrentKingUnderCheck p = .ok true ∧ countMoves p = .ok 0 := by
  obtain ⟨chk, hchk, ⟨rfl, n, hn, h⟩ | ⟨-, h⟩⟩ := isCheckMate_ok.1 h
  · obtain rfl : n = 0 := by simpa using h.symm
    exact ⟨hchk, hn⟩
  · cases h

theorem isCheckMate_false {p : Position} (h : isCheckMate p = .ok false) :
    isCurrentKingUnderCheck p = .ok false ∨
    (isCurrentKingUnderCheck p = .ok true ∧ ∃ n, countMoves p = .ok n ∧ n ≠ 0) := by
  obtain ⟨chk, hchk, ⟨rfl, n, hn, h⟩ | ⟨hc, -⟩⟩ := isCheckMate_ok.1 h
  · exact .inr ⟨hchk, n, hn, by simpa using h.symm⟩
  · obtain rfl : chk = false := by simpa using hc
    exact .inl hchk
/-- the quiescence node's mate test (`isCheckMate`: in check and the counter says 0) agrees with the
    full-width node's (`matedM`: the generator's list is empty and in check) -/
theorem matedM_of_isCheckMate {G : Position → Prop} (hl : GenLink G) {p : Position} (hp : G p) {b : Bool}
    (h : isCheckMate p = .ok b) : matedM p = .ok b := by
  obtain ⟨ms, hms⟩ := hl.gen p hp
  unfold matedM
  simp only [hms, bind, Except.bind]
  cases b with
  | true =>
    obtain ⟨hchk, hn⟩ := isCheckMate_true h
    have := hl.count p ms 0 hp hms hn
    have hnil : ms = [] := List.length_eq_zero_iff.mp this.symm
    subst hnil
    simpa using hchk
  | false =>
    rcases isCheckMate_false h with hchk | ⟨hchk, n, hn, hne⟩
    · cases hms' : ms.isEmpty
      · rfl
      · simpa using hchk
    · have := hl.count p ms n hp hms hn
      have : ms.isEmpty = false := by
        cases ms with
        | nil => simp at this; omega
        | cons _ _ => rfl
      simp only [this]; rfl

theorem mate_no_tactical {G : Position → Prop} (hl : GenLink G) {p : Position} (hp : G p)
    (h : isCheckMate p = .ok true) {ts : List RMove} (hts : generateTacticalMoves p = .ok ts) :
    ts.map (·.mov) = [] := by
  obtain ⟨ms, hms⟩ := hl.gen p hp
  obtain ⟨_, hn⟩ := isCheckMate_true h
  have := hl.count p ms 0 hp hms hn
  have hnil : ms = [] := List.length_eq_zero_iff.mp this.symm
  subst hnil
  have := hl.tact p [] ts hp hms hts
  simpa using this

theorem childM_eq {p : Position} {m : Move} {q : Position} (f : Position → M Bool)
    (h : makeMove p m = .ok (q, true)) : childM p m f = f q := by
  unfold childM
  simp only [h, bind, Except.bind, Bool.not_true, Bool.false_eq_true, if_false]

def QClass (p : Position) (d : Nat) (w : Int) : Prop :=
  (isCheckMate p = .ok true ∧ w = Gen.LostScore + d) ∨
  (isCheckMate p = .ok false ∧ w.natAbs ≤ evalB) ∨
  (isCheckMate p = .ok false ∧ w = -(Gen.LostScore + d + 1) ∧
    ∃ ts m q, generateTacticalMoves p = .ok ts ∧ m ∈ ts.map (·.mov) ∧ makeMove p m = .ok (q, true) ∧
      isCheckMate q = .ok true)

theorem QV_class (blend : Blend) (G : Position → Prop) (hcl : Closed G) (hev : EvalBoundOn blend G)
    (hl : GenLink G) (D : Nat) (hD : Gen.LostScore + (D : Int) < -(evalB : Int)) (fuel : Nat) :
    ∀ (d : Nat) (p : Position) (w : Int), G p → d + fuel + 1 ≤ D → QV blend fuel p d = .ok w → QClass p d w := by
  induction fuel with
  | zero => intro d p w _ _ h; simp only [QV, throw_ok] at h
  | succ fuel ih =>
    intro d p w hp hdD h
    unfold QV at h
    simp only [bind_ok] at h
    obtain ⟨e, he, ts, hts, h⟩ := h
    rcases hev p hp d e he with ⟨hm, hev⟩ | ⟨hm, hev⟩
    · -- checkmated: no tactical moves
      rw [mate_no_tactical hl hp hm hts, foldMax_nil_ok] at h
      subst h
      exact .inl ⟨hm, hev⟩
    · obtain ⟨hge, -, hatt⟩ := foldMax_ok.1 h
      rcases hatt with hw | ⟨m, hmem, hw⟩
      · subst hw; exact .inr (.inl ⟨hm, hev⟩)
      · rw [childVal_ok] at hw
        obtain ⟨q, b, x, hmk, hb, hx, hwx⟩ := hw
        subst hb
        have hq : G q := hcl p m q true hp (.inr ⟨ts, hts, hmem⟩) hmk
        rcases ih (d + 1) q x hq (by omega) hx with ⟨hqm, hxv⟩ | ⟨_, hxv⟩ | ⟨_, hxv, _⟩
        · refine .inr (.inr ⟨hm, ?_, ts, m, q, hts, hmem, hmk, hqm⟩)
          rw [hwx, hxv]; omega
        · exact .inr (.inl ⟨hm, by omega⟩)
        · exfalso
          omega

theorem spec_false {x : M Bool} {P : Prop} (h : x = .ok false) (hP : ¬P) : ∃ b, x = .ok b ∧ (b = true ↔ P) :=
  ⟨false, h, by simp only [Bool.false_eq_true, false_iff]; exact hP⟩

theorem spec_true {x : M Bool} {P : Prop} (h : x = .ok true) (hP : P) : ∃ b, x = .ok b ∧ (b = true ↔ P) :=
  ⟨true, h, by simp only [true_iff]; exact hP⟩

/-- what the value `w` of `V … rem p d` says about forced mates from `p` on the model tree -/
structure MateSpec (p : Position) (d rem : Nat) (w : Int) : Prop where
  range : (∃ n, n ≤ rem + 1 ∧ w = Gen.LostScore + d + n) ∨ w.natAbs ≤ evalB ∨
    (∃ n, 1 ≤ n ∧ n ≤ rem + 1 ∧ w = -(Gen.LostScore + d + n))
  loses : ∀ n, n ≤ rem → ∃ b, losesInM n p = .ok b ∧ (b = true ↔ w ≤ Gen.LostScore + d + n)
  wins : ∀ n, n ≤ rem → ∃ b, winsInM n p = .ok b ∧ (b = true ↔ -(Gen.LostScore + d + n) ≤ w)
  /-- one ply beyond (mates seen by quiescence): soundness only -/
  losesNext : w ≤ Gen.LostScore + d + (rem + 1 : Nat) → ∀ b, losesInM (rem + 1) p = .ok b → b = true
  winsNext : -(Gen.LostScore + d + (rem + 1 : Nat)) ≤ w → ∀ b, winsInM (rem + 1) p = .ok b → b = true

theorem mateSpec_leaf {G : Position → Prop} (hcl : Closed G) (hl : GenLink G) {D : Nat}
    (hD : Gen.LostScore + (D : Int) < -(evalB : Int)) {p : Position} (hp : G p) {d : Nat} (hdD : d + 1 ≤ D)
    {w : Int} (hc : QClass p d w) : MateSpec p d 0 w := by
  -- within the horizon `n ≤ 0` there is only `n = 0`: mated at once / no mate for the mover
  have hloses : ∀ b, isCheckMate p = .ok b → (b = true ↔ w ≤ Gen.LostScore + d) →
      ∀ n, n ≤ 0 → ∃ b, losesInM n p = .ok b ∧ (b = true ↔ w ≤ Gen.LostScore + d + n) := by
    intro b hb hiff n hn
    obtain rfl : n = 0 := by omega
    refine ⟨b, by rw [losesInM]; exact matedM_of_isCheckMate hl hp hb, ?_⟩
    rw [hiff]; omega
  have hwins : w < -(Gen.LostScore + d) →
      ∀ n, n ≤ 0 → ∃ b, winsInM n p = .ok b ∧ (b = true ↔ -(Gen.LostScore + d + n) ≤ w) := by
    intro hlt n hn
    obtain rfl : n = 0 := by omega
    exact spec_false (by rw [winsInM]; rfl) (by omega)
  rcases hc with ⟨hm, hw⟩ | ⟨hm, hw⟩ | ⟨hm, hw, ts, m, q, hts, hmem, hmk, hqm⟩
  · refine ⟨.inl ⟨0, by omega, by omega⟩, hloses true hm (by simp only [true_iff]; omega), hwins (by omega), ?_,
      fun h => by omega⟩
    intro _ b hb
    rw [losesInM] at hb
    simp only [matedM_of_isCheckMate hl hp hm, bind, Except.bind, if_true, pure_ok] at hb
    exact hb.symm
  · exact ⟨.inr (.inl hw), hloses false hm (by simp only [Bool.false_eq_true, false_iff]; omega),
      hwins (by omega), fun h => by omega, fun h => by omega⟩
  · refine ⟨.inr (.inr ⟨1, by omega, by omega, by omega⟩),
      hloses false hm (by simp only [Bool.false_eq_true, false_iff]; omega), hwins (by omega), fun h => by omega, ?_⟩
    · intro _ b hb
      cases b with
      | true => rfl
      | false =>
        exfalso
        rw [winsInM] at hb
        simp only [bind_ok] at hb
        obtain ⟨ms, hms, hb⟩ := hb
        have hall := Count.anyM'_false hb
        have hmem' : m ∈ (ms.filter (·.tactical)).map (·.mov) := by
          rw [← hl.tact p ms ts hp hms hts]; exact hmem
        obtain ⟨rm, hrm, hrmm⟩ := List.mem_map.mp hmem'
        have hrm' : rm ∈ ms := (List.mem_filter.mp hrm).1
        have hq : G q := hcl p m q true hp (.inr ⟨ts, hts, hmem⟩) hmk
        have := hall rm hrm'
        simp only [hrmm] at this
        rw [childM_eq _ hmk, losesInM, matedM_of_isCheckMate hl hq hqm] at this
        cases this

theorem matedM_of_moves {p : Position} {ms : List RMove} (hms : generateMoves Killers.empty p = .ok ms) :
    matedM p = if ms.isEmpty then isCurrentKingUnderCheck p else .ok false := by
  unfold matedM
  simp only [hms, bind, Except.bind]
  rfl

theorem losesInM_succ_of_moves {p : Position} {ms : List RMove} (n : Nat)
    (hms : generateMoves Killers.empty p = .ok ms) (hne : ms ≠ []) :
    losesInM (n + 1) p = allM' (fun rm => childM p rm.mov (winsInM n)) ms := by
  have he : ms.isEmpty = false := by cases ms with | nil => exact absurd rfl hne | cons _ _ => rfl
  rw [losesInM, matedM_of_moves hms]
  simp only [he, Bool.false_eq_true, if_false, bind, Except.bind, hms]

theorem winsInM_succ_of_moves {p : Position} {ms : List RMove} (n : Nat)
    (hms : generateMoves Killers.empty p = .ok ms) :
    winsInM (n + 1) p = anyM' (fun rm => childM p rm.mov (losesInM n)) ms := by
  rw [winsInM]
  simp only [hms, bind, Except.bind]

theorem mateSpec_terminal {D : Nat} (hD : Gen.LostScore + (D : Int) < -(evalB : Int)) {p : Position} {d rem : Nat}
    (hdD : d + rem + 1 ≤ D) {w : Int} (hms : generateMoves Killers.empty p = .ok [])
    (h : terminalNodeScore p d = .ok w) : MateSpec p d rem w := by
  have hmat := matedM_of_moves hms
  simp only [List.isEmpty_nil, if_true] at hmat
  have hwins : ∀ n, winsInM n p = .ok false := by
    intro n
    cases n with
    | zero => rw [winsInM]; rfl
    | succ n => rw [winsInM_succ_of_moves n hms]; rfl
  rcases terminalNodeScore_cases h with ⟨hchk, hw⟩ | ⟨hchk, hw⟩
  · -- checkmate
    have hloses : ∀ n, losesInM n p = .ok true := by
      intro n
      cases n with
      | zero => rw [losesInM, hmat, hchk]
      | succ n => rw [losesInM, hmat, hchk]; rfl
    refine ⟨.inl ⟨0, by omega, by omega⟩, ?_, ?_, ?_, ?_⟩
    · intro n _; exact spec_true (hloses n) (by omega)
    · intro n _; exact spec_false (hwins n) (by omega)
    · intro _ b hb; rw [hloses] at hb; cases hb; rfl
    · intro h; exfalso; omega
  · -- stalemate
    simp only [Gen.DrawScore] at hw
    have hloses : ∀ n, losesInM n p = .ok false := by
      intro n
      cases n with
      | zero => rw [losesInM, hmat, hchk]
      | succ n =>
        rw [losesInM, hmat, hchk]
        simp only [bind, Except.bind, Bool.false_eq_true, if_false, hms, List.isEmpty_nil, if_true]
        rfl
    refine ⟨.inr (.inl (by omega)), ?_, ?_, ?_, ?_⟩
    · intro n _; exact spec_false (hloses n) (by omega)
    · intro n _; exact spec_false (hwins n) (by omega)
    · intro h; exfalso; omega
    · intro h; exfalso; omega

theorem mateSpec_step {blend : Blend} {qfuel : Nat} {D : Nat}
    (hD : Gen.LostScore + (D : Int) < -(evalB : Int)) {p : Position} {d rem : Nat} (hdD : d + rem + 2 ≤ D)
    {w : Int} {ms : List RMove} (hms : generateMoves Killers.empty p = .ok ms) (hne : ms ≠ [])
    (hall : ∀ m ∈ ms.map (·.mov), ∃ v, childVal (fun q => V blend qfuel rem q (d + 1)) p m = .ok v ∧ v ≤ w)
    (hatt : ∃ m ∈ ms.map (·.mov), childVal (fun q => V blend qfuel rem q (d + 1)) p m = .ok w)
    (ih : ∀ rm ∈ ms, ∀ q x, makeMove p rm.mov = .ok (q, true) → V blend qfuel rem q (d + 1) = .ok x →
      MateSpec q (d + 1) rem x) : MateSpec p d (rem + 1) w := by
  obtain ⟨_, hm0, hv0⟩ := hatt
  obtain ⟨rm0, hrm0, rfl⟩ := List.mem_map.1 hm0
  obtain ⟨q0, _, x0, hmk0, rfl, hx0, hw0⟩ := childVal_ok.1 hv0
  have s0 := ih rm0 hrm0 q0 x0 hmk0 hx0
  have hrange : (∃ n, n ≤ rem + 1 + 1 ∧ w = Gen.LostScore + d + n) ∨ w.natAbs ≤ evalB ∨
      (∃ n, 1 ≤ n ∧ n ≤ rem + 1 + 1 ∧ w = -(Gen.LostScore + d + n)) := by
    rcases s0.range with ⟨n, hn, hx⟩ | hx | ⟨n, hn1, hn, hx⟩
    · exact .inr (.inr ⟨n + 1, by omega, by omega, by omega⟩)
    · exact .inr (.inl (by omega))
    · exact .inl ⟨n + 1, by omega, by omega⟩
  have hlo : Gen.LostScore + d + 1 ≤ w ∧ w ≤ -(Gen.LostScore + d + 1) := by
    rcases hrange with ⟨n, hn, hx⟩ | hx | ⟨n, hn1, hn, hx⟩
    · -- a "mated in n" value at an interior node with moves has n ≥ 2
      rcases s0.range with ⟨n', hn', hx'⟩ | hx' | ⟨n', hn1', hn', hx'⟩
      · omega
      · omega
      · omega
    · omega
    · omega
  -- every move leads to a successor with a known value, whose own specification is available
  have kid : ∀ rm ∈ ms, ∃ q x, (∀ f : Position → M Bool, childM p rm.mov f = f q) ∧
      MateSpec q (d + 1) rem x ∧ -x ≤ w := fun rm hrm =>
    let ⟨_, hv, hvw⟩ := hall _ (List.mem_map_of_mem hrm)
    let ⟨q, _, x, hmk, hb, hx, e⟩ := childVal_ok.1 hv
    ⟨q, x, fun f => childM_eq f (hb ▸ hmk), ih rm hrm q x (hb ▸ hmk) hx, e ▸ hvw⟩
  have e0 : ∀ f : Position → M Bool, childM p rm0.mov f = f q0 := fun f => childM_eq f hmk0
  refine ⟨hrange, ?_, ?_, ?_, ?_⟩
  · -- loses, n ≤ rem + 1: every move must win for the opponent; the best move decides
    intro n hn
    cases n with
    | zero =>
      have he : ms.isEmpty = false := by cases ms with | nil => exact absurd rfl hne | cons _ _ => rfl
      exact spec_false (by rw [losesInM, matedM_of_moves hms, he]; rfl) (by omega)
    | succ k =>
      rw [losesInM_succ_of_moves k hms hne]
      obtain ⟨b, hb, hiff⟩ := allM'_spec (fun rm => childM p rm.mov (winsInM k)) ms fun rm hrm => by
        obtain ⟨q, x, e, sp, -⟩ := kid rm hrm
        obtain ⟨b, hb, -⟩ := sp.wins k (by omega)
        exact ⟨b, by rw [e]; exact hb⟩
      refine ⟨b, hb, hiff.trans ⟨fun hall => ?_, fun hle rm hrm => ?_⟩⟩
      · obtain ⟨b', hb', hiff'⟩ := s0.wins k (by omega)
        rw [(e0 _).symm.trans (hall rm0 hrm0)] at hb'
        cases hb'
        have := hiff'.mp rfl
        omega
      · obtain ⟨q, x, e, sp, hxw⟩ := kid rm hrm
        obtain ⟨b', hb', hiff'⟩ := sp.wins k (by omega)
        rw [e, hb', hiff'.mpr (by omega)]
  · -- wins, n ≤ rem + 1: some move must lose for the opponent; the best move does if any
    intro n hn
    cases n with
    | zero =>
      exact spec_false (by rw [winsInM]; rfl) (by omega)
    | succ k =>
      rw [winsInM_succ_of_moves k hms]
      obtain ⟨b, hb, hiff⟩ := anyM'_spec (fun rm => childM p rm.mov (losesInM k)) ms fun rm hrm => by
        obtain ⟨q, x, e, sp, -⟩ := kid rm hrm
        obtain ⟨b, hb, -⟩ := sp.loses k (by omega)
        exact ⟨b, by rw [e]; exact hb⟩
      refine ⟨b, hb, hiff.trans ⟨fun ⟨rm, hrm, hrmt⟩ => ?_, fun hle => ⟨rm0, hrm0, ?_⟩⟩⟩
      · obtain ⟨q, x, e, sp, hxw⟩ := kid rm hrm
        obtain ⟨b', hb', hiff'⟩ := sp.loses k (by omega)
        rw [e, hb'] at hrmt
        cases hrmt
        have := hiff'.mp rfl
        omega
      · obtain ⟨b', hb', hiff'⟩ := s0.loses k (by omega)
        rw [e0, hb', hiff'.mpr (by omega)]
  · -- losesNext
    intro hle b hb
    cases b with
    | true => rfl
    | false =>
      rw [losesInM_succ_of_moves (rem + 1) hms hne] at hb
      obtain ⟨rm, hrm, hf⟩ := allM'_false _ _ hb
      obtain ⟨q, x, e, sp, hxw⟩ := kid rm hrm
      rw [e] at hf
      exact sp.winsNext (by omega) false hf
  · -- winsNext
    intro hle b hb
    cases b with
    | true => rfl
    | false =>
      rw [winsInM_succ_of_moves (rem + 1) hms] at hb
      have hf := Count.anyM'_false hb rm0 hrm0
      rw [e0] at hf
      exact s0.losesNext (by omega) false hf

theorem V_mateSpec (blend : Blend) (qfuel : Nat) (G : Position → Prop) (hcl : Closed G)
    (hev : EvalBoundOn blend G) (hl : GenLink G) (D : Nat) (hD : Gen.LostScore + (D : Int) < -(evalB : Int))
    (rem : Nat) :
    ∀ (d : Nat) (p : Position) (w : Int), G p → d + rem + qfuel + 1 ≤ D → V blend qfuel rem p d = .ok w →
      MateSpec p d rem w := by
  induction rem with
  | zero =>
    intro d p w hp hdD h
    unfold V at h
    exact mateSpec_leaf hcl hl hD hp (by omega) (QV_class blend G hcl hev hl D hD qfuel d p w hp (by omega) h)
  | succ rem ih =>
    intro d p w hp hdD h
    obtain ⟨ms, hms, ⟨hnil, hterm⟩ | ⟨hne, hall, hatt⟩⟩ := V_succ_ok h
    · subst hnil
      exact mateSpec_terminal hD (by omega) hms hterm
    · refine mateSpec_step hD (by omega) hms hne hall hatt ?_
      intro rm hrm q x hmk hx
      have hq : G q := hcl p rm.mov q true hp (.inl ⟨_, ms, hms, List.mem_map.mpr ⟨rm, hrm, rfl⟩⟩) hmk
      exact ih (d + 1) q x hq (by omega) hx

theorem definedM {G : Position → Prop} (hcl : Closed G)
    (hgen : ∀ p, G p → ∃ ms, generateMoves Killers.empty p = .ok ms)
    (hchk : ∀ p, G p → ∃ c, isCurrentKingUnderCheck p = .ok c) (n : Nat) :
    ∀ p, G p → (∃ b, winsInM n p = .ok b) ∧ (∃ b, losesInM n p = .ok b) := by
  have hmated : ∀ p, G p → ∃ b, matedM p = .ok b := by
    intro p hp
    obtain ⟨ms, hms⟩ := hgen p hp
    rw [matedM_of_moves hms]
    split
    · exact hchk p hp
    · exact ⟨false, rfl⟩
  induction n with
  | zero =>
    intro p hp
    exact ⟨⟨false, by rw [winsInM]; rfl⟩, by rw [losesInM]; exact hmated p hp⟩
  | succ n ih =>
    intro p hp
    obtain ⟨ms, hms⟩ := hgen p hp
    have hkid : ∀ rm ∈ ms, ∃ q, makeMove p rm.mov = .ok (q, true) ∧ G q := by
      intro rm hrm
      obtain ⟨q, hmk⟩ := (Count.generateMoves_mem hms hrm).2
      exact ⟨q, hmk, hcl p rm.mov q true hp (.inl ⟨_, ms, hms, List.mem_map.mpr ⟨rm, hrm, rfl⟩⟩) hmk⟩
    constructor
    · rw [winsInM_succ_of_moves n hms]
      obtain ⟨b, hb, _⟩ := anyM'_spec (fun rm => childM p rm.mov (losesInM n)) ms (fun rm hrm => by
        obtain ⟨q, hmk, hq⟩ := hkid rm hrm
        rw [childM_eq _ hmk]; exact (ih q hq).2)
      exact ⟨b, hb⟩
    · by_cases hne : ms = []
      · subst hne
        obtain ⟨b, hb⟩ := hmated p hp
        rw [losesInM, hb]
        cases b
        · simp only [bind, Except.bind, Bool.false_eq_true, if_false, hms, List.isEmpty_nil, if_true]
          exact ⟨false, rfl⟩
        · exact ⟨true, rfl⟩
      · rw [losesInM_succ_of_moves n hms hne]
        obtain ⟨b, hb, _⟩ := allM'_spec (fun rm => childM p rm.mov (winsInM n)) ms (fun rm hrm => by
          obtain ⟨q, hmk, hq⟩ := hkid rm hrm
          rw [childM_eq _ hmk]; exact (ih q hq).1)
        exact ⟨b, hb⟩

theorem closeToMate_iff_of_range {d rem D : Nat} {w : Int} (hD : Gen.LostScore + (D : Int) < -(Gen.ScoreCloseToMate : Int))
    (hdD : d + rem + 1 ≤ D)
    (hr : (∃ n, n ≤ rem + 1 ∧ w = Gen.LostScore + d + n) ∨ w.natAbs ≤ evalB ∨
      (∃ n, 1 ≤ n ∧ n ≤ rem + 1 ∧ w = -(Gen.LostScore + d + n))) :
    closeToMate w = true ↔ ¬ w.natAbs ≤ evalB := by
  have := evalB_lt
  unfold closeToMate
  simp only [gt_iff_lt, decide_eq_true_eq]
  rcases hr with ⟨n, hn, hw⟩ | hw | ⟨n, _, hn, hw⟩ <;> omega

theorem first_true {f : Nat → M Bool} {P : Nat → Prop} {rem n : Nat}
    (hs : ∀ k, k ≤ rem → ∃ b, f k = .ok b ∧ (b = true ↔ P k))
    (hnext : P (rem + 1) → ∀ b, f (rem + 1) = .ok b → b = true) (hdef : ∃ b, f (rem + 1) = .ok b)
    (hn : n ≤ rem + 1) (hP : P n) (hmin : ∀ k, k < n → ¬P k) :
    f n = .ok true ∧ ∀ k, k < n → f k = .ok false := by
  constructor
  · by_cases hnr : n ≤ rem
    · obtain ⟨b, hb, hiff⟩ := hs n hnr
      rw [hb, hiff.mpr hP]
    · obtain rfl : n = rem + 1 := by omega
      obtain ⟨b, hb⟩ := hdef
      rw [hb, hnext hP b hb]
  · intro k hk
    obtain ⟨b, hb, hiff⟩ := hs k (by omega)
    rw [hb]
    cases b with
    | false => rfl
    | true => exact absurd (hiff.mp rfl) (hmin k hk)

/-- **soundness**: a mate-valued `V` is `±(Lost + depth + n)` for an `n ≤ rem + 1` such that a forced mate of
    exactly that length exists on the model tree -/
theorem V_mate_sound (blend : Blend) (qfuel : Nat) (G : Position → Prop) (hcl : Closed G)
    (hev : EvalBoundOn blend G) (hl : GenLink G) (hchk : ∀ p, G p → ∃ c, isCurrentKingUnderCheck p = .ok c)
    (D : Nat) (hD : Gen.LostScore + (D : Int) < -(Gen.ScoreCloseToMate : Int))
    (rem d : Nat) (p : Position) (w : Int) (hp : G p) (hdD : d + rem + qfuel + 1 ≤ D)
    (h : V blend qfuel rem p d = .ok w) (hmate : closeToMate w = true) :
    (∃ n, n ≤ rem + 1 ∧ w = Gen.LostScore + d + n ∧ losesInM n p = .ok true ∧
      ∀ k, k < n → losesInM k p = .ok false) ∨
    (∃ n, 1 ≤ n ∧ n ≤ rem + 1 ∧ w = -(Gen.LostScore + d + n) ∧ winsInM n p = .ok true ∧
      ∀ k, k < n → winsInM k p = .ok false) := by
  have hlt := evalB_lt
  have hD' : Gen.LostScore + (D : Int) < -(evalB : Int) := by omega
  have sp := V_mateSpec blend qfuel G hcl hev hl D hD' rem d p w hp hdD h
  have hnb := (closeToMate_iff_of_range hD (by omega) sp.range).mp hmate
  have hdef := definedM hcl hl.gen hchk (rem + 1) p hp
  rcases sp.range with ⟨n, hn, hw⟩ | hw | ⟨n, hn1, hn, hw⟩
  · obtain ⟨h1, h2⟩ := first_true (f := fun k => losesInM k p) (P := fun k => w ≤ Gen.LostScore + d + k)
      sp.loses sp.losesNext hdef.2 hn (by omega) (fun k hk => by omega)
    exact .inl ⟨n, hn, hw, h1, h2⟩
  · exact absurd hw hnb
  · obtain ⟨h1, h2⟩ := first_true (f := fun k => winsInM k p) (P := fun k => -(Gen.LostScore + d + k) ≤ w)
      sp.wins sp.winsNext hdef.1 hn (by omega) (fun k hk => by omega)
    exact .inr ⟨n, hn1, hn, hw, h1, h2⟩

/-- **completeness within the horizon**: the least `n ≤ rem` with a forced mate fixes the value -/
theorem V_mate_complete (blend : Blend) (qfuel : Nat) (G : Position → Prop) (hcl : Closed G)
    (hev : EvalBoundOn blend G) (hl : GenLink G) (D : Nat) (hD : Gen.LostScore + (D : Int) < -(evalB : Int))
    (rem d : Nat) (p : Position) (w : Int) (hp : G p) (hdD : d + rem + qfuel + 1 ≤ D)
    (h : V blend qfuel rem p d = .ok w) (n : Nat) (hn : n ≤ rem) :
    (losesInM n p = .ok true → (∀ k, k < n → losesInM k p = .ok false) → w = Gen.LostScore + d + n) ∧
    (winsInM n p = .ok true → (∀ k, k < n → winsInM k p = .ok false) → w = -(Gen.LostScore + d + n)) := by
  have sp := V_mateSpec blend qfuel G hcl hev hl D hD rem d p w hp hdD h
  constructor
  · intro ht hf
    obtain ⟨b, hb, hiff⟩ := sp.loses n hn
    rw [ht] at hb; cases hb
    have h1 := hiff.mp rfl
    cases n with
    | zero =>
      rcases sp.range with ⟨m, _, hw⟩ | hw | ⟨m, _, _, hw⟩ <;> omega
    | succ k =>
      obtain ⟨b', hb', hiff'⟩ := sp.loses k (by omega)
      rw [hf k (by omega)] at hb'; cases hb'
      have : ¬ w ≤ Gen.LostScore + d + k := fun hc => by cases hiff'.mpr hc
      omega
  · intro ht hf
    obtain ⟨b, hb, hiff⟩ := sp.wins n hn
    rw [ht] at hb; cases hb
    have h1 := hiff.mp rfl
    cases n with
    | zero => rw [winsInM] at ht; cases ht
    | succ k =>
      obtain ⟨b', hb', hiff'⟩ := sp.wins k (by omega)
      rw [hf k (by omega)] at hb'; cases hb'
      have : ¬ -(Gen.LostScore + d + k) ≤ w := fun hc => by cases hiff'.mpr hc
      omega

end Magog.Lemmas.MateValue
