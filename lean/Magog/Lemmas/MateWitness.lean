import Magog.Lemmas.MateValue
import Magog.Lemmas.AlphaBetaWitness
import Magog.Lemmas.KillerIndep
import Magog.Lemmas.MirrorWitness

/-! Concrete witnesses for the non-vacuity examples of C05 (kernel-evaluated runs of the model). -/

namespace Magog.Lemmas.MateValue
open Magog Magog.Model Magog.Spec.Minimax Magog.Spec.MateM Magog.Lemmas.AlphaBeta Magog.Lemmas.EvalBound

theorem killerIndep' : KillerIndep :=
  fun kt kt' p ms ms' h h' => Magog.Lemmas.KillerIndep.killerIndep kt kt' p ms ms' h h'

/-- not mate, material and tables balanced, twenty moves each: mobility cancels. (Read off the four calls of
    `lazyEvaluate`; evaluating `evaluate` on the start position would run the two counters again.) -/
theorem start_eval : evaluate demoBlend startPosition 0 = .ok 0 :=
  lazyEvaluate_ok.2 ⟨false, okIs_eq (by rw [startPosition_eq]; decide +kernel), .inr ⟨Bool.false_ne_true, 0,
    okIs_eq (by rw [startPosition_eq]; decide +kernel), .inr ⟨by decide, 20, Witness.start_countMoves,
      .inr ⟨by decide, 20, Witness.start_flip_countMoves, by decide⟩⟩⟩⟩

theorem demoBlend_bounded : BlendBounded demoBlend pstMaxAbs := blendBounded_mid pstMaxAbs

/-! #### the mated root (fool's mate) as a one-point closed set satisfying all hypotheses of the mate theorems -/

theorem fm_evalBoundOn : EvalBoundOn demoBlend FM := by
  intro p hp d x hx
  unfold FM at hp; subst hp
  refine .inl ⟨fm_mate, ?_⟩
  unfold evaluate lazyEvaluate at hx
  simp only [fm_mate, bind_ok, Except.ok.injEq, exists_eq_left', if_true, pure_ok] at hx
  exact hx.symm

theorem fm_genLink : GenLink FM where
  gen := fun p hp => by unfold FM at hp; subst hp; exact ⟨[], fm_gen⟩
  count := fun p ms n hp hms hn => by
    unfold FM at hp; subst hp
    rw [fm_gen] at hms; rw [fm_count] at hn
    cases hms; cases hn; rfl
  tact := fun p ms ts hp hms hts => by
    unfold FM at hp; subst hp
    rw [fm_gen] at hms; rw [fm_tact] at hts
    cases hms; cases hts; rfl

theorem fm_chk : ∀ p, FM p → ∃ c, isCurrentKingUnderCheck p = .ok c := by
  intro p hp; unfold FM at hp; subst hp; exact ⟨true, fm_check⟩

theorem fm_V : V demoBlend 3 2 foolsMate 0 = .ok Gen.LostScore := fm_rootV

theorem fm_loses0 : losesInM 0 foolsMate = .ok true := by
  rw [losesInM, matedM_of_moves fm_gen]
  exact fm_check

/-! #### a mate in one: Kb6, Pc7 against Ka8, white to move (c8=Q# or c8=R#) -/

def m1Pos : Position := ofFen "k7/2P5/1K6/8/8/8/8/8 w - - 0 1"

theorem m1Pos_eq : m1Pos =
    { board := #[0, 0, 0, 0, 0, 0, 0, 0, 0, 0, 0, 0, 0, 0, 0, 0, 0, 0, 0, 0, 0, 0, 0, 0, 0, 0, 0, 0, 0, 0, 0, 0,
      0, 0, 0, 0, 0, 0, 0, 0, 0, 0, 0, 0, 0, 0, 0, 0, 0, 0, 0, 0, 0, 0, 0, 0, 0, 0, 0, 0, 0, 0, 0, 0, 0, 0, 0, 0,
      0, 0, 0, 0, 0, 0, 0, 0, 0, 0, 0, 0, 0, 160, 0, 0, 0, 0, 0, 0, 0, 0, 0, 0, 0, 0, 0, 0, 0, 0, 129, 0, 0, 0, 0,
      0, 0, 0, 0, 0, 0, 0, 0, 0, 96, 0, 0, 0, 0, 0, 0, 0, 0, 0, 0, 0, 0, 0, 0, 0], blackPieces := [], whitePieces
      := [], blackPawns := [], whitePawns := [98], blackKing := 112, whiteKing := 81, flags := 1, ep := 136, ply
      := 0 } := by
  decide +kernel

theorem m1_inv : Inv m1Pos := (ofFen_good _).1

/-- One full-width ply, then quiescence: the value is "mates in 1" at depth 0. Evaluated together with the mate
    solver, which looks at the same successors. -/
theorem m1_runs : okIs (winsInM 1 m1Pos) true = true ∧ okIs (V demoBlend 2 1 m1Pos 0) 99999 = true := by
  rw [m1Pos_eq]; decide +kernel

theorem m1_wins1 : winsInM 1 m1Pos = .ok true := okIs_eq m1_runs.1
theorem m1_wins0 : winsInM 0 m1Pos = .ok false := by rw [winsInM]; rfl
theorem m1_V : V demoBlend 2 1 m1Pos 0 = .ok 99999 := okIs_eq m1_runs.2

end Magog.Lemmas.MateValue
