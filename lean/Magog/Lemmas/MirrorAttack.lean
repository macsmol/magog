import Magog.Lemmas.MirrorOk
import Magog.Lemmas.CountPromo

/-! For C15: attack detection is colour-symmetric (`isUnderCheck_mirror`). -/

namespace Magog.Mir
open Magog Magog.Model Magog.Count Magog.Geo Magog.Atk

-- the masks `62`, `60` on attack-table entries: see `swapPawnBits`, `tabEntry_fin` (`MirrorTables`)
theorem and_of_and62 {x y k : Nat} (h : x &&& 62 = y &&& 62) (hk : 62 &&& k = k) : x &&& k = y &&& k := by
  rw [← hk, ← Nat.and_assoc, h, Nat.and_assoc]

theorem attacker_fin : ∀ c < 256, c &&& Pawn = 0 →
    62 &&& (c &&& Colorless) = c &&& Colorless ∧
    ((c &&& Colorless) &&& Knight = 0 → 60 &&& (c &&& Colorless) = c &&& Colorless) := by
  decide +kernel

theorem all_congr_mem {α} {f g : α → Bool} {l : List α} (h : ∀ x ∈ l, f x = g x) : l.all f = l.all g := by
  induction l with
  | nil => rfl
  | cons x xs ih =>
    simp only [List.all_cons, h x List.mem_cons_self, ih (fun y hy => h y (List.mem_cons_of_mem _ hy))]

theorem oneColour_fin {c : Nat} (hc : c < 256) (h : oneColour c = true) :
    (mirrorPiece c &&& BlackBit == 0) = !(c &&& BlackBit == 0) := by
  have hb := mirrorPiece_black hc
  simp only [oneColour, bne] at h hb
  cases h1 : (c &&& WhiteBit == 0) <;> cases h2 : (c &&& BlackBit == 0) <;> simp_all

theorem getD_mirrorBoard {b : Array Nat} (hb : b.size = 128) {s : Nat} (hs : s < 128) :
    (mirrorBoard b).getD (mirrorSq s) 0 = mirrorPiece (b.getD s 0) := by
  have : s < b.size := hb ▸ hs
  simp [Array.getD_eq_getD_getElem?, getElem?_mirrorBoard hb, this]

theorem getD_lt {b : Array Nat} (hbytes : ∀ (i x : Nat), b[i]? = some x → x < 256) (s : Nat) :
    b.getD s 0 < 256 := by
  rw [Array.getD_eq_getD_getElem?]
  cases h : b[s]? with
  | none => simp
  | some x => simpa using hbytes s x h

/-- the pawn-attack flag is chosen by a colour test `t` of the attackers' king; the flip negates it -/
theorem pawnAttacks_mirror (t : Bool) {a d : Nat} (ha : a ∈ sq88) (hd : d ∈ sq88) :
    pawnAttacks (if !t then Gen.WPawnAttacks else Gen.BPawnAttacks) (mirrorSq d) (mirrorSq a)
      = pawnAttacks (if t then Gen.WPawnAttacks else Gen.BPawnAttacks) d a := by
  obtain ⟨_, hW, hB, _⟩ := attack_mirror ha hd
  simp only [pawnAttacks, tget_attack ha hd, tget_attack (mirrorSq_mem_sq88.2 ha) (mirrorSq_mem_sq88.2 hd),
    ok_bind, pure_eq_ok]
  cases t
  · exact congrArg _ hW
  · exact congrArg _ hB

theorem pieceAttacks_mirror {b : Array Nat} (hb : b.size = 128)
    (hbytes : ∀ (i x : Nat), b[i]? = some x → x < 256) {a d : Nat} (ha : a ∈ sq88) (hd : d ∈ sq88)
    (hbit : ∀ x, b[a]? = some x → x &&& Pawn = 0) :
    pieceAttacks (mirrorBoard b) (mirrorSq d) (mirrorSq a) = pieceAttacks b d a := by
  have ha128 : a < 128 := (mem_sq88.1 ha).1
  have hasz : a < b.size := hb ▸ ha128
  have hc : b[a]? = some b[a] := Array.getElem?_eq_getElem hasz
  have hc256 := hbytes a _ hc
  have hc' := mirrorBoard_some hb hc
  obtain ⟨h62, _, _, hdir⟩ := attack_mirror ha hd
  obtain ⟨hk62, hk60⟩ := attacker_fin _ hc256 (hbit _ hc)
  have hand : attackAt (mirrorSq a) (mirrorSq d) &&& (b[a] &&& Colorless)
      = attackAt a d &&& (b[a] &&& Colorless) := and_of_and62 h62 hk62
  simp only [pieceAttacks, bget_ok_iff.2 hc, bget_ok_iff.2 hc', tget_attack ha hd,
    tget_attack (mirrorSq_mem_sq88.2 ha) (mirrorSq_mem_sq88.2 hd), ok_bind, mirrorPiece_kind hc256, hand]
  by_cases h0 : (attackAt a d &&& (b[a] &&& Colorless) == 0) = true
  · simp only [h0, if_true]
  · simp only [h0, Bool.false_eq_true, if_false]
    by_cases hn : ((b[a] &&& Colorless) &&& Knight != 0) = true
    · simp only [hn, if_true]
    · simp only [hn, Bool.false_eq_true, if_false]
      have hn0 : (b[a] &&& Colorless) &&& Knight = 0 := by simpa using hn
      -- not a knight, and the entry meets the attacker's kind: there is a walk, mirrored square by square
      have h60 : attackAt a d &&& 60 ≠ 0 := by
        intro hz
        apply h0
        rw [← hk60 hn0, ← Nat.and_assoc, hz]
        simp
      obtain ⟨l, hl, hlt, hl'⟩ := walk_mirror ha hd h60
      simp only [tget_direction ha hd, tget_direction (mirrorSq_mem_sq88.2 ha) (mirrorSq_mem_sq88.2 hd), ok_bind]
      rw [sliderWalk_eq b _ _ _ _ l hl (fun s hs => hb ▸ hlt s hs),
        sliderWalk_eq (mirrorBoard b) _ _ _ _ _ hl' (fun s hs => by
          obtain ⟨t, ht, rfl⟩ := List.mem_map.1 hs
          rw [size_mirrorBoard]; exact mirrorSq_lt_128 (hlt t ht))]
      congr 1
      rw [List.all_map]
      refine all_congr_mem fun s hs => ?_
      simp only [Function.comp, getD_mirrorBoard hb (hlt s hs)]
      exact mirrorPiece_eq_zero (getD_lt hbytes s)

/-- **`isUnderCheck` is colour-symmetric**: the two computations are equal as they stand, panics included.
    The attackers' king slot must carry exactly one colour bit (`hkc`: it selects the pawn-attack flag), and
    no listed officer slot the pawn bit (`hpc`: it would be tested against the table's pawn bits, which the
    flip exchanges). -/
theorem isUnderCheck_mirror {b : Array Nat} {en : Side} {dest : Nat} (hb : b.size = 128)
    (hbytes : ∀ (i x : Nat), b[i]? = some x → x < 256)
    (hpw : ∀ a ∈ en.pawns, a ∈ sq88)
    (hpc : ∀ a ∈ en.pieces, a ∈ sq88 ∧ ∀ x, b[a]? = some x → x &&& Pawn = 0)
    (hk : en.king ∈ sq88) (hkc : ∀ x, b[en.king]? = some x → oneColour x = true)
    (hd : dest ∈ sq88) :
    isUnderCheck (mirrorBoard b) (mirrorSide en) (mirrorSq dest) = isUnderCheck b en dest := by
  have hk128 : en.king < 128 := (mem_sq88.1 hk).1
  have hksz : en.king < b.size := hb ▸ hk128
  have hc : b[en.king]? = some b[en.king] := Array.getElem?_eq_getElem hksz
  have hc256 := hbytes _ _ hc
  have hc' := mirrorBoard_some hb hc
  obtain ⟨h62, _, _, _⟩ := attack_mirror hk hd
  unfold isUnderCheck
  simp only [mirrorSide, bget_ok_iff.2 hc, bget_ok_iff.2 hc', ok_bind, anyM'_map,
    oneColour_fin hc256 (hkc _ hc)]
  have e1 : anyM' (fun x => pawnAttacks (if !(b[en.king] &&& BlackBit == 0) then Gen.WPawnAttacks
        else Gen.BPawnAttacks) (mirrorSq dest) (mirrorSq x)) en.pawns
      = anyM' (pawnAttacks (if b[en.king] &&& BlackBit == 0 then Gen.WPawnAttacks else Gen.BPawnAttacks) dest)
          en.pawns :=
    anyM'_congr fun a ha => pawnAttacks_mirror _ (hpw a ha) hd
  have e2 : anyM' (fun x => pieceAttacks (mirrorBoard b) (mirrorSq dest) (mirrorSq x)) en.pieces
      = anyM' (pieceAttacks b dest) en.pieces :=
    anyM'_congr fun a ha => pieceAttacks_mirror hb hbytes (hpc a ha).1 hd (hpc a ha).2
  rw [e1, e2, tget_attack hk hd, tget_attack (mirrorSq_mem_sq88.2 hk) (mirrorSq_mem_sq88.2 hd)]
  have e3 : attackAt (mirrorSq en.king) (mirrorSq dest) &&& Gen.KingAttacks
      = attackAt en.king dest &&& Gen.KingAttacks := and_of_and62 h62 (by decide)
  simp only [ok_bind, e3]

end Magog.Mir
