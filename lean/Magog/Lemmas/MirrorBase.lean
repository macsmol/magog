import Magog.Model.Mirror
import Magog.Lemmas.Count
import Magog.Lemmas.Geometry

/-! For C15: `okVal` (a run of the model monad up to the panic payload) through the monad's operations, the
    elementary facts about `mirrorSq`, `mirrorPiece`, `mirrorBoard`, and what a read or a write of the mirrored
    board is in terms of the board (`okVal_bget_mirror_bind`, `mirrorBoard_set`). -/

namespace Magog.Mir
open Magog Magog.Model Magog.Count Magog.Geo

@[simp] theorem okVal_ok {α} (a : α) : okVal (Except.ok a : M α) = some a := rfl
@[simp] theorem okVal_error {α} (e : Panic) : okVal (Except.error e : M α) = none := rfl
@[simp] theorem okVal_pure {α} (a : α) : okVal (pure a : M α) = some a := rfl
@[simp] theorem okVal_throw {α} (e : Panic) : okVal (throw e : M α) = none := rfl

@[simp] theorem okVal_bind {α β} (x : M α) (f : α → M β) :
    okVal (x >>= f) = (okVal x).bind fun a => okVal (f a) := by
  cases x <;> rfl

@[simp] theorem okVal_map {α β} (f : α → β) (x : M α) : okVal (f <$> x) = (okVal x).map f := by
  cases x <;> rfl

theorem okVal_ite {α} (c : Prop) [Decidable c] (x y : M α) :
    okVal (if c then x else y) = if c then okVal x else okVal y := by
  split <;> rfl

@[simp] theorem okVal_andM (a : Bool) (b : M Bool) :
    okVal (andM a b) = if a then okVal b else some false := by
  cases a <;> rfl

@[simp] theorem okVal_bget (b : Array Nat) (i : Nat) : okVal (bget b i) = b[i]? := by
  unfold bget
  by_cases h : i < b.size
  · simp [h]
  · simp [h]

theorem eq_of_okVal {α} {x y : M α} (h : okVal x = okVal y) (hy : ∃ v, y = .ok v) : x = y := by
  obtain ⟨v, rfl⟩ := hy
  exact okVal_eq_some h

theorem okVal_eq_iff {α} {x y : M α} : okVal x = okVal y ↔ ∀ v, x = .ok v ↔ y = .ok v := by
  cases x with
  | error e => cases y with
    | error e' => simp
    | ok b => simp only [okVal_error, okVal_ok, reduceCtorEq, false_iff]; intro h; exact h b rfl
  | ok a => cases y with
    | error e' => simp only [okVal_error, okVal_ok, reduceCtorEq, false_iff]; intro h; exact absurd ((h a).1 rfl) (by simp)
    | ok b =>
      simp only [okVal_ok, Option.some.injEq, Except.ok.injEq]
      exact ⟨fun h v => by rw [h], fun h => ((h a).1 rfl).symm⟩

theorem mirrorSq_mirrorSq (s : Nat) : mirrorSq (mirrorSq s) = s := by
  simp [mirrorSq, Nat.xor_assoc]

theorem mirrorSq_inj {a b : Nat} : mirrorSq a = mirrorSq b ↔ a = b :=
  ⟨fun h => by rw [← mirrorSq_mirrorSq a, h, mirrorSq_mirrorSq], fun h => h ▸ rfl⟩

theorem mirrorSq_lt_128 {s : Nat} (h : s < 128) : mirrorSq s < 128 :=
  Nat.xor_lt_two_pow (n := 7) h (by decide)

theorem mirrorSq_lt_128_iff {s : Nat} : mirrorSq s < 128 ↔ s < 128 :=
  ⟨fun h => by rw [← mirrorSq_mirrorSq s]; exact mirrorSq_lt_128 h, mirrorSq_lt_128⟩

theorem mirrorSq_lt_256 {s : Nat} (h : s < 256) : mirrorSq s < 256 :=
  Nat.xor_lt_two_pow (n := 8) h (by decide)

theorem isValid_mirrorSq (s : Nat) : isValid (mirrorSq s) = isValid s := by
  simp only [isValid, mirrorSq, InvalidSq, Gen.InvalidSquare, Nat.and_xor_distrib_right]
  simp

theorem fileOf_mirrorSq (s : Nat) : fileOf (mirrorSq s) = fileOf s := by
  simp only [fileOf, mirrorSq, Nat.and_xor_distrib_right]
  simp

theorem rankOf_mirrorSq (s : Nat) : rankOf (mirrorSq s) = rankOf s ^^^ 0x70 := by
  simp only [rankOf, mirrorSq, Nat.and_xor_distrib_right]
  simp

theorem rankOf_beq_mirror (s r : Nat) : (rankOf (mirrorSq s) == mirrorSq r) = (rankOf s == r) := by
  rw [rankOf_mirrorSq, Bool.eq_iff_iff, beq_iff_eq, beq_iff_eq]
  exact mirrorSq_inj (a := rankOf s)

theorem mirrorSq_mem_sq88 {s : Nat} : mirrorSq s ∈ sq88 ↔ s ∈ sq88 := by
  simp only [mem_sq88, mirrorSq_lt_128_iff, isValid_mirrorSq]

theorem mirrorEp_mirrorEp (e : Nat) : mirrorEp (mirrorEp e) = e := by
  unfold mirrorEp
  by_cases h : isValid e = true
  · simp [h, isValid_mirrorSq, mirrorSq_mirrorSq]
  · simp [h]

theorem and_or_ne_zero {f a b : Nat} : f &&& (a ||| b) ≠ 0 ↔ f &&& a ≠ 0 ∨ f &&& b ≠ 0 := by
  rw [Nat.and_or_distrib_left, ne_eq, Nat.or_eq_zero_iff]
  exact Decidable.not_and_iff_not_or_not

theorem piece_fin : ∀ x < 256,
    mirrorPiece x < 256 ∧ mirrorPiece (mirrorPiece x) = x ∧
    mirrorPiece x &&& Colorless = x &&& Colorless ∧
    (mirrorPiece x &&& WhiteBit != 0) = (x &&& BlackBit != 0) ∧
    (mirrorPiece x &&& BlackBit != 0) = (x &&& WhiteBit != 0) ∧
    (mirrorPiece x == 0) = (x == 0) := by decide +kernel

theorem mirrorPiece_lt {x : Nat} (h : x < 256) : mirrorPiece x < 256 := (piece_fin x h).1
theorem mirrorPiece_invol {x : Nat} (h : x < 256) : mirrorPiece (mirrorPiece x) = x := (piece_fin x h).2.1
theorem mirrorPiece_kind {x : Nat} (h : x < 256) : mirrorPiece x &&& Colorless = x &&& Colorless :=
  (piece_fin x h).2.2.1
theorem mirrorPiece_white {x : Nat} (h : x < 256) :
    (mirrorPiece x &&& WhiteBit != 0) = (x &&& BlackBit != 0) := (piece_fin x h).2.2.2.1
theorem mirrorPiece_black {x : Nat} (h : x < 256) :
    (mirrorPiece x &&& BlackBit != 0) = (x &&& WhiteBit != 0) := (piece_fin x h).2.2.2.2.1
theorem mirrorPiece_eq_zero {x : Nat} (h : x < 256) : (mirrorPiece x == 0) = (x == 0) :=
  (piece_fin x h).2.2.2.2.2

theorem mirrorPiece_zero : mirrorPiece 0 = 0 := by decide

theorem mirrorPiece_inj {x y : Nat} (hx : x < 256) (hy : y < 256) : mirrorPiece x = mirrorPiece y ↔ x = y :=
  ⟨fun h => by rw [← mirrorPiece_invol hx, h, mirrorPiece_invol hy], fun h => h ▸ rfl⟩

@[simp] theorem size_mirrorBoard (b : Array Nat) : (mirrorBoard b).size = 128 := by
  simp [mirrorBoard]

theorem getElem?_mirrorBoard_lt (b : Array Nat) {j : Nat} (hj : j < 128) :
    (mirrorBoard b)[j]? = some (mirrorPiece (b.getD (mirrorSq j) 0)) := by
  simp [mirrorBoard, hj]

theorem getElem?_mirrorBoard {b : Array Nat} (hb : b.size = 128) (i : Nat) :
    (mirrorBoard b)[mirrorSq i]? = b[i]?.map mirrorPiece := by
  by_cases hi : i < 128
  · rw [getElem?_mirrorBoard_lt b (mirrorSq_lt_128 hi), mirrorSq_mirrorSq]
    have : i < b.size := hb ▸ hi
    simp [Array.getD_eq_getD_getElem?, this]
  · have h1 : ¬ mirrorSq i < 128 := fun h => hi (mirrorSq_lt_128_iff.1 h)
    rw [Array.getElem?_eq_none (by simp; omega), Array.getElem?_eq_none (by omega)]
    rfl

theorem mirrorBoard_some {b : Array Nat} (hb : b.size = 128) {s v : Nat} (h : b[s]? = some v) :
    (mirrorBoard b)[mirrorSq s]? = some (mirrorPiece v) := by
  rw [getElem?_mirrorBoard hb, h, Option.map_some]

theorem lt_128_of_getElem? {b : Array Nat} (hb : b.size = 128) {i x : Nat} (h : b[i]? = some x) : i < 128 :=
  hb ▸ (Array.getElem?_eq_some_iff.1 h).1

theorem okVal_bget_mirror_bind {β} {b : Array Nat} (hb : b.size = 128) (i : Nat) {k k' : Nat → Option β}
    (h : ∀ x, b[i]? = some x → k' (mirrorPiece x) = k x) :
    (okVal (bget (mirrorBoard b) (mirrorSq i))).bind k' = (okVal (bget b i)).bind k := by
  rw [okVal_bget, okVal_bget, getElem?_mirrorBoard hb]
  cases hx : b[i]? with
  | none => rfl
  | some x => exact h x hx

theorem mirrorBoard_set {b : Array Nat} (hb : b.size = 128) (i v : Nat) :
    mirrorBoard (b.setIfInBounds i v) = (mirrorBoard b).setIfInBounds (mirrorSq i) (mirrorPiece v) := by
  apply Array.ext_getElem?
  intro j
  by_cases hj : j < 128
  · rw [getElem?_mirrorBoard_lt _ hj, Array.getElem?_setIfInBounds, getElem?_mirrorBoard_lt _ hj]
    simp only [size_mirrorBoard]
    by_cases hij : mirrorSq i = j
    · subst hij
      have hi : i < 128 := mirrorSq_lt_128_iff.1 hj
      simp [mirrorSq_mirrorSq, Array.getD_eq_getD_getElem?, hb, hi, hj]
    · have : i ≠ mirrorSq j := fun h => hij (by rw [h, mirrorSq_mirrorSq])
      simp [hij, Array.getD_eq_getD_getElem?, this]
  · rw [Array.getElem?_eq_none (by simp; omega), Array.getElem?_eq_none (by simp; omega)]

end Magog.Mir
