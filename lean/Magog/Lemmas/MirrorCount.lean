import Magog.Lemmas.MirrorMake
import Magog.Lemmas.CountGen
import Magog.Lemmas.CountKing
import Magog.Lemmas.GenGeometry

/-! For C15: the mobility count `countMoves` is colour-symmetric (up to the panic payload:
    the direction lists of the mirrored position are permutations of the original ones). -/

namespace Magog.Mir
open Magog Magog.Model Magog.Count Magog.Geo Magog.Atk
open Magog.MM (colorBit ctxW ctx_eq)
open Magog.GenGeoO (kingHome castleQOk_home castleKOk_home castle_sq)

theorem rank_fin (w : Bool) :
    mirrorSq (GenGeoO.startRankOf w) = GenGeoO.startRankOf (!w) ∧ mirrorSq (GenGeoO.promoRankOf w) = GenGeoO.promoRankOf (!w) := by
  cases w <;> decide

theorem rankEq_mirror (w : Bool) (s : Nat) :
    (rankOf (mirrorSq s) == GenGeoO.startRankOf (!w)) = (rankOf s == GenGeoO.startRankOf w) ∧
    (rankOf (mirrorSq s) == GenGeoO.promoRankOf (!w)) = (rankOf s == GenGeoO.promoRankOf w) := by
  obtain ⟨h1, h2⟩ := rank_fin w
  rw [← h1, ← h2, rankOf_beq_mirror, rankOf_beq_mirror]
  exact ⟨rfl, rfl⟩

theorem pawn_step : ∀ s ∈ sq88, ∀ w : Bool,
    addb (mirrorSq s) (GenGeoO.advOf (!w)) = mirrorSq (addb s (GenGeoO.advOf w)) ∧
    addb (mirrorSq (addb s (GenGeoO.advOf w))) (GenGeoO.advOf (!w))
      = mirrorSq (addb (addb s (GenGeoO.advOf w)) (GenGeoO.advOf w)) ∧
    addb (mirrorSq (addb s (GenGeoO.advOf w))) 1 = mirrorSq (addb (addb s (GenGeoO.advOf w)) 1) ∧
    isValid (addb (mirrorSq (addb s (GenGeoO.advOf w))) 0xFF) = isValid (addb (addb s (GenGeoO.advOf w)) 0xFF) ∧
    (isValid (addb (addb s (GenGeoO.advOf w)) 0xFF) = true →
      addb (mirrorSq (addb s (GenGeoO.advOf w))) 0xFF = mirrorSq (addb (addb s (GenGeoO.advOf w)) 0xFF)) ∧
    (addb s (GenGeoO.advOf w) < 128 → isValid (addb s (GenGeoO.advOf w)) = true) := by
  decide +kernel

theorem colTest : ∀ x < 256, ∀ w : Bool,
    (mirrorPiece x &&& colorBit (!w) != 0) = (x &&& colorBit w != 0) ∧
    (mirrorPiece x &&& colorBit (!w) == 0) = (x &&& colorBit w == 0) ∧
    (mirrorPiece x &&& colorBit w != 0) = (x &&& colorBit (!w) != 0) := fun x h w => by
  have hw := mirrorPiece_white h
  have hb := mirrorPiece_black h
  simp only [bne] at hw hb ⊢
  cases w
  · exact ⟨hw, by simpa [colorBit] using congrArg (!·) hw, hb⟩
  · exact ⟨hb, by simpa [colorBit] using congrArg (!·) hb, hw⟩

/-! ### the moves `countMoves` tries are `Mir.MoveOk` (`MirrorMake`) -/

theorem listed_fin (w : Bool) :
    (pawnOf w &&& colorBit w ≠ 0 ∧ pawnOf w &&& colorBit (!w) = 0 ∧ pawnOf w ≠ kingOf w) ∧
    (kingOf w &&& colorBit w ≠ 0 ∧ kingOf w &&& colorBit (!w) = 0) ∧
    ∀ c ∈ officersOf w, c &&& colorBit w ≠ 0 ∧ c &&& colorBit (!w) = 0 ∧ c ≠ kingOf w := by
  cases w <;> decide

theorem moveOk_listed {p : Position} (h : MirrorOk p) {frm : Nat}
    (hfrm : frm ∈ (p.side (whiteTurn p)).pawns ∨ frm ∈ (p.side (whiteTurn p)).pieces) (to ep : Nat) :
    MoveOk p ⟨frm, to, 0, ep⟩ := by
  have hs := h.side (whiteTurn p)
  obtain ⟨⟨p1, p2, p3⟩, _, hoff⟩ := listed_fin (whiteTurn p)
  have hown : ∃ c, p.board[frm]? = some c ∧ c &&& colorBit (whiteTurn p) ≠ 0 ∧
      c &&& colorBit (!whiteTurn p) = 0 ∧ c ≠ kingOf (whiteTurn p) := by
    rcases hfrm with hf | hf
    · exact ⟨_, (hs.pawns _ hf).2, p1, p2, p3⟩
    · obtain ⟨_, c, hc, hb⟩ := hs.pieces _ hf
      obtain ⟨o1, o2, o3⟩ := hoff c hc
      exact ⟨c, hb, o1, o2, o3⟩
  obtain ⟨c, hc, h1, h2, h3⟩ := hown
  have hne : frm ≠ (p.side (whiteTurn p)).king := by
    intro he
    have := hs.king.2
    rw [← he, hc] at this
    exact h3 (Option.some.inj this)
  exact ⟨⟨c, hc, h1, h2⟩, (by decide : (0:Nat) < 64), fun he => absurd he hne, fun hq => absurd hq.1 hne,
    fun hq => absurd hq.1 hne⟩

theorem moveOk_king {p : Position} (h : MirrorOk p) {d : Nat} (hd : d ∈ kingDirs)
    (hv : isValid (addb (p.side (whiteTurn p)).king d) = true) :
    MoveOk p ⟨(p.side (whiteTurn p)).king, addb (p.side (whiteTurn p)).king d, 0, InvalidSq⟩ := by
  have hs := h.side (whiteTurn p)
  obtain ⟨_, ⟨k1, k2⟩, _⟩ := listed_fin (whiteTurn p)
  refine ⟨⟨_, hs.king.2, k1, k2⟩, (by decide : (0:Nat) < 64), fun _ => GenGeoO.addb_mem hv, fun hq => ?_, fun hq => ?_⟩
  · exact absurd hq.2.2 (king_step_not_castle _ hd hq.2.1).1
  · exact absurd hq.2.2 (king_step_not_castle _ hd hq.2.1).2

theorem mirrorEp_invalid : mirrorEp InvalidSq = InvalidSq := by decide

theorem isLegal_mirror_plain {p : Position} (h : MirrorOk p) {frm to : Nat}
    (hm : MoveOk p ⟨frm, to, 0, InvalidSq⟩) :
    okVal (isLegal (mirror p) ⟨mirrorSq frm, mirrorSq to, 0, InvalidSq⟩)
      = okVal (isLegal p ⟨frm, to, 0, InvalidSq⟩) := by
  have := isLegal_mirror h hm
  simpa only [mirrorMove, mirrorEp_invalid] using this

theorem countPawnMoves_mirror {p : Position} (h : MirrorOk p) {frm to : Nat}
    (hm : MoveOk p ⟨frm, to, 0, InvalidSq⟩) :
    okVal (countPawnMoves (mirror p) (mirrorSq frm) (mirrorSq to) (GenGeoO.promoRankOf (!whiteTurn p)))
      = okVal (countPawnMoves p frm to (GenGeoO.promoRankOf (whiteTurn p))) := by
  unfold countPawnMoves
  simp only [okVal_bind, isLegal_mirror_plain h hm, (rankEq_mirror (whiteTurn p) to).2]

theorem ep_cond' {ep to : Nat} (hep : ep < 128 → isValid ep = true) (hto : to < 128) :
    (mirrorSq to == mirrorEp ep) = (to == ep) := by
  rw [Bool.beq_comm, ep_cond hep hto, Bool.beq_comm]

theorem pawnCntQG_mirror {p : Position} (h : MirrorOk p) (g : Bool) {frm : Nat}
    (hfrm : frm ∈ (p.side (whiteTurn p)).pawns) :
    okVal (pawnCntQG g (mirror p) (ctxW (!whiteTurn p) (mirror p)) (mirrorSq frm))
      = okVal (pawnCntQG g p (ctxW (whiteTurn p) p) frm) := by
  have h88 := ((h.side (whiteTurn p)).pawns _ hfrm).1
  obtain ⟨s1, _, _, s4, s5, _⟩ := pawn_step _ h88 (whiteTurn p)
  have e := countPawnMoves_mirror h (moveOk_listed h (.inl hfrm)
    (addb (addb frm (GenGeoO.advOf (whiteTurn p))) 0xFF) InvalidSq)
  unfold pawnCntQG
  -- `+instances`: the `Decidable` instances of the `if`s mention the context fields as well, and a
  -- condition rewritten without its instance is out of reach of `okVal_ite`
  dsimp +instances only [ctxW]
  simp only [s1, okVal_bind, okVal_andM, s4]
  by_cases hv : isValid (addb (addb frm (GenGeoO.advOf (whiteTurn p))) 0xFF) = true
  · simp only [hv, if_true, s5 hv, okVal_pure, Option.bind_assoc]
    refine okVal_bget_mirror_bind h.size _ fun x hx => ?_
    simp only [Option.bind_some, (colTest x (h.bytes _ _ hx) (whiteTurn p)).2.2, Bool.not_not, mirror_ep,
      ep_cond' h.epValid (lt_128_of_getElem? h.size hx), okVal_ite, e, okVal_pure]
  · simp only [hv, Bool.false_eq_true, if_false, Option.bind_some, okVal_pure]

theorem pawnCntKG_mirror {p : Position} (h : MirrorOk p) (g : Bool) {frm : Nat}
    (hfrm : frm ∈ (p.side (whiteTurn p)).pawns) :
    okVal (pawnCntKG g (mirror p) (ctxW (!whiteTurn p) (mirror p)) (mirrorSq frm))
      = okVal (pawnCntKG g p (ctxW (whiteTurn p) p) frm) := by
  have h88 := ((h.side (whiteTurn p)).pawns _ hfrm).1
  obtain ⟨s1, _, s3, _⟩ := pawn_step _ h88 (whiteTurn p)
  have e := countPawnMoves_mirror h (moveOk_listed h (.inl hfrm)
    (addb (addb frm (GenGeoO.advOf (whiteTurn p))) 1) InvalidSq)
  unfold pawnCntKG
  dsimp +instances only [ctxW]
  simp only [s1, s3, okVal_bind]
  refine okVal_bget_mirror_bind h.size _ fun x hx => ?_
  simp only [(colTest x (h.bytes _ _ hx) (whiteTurn p)).2.2, Bool.not_not, mirror_ep,
    ep_cond' h.epValid (lt_128_of_getElem? h.size hx), okVal_ite, e, okVal_pure]

theorem pawnCntPush_mirror {p : Position} (h : MirrorOk p) {frm : Nat}
    (hfrm : frm ∈ (p.side (whiteTurn p)).pawns) :
    okVal (pawnCntPush (mirror p) (ctxW (!whiteTurn p) (mirror p)) (mirrorSq frm))
      = okVal (pawnCntPush p (ctxW (whiteTurn p) p) frm) := by
  have h88 := ((h.side (whiteTurn p)).pawns _ hfrm).1
  obtain ⟨s1, s2, _, _, _, s6⟩ := pawn_step _ h88 (whiteTurn p)
  have e1 := countPawnMoves_mirror h (moveOk_listed h (.inl hfrm) (addb frm (GenGeoO.advOf (whiteTurn p))) InvalidSq)
  have e2 := isLegal_mirror h (moveOk_listed h (.inl hfrm)
    (addb (addb frm (GenGeoO.advOf (whiteTurn p))) (GenGeoO.advOf (whiteTurn p))) (addb frm (GenGeoO.advOf (whiteTurn p))))
  unfold pawnCntPush
  dsimp +instances only [ctxW]
  simp only [s1, s2, okVal_bind]
  refine okVal_bget_mirror_bind h.size _ fun y hy => ?_
  -- the double push names the square passed over as en-passant square: a board square, so mirrored
  simp only [mirrorMove, mirrorEp, s6 (lt_128_of_getElem? h.size hy), if_true] at e2
  simp only [mirrorPiece_eq_zero (h.bytes _ _ hy), okVal_ite, okVal_bind, e1, okVal_andM,
    (rankEq_mirror (whiteTurn p) frm).1, okVal_pure]
  refine ite_congr rfl (fun _ => Option.bind_congr fun single _ => ?_) fun _ => rfl
  by_cases hr : (rankOf frm == GenGeoO.startRankOf (whiteTurn p)) = true
  · simp only [hr, if_true, Option.bind_assoc]
    refine okVal_bget_mirror_bind h.size _ fun z hz => ?_
    simp only [Option.bind_some, mirrorPiece_eq_zero (h.bytes _ _ hz), e2]
  · simp only [hr, Bool.false_eq_true, if_false, Option.bind_some]

theorem pawnCount_mirror {p : Position} (h : MirrorOk p) {frm : Nat}
    (hfrm : frm ∈ (p.side (whiteTurn p)).pawns) :
    okVal (pawnCount (mirror p) (ctxW (!whiteTurn p) (mirror p)) (mirrorSq frm))
      = okVal (pawnCount p (ctxW (whiteTurn p) p) frm) := by
  rw [pawnCount_eq, pawnCount_eq]
  have hg : (rankOf (mirrorSq frm) != (ctxW (!whiteTurn p) (mirror p)).startRank)
      = (rankOf frm != (ctxW (whiteTurn p) p).startRank) := by
    simp only [ctxW, bne, (rankEq_mirror (whiteTurn p) frm).1]
  simp only [okVal_bind, hg, pawnCntQG_mirror h _ hfrm, pawnCntKG_mirror h _ hfrm, pawnCntPush_mirror h hfrm]

theorem sum_dirs_mirror {dirs : List Nat} (hperm : (dirs.map mirDir).Perm dirs) {f f' : Nat → M Nat}
    (hstep : ∀ d ∈ dirs, okVal (f' (mirDir d)) = okVal (f d)) :
    okVal (sumM' f' dirs) = okVal (sumM' f dirs) := by
  rw [← okVal_sumM'_perm f' hperm, Walk.sumM'_eq, Walk.sumM'_eq, foldMon_map]
  exact okVal_foldMon_congr hstep

def stepCount (p : Position) (curBit frm : Nat) (dirs : List Nat) : M Nat :=
  sumM' (fun d => do
    let to := addb frm d
    let ok ← andM (isValid to) (do let x ← bget p.board to; pure (x &&& curBit == 0))
    if ok then do
      let l ← isLegal p ⟨frm, to, 0, InvalidSq⟩
      pure (b2n l)
    else pure 0) dirs

theorem knightCount_eq (p : Position) (c : Ctx) (frm : Nat) :
    knightCount p c frm = stepCount p c.curBit frm knightDirs := rfl

theorem kingCount_eq (p : Position) (c : Ctx) :
    kingCount p c = stepCount p c.curBit c.cur.king kingDirs := rfl

theorem stepCount_mirror {p : Position} (h : MirrorOk p) {frm : Nat} (h88 : frm ∈ sq88) {dirs : List Nat}
    (hperm : (dirs.map mirDir).Perm dirs) (hsub : ∀ d ∈ dirs, d ∈ allDirs)
    (hok : ∀ d ∈ dirs, isValid (addb frm d) = true → MoveOk p ⟨frm, addb frm d, 0, InvalidSq⟩) :
    okVal (stepCount (mirror p) (colorBit (!whiteTurn p)) (mirrorSq frm) dirs)
      = okVal (stepCount p (colorBit (whiteTurn p)) frm dirs) := by
  unfold stepCount
  refine sum_dirs_mirror hperm fun d hd => ?_
  obtain ⟨d1, d2⟩ := dir_mirror h88 (hsub d hd)
  simp only [okVal_bind, okVal_andM, d1]
  by_cases hv : isValid (addb frm d) = true
  · simp only [hv, if_true, d2 hv, okVal_pure, Option.bind_assoc]
    refine okVal_bget_mirror_bind h.size _ fun x hx => ?_
    simp only [Option.bind_some, (colTest x (h.bytes _ _ hx) (whiteTurn p)).2.1, okVal_ite, okVal_bind,
      isLegal_mirror_plain h (hok d hd hv)]
  · simp only [hv, Bool.false_eq_true, if_false, Option.bind_some]

theorem knightCount_mirror {p : Position} (h : MirrorOk p) {frm : Nat}
    (hfrm : frm ∈ (p.side (whiteTurn p)).pieces) :
    okVal (knightCount (mirror p) (ctxW (!whiteTurn p) (mirror p)) (mirrorSq frm))
      = okVal (knightCount p (ctxW (whiteTurn p) p) frm) := by
  rw [knightCount_eq, knightCount_eq]
  exact stepCount_mirror h ((h.side (whiteTurn p)).pieces _ hfrm).1 knightDirs_perm
    (fun _ => mem_allDirs_knight) fun _ _ _ => moveOk_listed h (.inr hfrm) _ _

theorem kingCount_mirror {p : Position} (h : MirrorOk p) :
    okVal (kingCount (mirror p) (ctxW (!whiteTurn p) (mirror p)))
      = okVal (kingCount p (ctxW (whiteTurn p) p)) := by
  have hk : (ctxW (!whiteTurn p) (mirror p)).cur.king = mirrorSq (p.side (whiteTurn p)).king := by
    simp only [ctxW, side_mirror, Bool.not_not, mirrorSide]
  rw [kingCount_eq, kingCount_eq, hk]
  exact stepCount_mirror h (h.side (whiteTurn p)).king.1 kingDirs_perm (fun _ => mem_allDirs_king)
    fun _ hd hv => moveOk_king h hd hv

theorem slideDirCount_mirror {p : Position} (h : MirrorOk p) {frm : Nat}
    (hfrm : frm ∈ (p.side (whiteTurn p)).pieces) {dir : Nat} (hdir : dir ∈ allDirs) :
    ∀ (fuel to to' : Nat), to < 256 → isValid to' = isValid to → (isValid to = true → to' = mirrorSq to) →
      okVal (slideDirCount (mirror p) (ctxW (!whiteTurn p) (mirror p)) (mirrorSq frm) (mirDir dir) fuel to')
        = okVal (slideDirCount p (ctxW (whiteTurn p) p) frm dir fuel to) := by
  intro fuel
  induction fuel with
  | zero => intro to to' _ _ _; rfl
  | succ n ih =>
    intro to to' hlt hv1 hv2
    unfold slideDirCount
    by_cases hv : isValid to = true
    · have hto' := hv2 hv
      subst hto'
      obtain ⟨d1, d2⟩ := dir_mirror (mem_sq88.2 ⟨GenGeoO.valid_lt128 hlt hv, hv⟩) hdir
      have e2 := ih (addb to dir) (addb (mirrorSq to) (mirDir dir)) (GenGeoO.addb_lt _ _) d1 d2
      dsimp +instances only [ctxW] at e2 ⊢
      simp only [isValid_mirrorSq, hv, Bool.not_true, Bool.false_eq_true, if_false, okVal_bind, Bool.not_not] at e2 ⊢
      refine okVal_bget_mirror_bind h.size _ fun x hx => ?_
      obtain ⟨c1, _, c3⟩ := colTest x (h.bytes _ _ hx) (whiteTurn p)
      simp only [c1, c3, okVal_ite, okVal_bind, okVal_pure, e2,
        isLegal_mirror_plain h (moveOk_listed h (.inr hfrm) to InvalidSq)]
    · have hvf : isValid to = false := by simpa using hv
      simp only [hv1, hvf, Bool.not_false, if_true]

theorem slide_mirror {p : Position} (h : MirrorOk p) {frm : Nat}
    (hfrm : frm ∈ (p.side (whiteTurn p)).pieces) {dirs : List Nat} (hperm : (dirs.map mirDir).Perm dirs)
    (hsub : ∀ d ∈ dirs, d ∈ allDirs) :
    okVal (sumM' (fun d => slideDirCount (mirror p) (ctxW (!whiteTurn p) (mirror p)) (mirrorSq frm) d 8
        (addb (mirrorSq frm) d)) dirs)
      = okVal (sumM' (fun d => slideDirCount p (ctxW (whiteTurn p) p) frm d 8 (addb frm d)) dirs) := by
  have h88 := ((h.side (whiteTurn p)).pieces _ hfrm).1
  refine sum_dirs_mirror hperm fun d hd => ?_
  obtain ⟨d1, d2⟩ := dir_mirror h88 (hsub d hd)
  exact slideDirCount_mirror h hfrm (hsub d hd) 8 _ _ (GenGeoO.addb_lt _ _) d1 d2

theorem pieceCode_fin : ∀ x < 256,
    (mirrorPiece x == Gen.WKnight || mirrorPiece x == Gen.BKnight) = (x == Gen.WKnight || x == Gen.BKnight) ∧
    (mirrorPiece x == Gen.WBishop || mirrorPiece x == Gen.BBishop) = (x == Gen.WBishop || x == Gen.BBishop) ∧
    (mirrorPiece x == Gen.WRook || mirrorPiece x == Gen.BRook) = (x == Gen.WRook || x == Gen.BRook) ∧
    (mirrorPiece x == Gen.WQueen || mirrorPiece x == Gen.BQueen) = (x == Gen.WQueen || x == Gen.BQueen) := by
  decide +kernel

theorem pieceCount_mirror {p : Position} (h : MirrorOk p) {frm : Nat}
    (hfrm : frm ∈ (p.side (whiteTurn p)).pieces) :
    okVal (pieceCount (mirror p) (ctxW (!whiteTurn p) (mirror p)) (mirrorSq frm))
      = okVal (pieceCount p (ctxW (whiteTurn p) p) frm) := by
  unfold pieceCount
  simp only [okVal_bind]
  refine okVal_bget_mirror_bind h.size _ fun x hx => ?_
  obtain ⟨c1, c2, c3, c4⟩ := pieceCode_fin x (h.bytes _ _ hx)
  simp only [c1, c2, c3, c4, okVal_ite]
  exact ite_congr rfl (fun _ => knightCount_mirror h hfrm) fun _ =>
    ite_congr rfl (fun _ => slide_mirror h hfrm bishopDirs_perm fun _ => mem_allDirs_bishop) fun _ =>
    ite_congr rfl (fun _ => slide_mirror h hfrm rookDirs_perm fun _ => mem_allDirs_rook) fun _ =>
    ite_congr rfl (fun _ => slide_mirror h hfrm kingDirs_perm fun _ => mem_allDirs_king) fun _ =>
    (okVal_throw _).trans (okVal_throw _).symm

theorem notAttacked_mirror {p : Position} (h : MirrorOk p) {sq : Nat} (hsq : sq ∈ sq88) :
    notAttacked (mirror p) (ctxW (!whiteTurn p) (mirror p)) (mirrorSq sq)
      = notAttacked p (ctxW (whiteTurn p) p) sq := by
  obtain ⟨g1, g2, g3, g4, g5, g6, _⟩ := isUnderCheck_hyps h (!whiteTurn p)
  unfold notAttacked
  simp only [ctxW, side_mirror, Bool.not_not, mirror_board]
  rw [isUnderCheck_mirror g1 g2 g3 g4 g5 g6 hsq]

/-- one "this square is empty, and then" link of the castling conditions -/
theorem emptyAnd_mirror {p : Position} (h : MirrorOk p) (i : Nat) {X X' : M Bool} (hX : okVal X' = okVal X) :
    okVal (do let a ← bget (mirror p).board (mirrorSq i); andM (a == 0) X')
      = okVal (do let a ← bget p.board i; andM (a == 0) X) := by
  simp only [okVal_bind, okVal_andM, hX]
  refine okVal_bget_mirror_bind h.size _ fun a ha => ?_
  rw [mirrorPiece_eq_zero (h.bytes _ _ ha)]

theorem homeMir_fin (w : Bool) :
    mirrorSq (kingHome w) = kingHome (!w) ∧ mirrorSq (kingHome w - 1) = kingHome (!w) - 1 ∧
    mirrorSq (kingHome w - 2) = kingHome (!w) - 2 ∧ mirrorSq (kingHome w - 3) = kingHome (!w) - 3 ∧
    mirrorSq (kingHome w + 1) = kingHome (!w) + 1 ∧ mirrorSq (kingHome w + 2) = kingHome (!w) + 2 := by
  cases w <;> decide

theorem king_home {p : Position} (h : MirrorOk p)
    (hf : (p.flags &&& MM.flagQ (whiteTurn p) != 0) = true ∨ (p.flags &&& MM.flagK (whiteTurn p) != 0) = true) :
    (ctxW (whiteTurn p) p).cur.king = kingHome (whiteTurn p) ∧
    (ctxW (!whiteTurn p) (mirror p)).cur.king = kingHome (!whiteTurn p) := by
  have hK : (p.side (whiteTurn p)).king = kingHome (whiteTurn p) := by
    have := and_or_ne_zero.2 (hf.symm.imp bne_iff_ne.1 bne_iff_ne.1)
    revert this
    cases whiteTurn p
    · exact h.bCastle
    · exact h.wCastle
  refine ⟨hK, ?_⟩
  simp only [ctxW, side_mirror, Bool.not_not, mirrorSide, hK, (homeMir_fin (whiteTurn p)).1]

theorem castleQOk_mirror {p : Position} (h : MirrorOk p)
    (hq : (p.flags &&& MM.flagQ (whiteTurn p) != 0) = true) :
    okVal (castleQOk (mirror p) (ctxW (!whiteTurn p) (mirror p)))
      = okVal (castleQOk p (ctxW (whiteTurn p) p)) := by
  obtain ⟨hK, hK'⟩ := king_home h (.inl hq)
  obtain ⟨m0, m1, m2, m3, _, _⟩ := homeMir_fin (whiteTurn p)
  obtain ⟨v0, v1, v2, _⟩ := castle_sq (whiteTurn p)
  rw [castleQOk_home _ _ _ hK', castleQOk_home _ _ _ hK, ← m1, ← m2, ← m3, ← m0,
    notAttacked_mirror h v0, notAttacked_mirror h v1, notAttacked_mirror h v2]
  exact emptyAnd_mirror h _ (emptyAnd_mirror h _ (emptyAnd_mirror h _ rfl))

theorem castleKOk_mirror {p : Position} (h : MirrorOk p)
    (hk : (p.flags &&& MM.flagK (whiteTurn p) != 0) = true) :
    okVal (castleKOk (mirror p) (ctxW (!whiteTurn p) (mirror p)))
      = okVal (castleKOk p (ctxW (whiteTurn p) p)) := by
  obtain ⟨hK, hK'⟩ := king_home h (.inr hk)
  obtain ⟨m0, _, _, _, m1, m2⟩ := homeMir_fin (whiteTurn p)
  obtain ⟨v0, _, _, _, v1, v2, _⟩ := castle_sq (whiteTurn p)
  rw [castleKOk_home _ _ _ hK', castleKOk_home _ _ _ hK, ← m1, ← m2, ← m0,
    notAttacked_mirror h v0, notAttacked_mirror h v1, notAttacked_mirror h v2]
  exact emptyAnd_mirror h _ (emptyAnd_mirror h _ rfl)

theorem countMoves_okVal_mirror {p : Position} (h : MirrorOk p) :
    okVal (countMoves (mirror p)) = okVal (countMoves p) := by
  obtain ⟨hk, hq⟩ := mirrorFlags_test (whiteTurn p) h.flags
  have hcur : (ctxW (!whiteTurn p) (mirror p)).cur = mirrorSide (p.side (whiteTurn p)) := by
    simp only [ctxW, side_mirror, Bool.not_not]
  have e1 : okVal (sumM' (pawnCount (mirror p) (ctxW (!whiteTurn p) (mirror p)))
        (ctxW (!whiteTurn p) (mirror p)).cur.pawns)
      = okVal (sumM' (pawnCount p (ctxW (whiteTurn p) p)) (ctxW (whiteTurn p) p).cur.pawns) := by
    rw [hcur, mirrorSide, Walk.sumM'_eq, Walk.sumM'_eq, foldMon_map]
    exact okVal_foldMon_congr fun s hs' => pawnCount_mirror h hs'
  have e2 : okVal (sumM' (pieceCount (mirror p) (ctxW (!whiteTurn p) (mirror p)))
        (ctxW (!whiteTurn p) (mirror p)).cur.pieces)
      = okVal (sumM' (pieceCount p (ctxW (whiteTurn p) p)) (ctxW (whiteTurn p) p).cur.pieces) := by
    rw [hcur, mirrorSide, Walk.sumM'_eq, Walk.sumM'_eq, foldMon_map]
    exact okVal_foldMon_congr fun s hs' => pieceCount_mirror h hs'
  have e4 : okVal (castleQCnt (mirror p) (ctxW (!whiteTurn p) (mirror p)))
      = okVal (castleQCnt p (ctxW (whiteTurn p) p)) := by
    unfold castleQCnt
    simp only [okVal_ite, okVal_bind]
    exact ite_congr (congrArg (· = true) hq) (fun hc => by rw [castleQOk_mirror h hc]) fun _ => rfl
  have e5 : okVal (castleKCnt (mirror p) (ctxW (!whiteTurn p) (mirror p)))
      = okVal (castleKCnt p (ctxW (whiteTurn p) p)) := by
    unfold castleKCnt
    simp only [okVal_ite, okVal_bind]
    exact ite_congr (congrArg (· = true) hk) (fun hc => by rw [castleKOk_mirror h hc]) fun _ => rfl
  rw [countMoves_eq, countMoves_eq, ctx_eq, ctx_eq, whiteTurn_mirror h.flags]
  simp only [okVal_bind, e1, e2, kingCount_mirror h, e4, e5]

end Magog.Mir
