import Magog.Lemmas.MirrorEval
import Magog.Lemmas.Inv
import Magog.Lemmas.MMFlags

/-! For C15: the colour flip preserves well-formedness (`MirrorOk`, and the shared
    invariant `Inv`). -/

namespace Magog.Mir
open Magog Magog.Model Magog.Count Magog.Geo Magog.Atk

theorem codes_fin (w : Bool) :
    mirrorPiece (pawnOf w) = pawnOf (!w) ∧ mirrorPiece (kingOf w) = kingOf (!w) ∧
    (∀ c ∈ officersOf w, mirrorPiece c ∈ officersOf (!w)) ∧
    pawnOf w < 256 ∧ kingOf w < 256 ∧ (∀ c ∈ officersOf w, c < 256) := by
  cases w <;> decide

theorem getElem?_mirrorBoard' {b : Array Nat} (hb : b.size = 128) (j : Nat) :
    (mirrorBoard b)[j]? = b[mirrorSq j]?.map mirrorPiece := by
  have := getElem?_mirrorBoard hb (mirrorSq j)
  rwa [mirrorSq_mirrorSq] at this

theorem bytes_mirrorBoard {b : Array Nat} (hbytes : ∀ (i x : Nat), b[i]? = some x → x < 256) :
    ∀ (i x : Nat), (mirrorBoard b)[i]? = some x → x < 256 := by
  intro i x hx
  have hi := lt_128_of_getElem? (size_mirrorBoard _) hx
  rw [getElem?_mirrorBoard_lt _ hi] at hx
  rw [← Option.some.inj hx]
  exact mirrorPiece_lt (getD_lt hbytes _)

theorem nodup_map_mirrorSq {l : List Nat} (h : l.Nodup) : (l.map mirrorSq).Nodup :=
  List.Pairwise.map mirrorSq (fun _ _ hab e => hab (mirrorSq_inj.1 e)) h

theorem sideHolds_mirror {b : Array Nat} (hb : b.size = 128) {sd : Side} {w : Bool}
    (hs : SideHolds b sd w) : SideHolds (mirrorBoard b) (mirrorSide sd) (!w) := by
  obtain ⟨cP, cK, cO, _⟩ := codes_fin w
  refine ⟨fun s hs' => ?_, fun s hs' => ?_, ?_, nodup_map_mirrorSq hs.nodup⟩
  · obtain ⟨t, ht, rfl⟩ := List.mem_map.1 hs'
    obtain ⟨h1, h2⟩ := hs.pawns t ht
    exact ⟨mirrorSq_mem_sq88.2 h1, by rw [mirrorBoard_some hb h2, cP]⟩
  · obtain ⟨t, ht, rfl⟩ := List.mem_map.1 hs'
    obtain ⟨h1, c, hc, h2⟩ := hs.pieces t ht
    exact ⟨mirrorSq_mem_sq88.2 h1, mirrorPiece c, cO c hc, mirrorBoard_some hb h2⟩
  · obtain ⟨h1, h2⟩ := hs.king
    exact ⟨mirrorSq_mem_sq88.2 h1, by
      show (mirrorBoard b)[mirrorSq sd.king]? = _
      rw [mirrorBoard_some hb h2, cK]⟩

theorem castleFlagsMir_fin : ∀ f < 256,
    (mirrorFlags f &&& (FWK ||| FWQ) ≠ 0 → f &&& (FBK ||| FBQ) ≠ 0) ∧
    (mirrorFlags f &&& (FBK ||| FBQ) ≠ 0 → f &&& (FWK ||| FWQ) ≠ 0) ∧
    (f < 32 → mirrorFlags f < 32) := by decide +kernel

theorem MirrorOk.mirror {p : Position} (h : MirrorOk p) : MirrorOk (mirror p) := by
  obtain ⟨f1, f2, _⟩ := castleFlagsMir_fin _ h.flags
  refine ⟨size_mirrorBoard _, bytes_mirrorBoard h.bytes, ?_, ?_, (flags_fin _ h.flags).1, fun hne => ?_,
    fun hne => ?_, ?_, fun hlt => ?_⟩
  · exact sideHolds_mirror h.size h.black
  · exact sideHolds_mirror h.size h.white
  · show mirrorSq p.blackKing = Gen.E1
    rw [h.bCastle (f1 hne)]; decide
  · show mirrorSq p.whiteKing = Gen.E8
    rw [h.wCastle (f2 hne)]; decide
  · show mirrorEp p.ep < 256
    unfold mirrorEp; split
    · exact mirrorSq_lt_256 h.epByte
    · exact h.epByte
  · have hlt' : mirrorEp p.ep < 128 := hlt
    show isValid (mirrorEp p.ep) = true
    unfold mirrorEp at hlt' ⊢
    by_cases hv : isValid p.ep = true
    · simp only [hv, if_true, isValid_mirrorSq]
    · simp only [hv, Bool.false_eq_true, if_false] at hlt' ⊢
      exact absurd (h.epValid hlt') hv

theorem codeMir_fin : ∀ v ∈ 0 :: pieceCodes, mirrorPiece v = 0 ∨ mirrorPiece v ∈ pieceCodes := by
  decide

theorem mirror_slot {b : Array Nat} (hb : b.size = 128) (hbytes : ∀ (i x : Nat), b[i]? = some x → x < 256)
    {s c : Nat} (hc : c < 256) (h : (mirrorBoard b)[s]? = some (mirrorPiece c)) : b[mirrorSq s]? = some c := by
  rw [getElem?_mirrorBoard' hb] at h
  cases hx : b[mirrorSq s]? with
  | none => rw [hx] at h; cases h
  | some x =>
    rw [hx, Option.map_some] at h
    rw [(mirrorPiece_inj (hbytes _ _ hx) hc).1 (Option.some.inj h)]

theorem sideOk_mirror {b : Array Nat} (hb : b.size = 128) (hbytes : ∀ (i x : Nat), b[i]? = some x → x < 256)
    {sd : Side} {w : Bool} (hs : SideOk b sd w) : SideOk (mirrorBoard b) (mirrorSide sd) (!w) := by
  obtain ⟨cP, cK, cO, lP, lK, lO⟩ := codes_fin w
  obtain ⟨_, _, cO', _, _, lO'⟩ := codes_fin (!w)
  simp only [Bool.not_not] at cO'
  -- `pawns`, `pieces`, `king`, each iff in two bullets: listed → stands there by `mirrorBoard_some`; stands
  -- there → listed by pulling the cell back to `b` (`mirror_slot`) and the right-to-left half of `hs` at `mirrorSq s`
  refine ⟨fun s => ⟨fun hm => ?_, fun hm => ?_⟩, fun s => ⟨fun hm => ?_, fun hm => ?_⟩,
    fun s => ⟨fun hm => ?_, fun hm => ?_⟩⟩
  -- pawns
  · obtain ⟨t, ht, rfl⟩ := List.mem_map.1 hm
    obtain ⟨h1, h2, h3⟩ := (hs.pawns t).1 ht
    exact ⟨mirrorSq_lt_128 h1, by rw [isValid_mirrorSq]; exact h2,
      by rw [mirrorBoard_some hb h3, cP]⟩
  · obtain ⟨h1, h2, h3⟩ := hm
    rw [← cP] at h3
    have := (hs.pawns (mirrorSq s)).2 ⟨mirrorSq_lt_128 h1, by rw [isValid_mirrorSq]; exact h2,
      mirror_slot hb hbytes lP h3⟩
    exact List.mem_map.2 ⟨_, this, mirrorSq_mirrorSq s⟩
  -- pieces
  · obtain ⟨t, ht, rfl⟩ := List.mem_map.1 hm
    obtain ⟨h1, h2, c, hc, h3⟩ := (hs.pieces t).1 ht
    exact ⟨mirrorSq_lt_128 h1, by rw [isValid_mirrorSq]; exact h2, mirrorPiece c, cO c hc,
      mirrorBoard_some hb h3⟩
  · obtain ⟨h1, h2, c, hc, h3⟩ := hm
    have hc256 := lO' c hc
    rw [← mirrorPiece_invol hc256] at h3
    have := (hs.pieces (mirrorSq s)).2 ⟨mirrorSq_lt_128 h1, by rw [isValid_mirrorSq]; exact h2,
      mirrorPiece c, cO' c hc, mirror_slot hb hbytes (mirrorPiece_lt hc256) h3⟩
    exact List.mem_map.2 ⟨_, this, mirrorSq_mirrorSq s⟩
  -- king
  · have hm' : s = mirrorSq sd.king := hm
    subst hm'
    obtain ⟨h1, h2, h3⟩ := (hs.king sd.king).1 rfl
    exact ⟨mirrorSq_lt_128 h1, by rw [isValid_mirrorSq]; exact h2,
      by rw [mirrorBoard_some hb h3, cK]⟩
  · obtain ⟨h1, h2, h3⟩ := hm
    rw [← cK] at h3
    have := (hs.king (mirrorSq s)).2 ⟨mirrorSq_lt_128 h1, by rw [isValid_mirrorSq]; exact h2,
      mirror_slot hb hbytes lK h3⟩
    show s = mirrorSq sd.king
    rw [← this, mirrorSq_mirrorSq]

theorem backRank_fin : ∀ i < 128, (rankOf (mirrorSq i) ≠ Gen.Rank1 ∧ rankOf (mirrorSq i) ≠ Gen.Rank8) →
    (rankOf i ≠ Gen.Rank1 ∧ rankOf i ≠ Gen.Rank8) := by decide +kernel

/-- under the mirror the squares behind and before the en-passant target swap roles -/
theorem epSq_fin : ∀ e ∈ sq88,
    (rankOf e = Gen.Rank6 → rankOf (mirrorSq e) = Gen.Rank3 ∧
      mirrorSq e + Gen.UnitRank = mirrorSq (e - Gen.UnitRank) ∧ mirrorSq e - Gen.UnitRank = mirrorSq (e + Gen.UnitRank)) ∧
    (rankOf e = Gen.Rank3 → rankOf (mirrorSq e) = Gen.Rank6 ∧
      mirrorSq e + Gen.UnitRank = mirrorSq (e - Gen.UnitRank) ∧ mirrorSq e - Gen.UnitRank = mirrorSq (e + Gen.UnitRank)) := by
  decide +kernel

theorem castleHome_fin (c : Bool) :
    mirrorSq (MM.kingHome (!c)) = MM.kingHome c ∧ mirrorSq (MM.rookHomeK (!c)) = MM.rookHomeK c ∧
    mirrorSq (MM.rookHomeQ (!c)) = MM.rookHomeQ c ∧
    mirrorPiece (kingOf (!c)) = kingOf c ∧ mirrorPiece (MM.rookOf (!c)) = MM.rookOf c := by
  cases c <;> decide

theorem castlingOk_mirror {b : Array Nat} (hb : b.size = 128) {f : Nat} (hf : f < 256)
    (h : MM.CastlingOk b f) : MM.CastlingOk (mirrorBoard b) (mirrorFlags f) := by
  intro c
  obtain ⟨tK, tQ⟩ := mirrorFlags_test (!c) hf
  rw [Bool.not_not, Bool.eq_iff_iff, bne_iff_ne, bne_iff_ne] at tK tQ
  obtain ⟨sK, sRK, sRQ, eK, eR⟩ := castleHome_fin c
  rw [← sK, ← sRK, ← sRQ, ← eK, ← eR]
  exact ⟨fun hne => ⟨mirrorBoard_some hb ((h (!c)).1 (tK.1 hne)).1, mirrorBoard_some hb ((h (!c)).1 (tK.1 hne)).2⟩,
    fun hne => ⟨mirrorBoard_some hb ((h (!c)).2 (tQ.1 hne)).1, mirrorBoard_some hb ((h (!c)).2 (tQ.1 hne)).2⟩⟩

theorem castlingConsistent_mirror {p : Position} (h : MirrorOk p) (hc : castlingConsistent p = true) :
    castlingConsistent (mirror p) = true :=
  (MM.castlingConsistent_iff (size_mirrorBoard _)).2
    (castlingOk_mirror h.size h.flags ((MM.castlingConsistent_iff h.size).1 hc))

theorem inv_mirror {p : Position} (h : Inv p) : Inv (mirror p) := by
  have hm := MirrorOk.of_inv h
  have hsz := hm.size
  have hby := hm.bytes
  have p1 : mirrorPiece Gen.WPawn = Gen.BPawn := (codes_fin true).1
  have p2 : mirrorPiece Gen.BPawn = Gen.WPawn := (codes_fin false).1
  -- the 16 fields of `Inv` in order. The lists of `mirror p` are the other colour's lists of `p` under `mirrorSq`, so
  -- every white field is filled from the black field of `h` and conversely; a cell of the mirrored board is read
  -- back on `p.board` at `mirrorSq` of its index.
  refine ⟨⟨size_mirrorBoard _, fun s hs hv => ?_⟩, fun i hi hv => ?_, ?_, ?_, nodup_map_mirrorSq h.bpNodup,
    nodup_map_mirrorSq h.wpNodup, nodup_map_mirrorSq h.bpcNodup, nodup_map_mirrorSq h.wpcNodup, ?_, ?_, ?_, ?_,
    fun i hi => ?_, (castleFlagsMir_fin _ hm.flags).2.2 h.flags, castlingConsistent_mirror hm h.castling, ?_⟩
  -- board.codes
  · obtain ⟨v, hv1, hv2⟩ := h.board.codes (mirrorSq s) (mirrorSq_lt_128 hs) (by rw [isValid_mirrorSq]; exact hv)
    refine ⟨mirrorPiece v, by rw [mirror_board, getElem?_mirrorBoard' hsz, hv1, Option.map_some], ?_⟩
    exact codeMir_fin v (List.mem_cons.2 hv2)
  -- offBoard
  · show (mirrorBoard p.board)[i]? = some 0
    rw [getElem?_mirrorBoard' hsz, h.offBoard (mirrorSq i) (mirrorSq_lt_128 hi) (by rw [isValid_mirrorSq]; exact hv),
      Option.map_some, mirrorPiece_zero]
  -- white, black
  · exact sideOk_mirror hsz hby h.black
  · exact sideOk_mirror hsz hby h.white
  -- wpLen, bpLen, wLen, bLen (the four `Nodup` fields before them are in the `refine`)
  · show (p.blackPawns.map mirrorSq).length ≤ pawnCap
    rw [List.length_map]; exact h.bpLen
  · show (p.whitePawns.map mirrorSq).length ≤ pawnCap
    rw [List.length_map]; exact h.wpLen
  · show (p.blackPawns.map mirrorSq).length + (p.blackPieces.map mirrorSq).length ≤ pieceCap
    rw [List.length_map, List.length_map]; exact h.bLen
  · show (p.whitePawns.map mirrorSq).length + (p.whitePieces.map mirrorSq).length ≤ pieceCap
    rw [List.length_map, List.length_map]; exact h.wLen
  -- noBackPawn (`flags`, `castling` after it are in the `refine`)
  · have hi' : (mirrorBoard p.board)[i]? = some Gen.WPawn ∨ (mirrorBoard p.board)[i]? = some Gen.BPawn := hi
    have hi128 : i < 128 :=
      hi'.elim (lt_128_of_getElem? (size_mirrorBoard _)) (lt_128_of_getElem? (size_mirrorBoard _))
    apply backRank_fin i hi128
    apply h.noBackPawn (mirrorSq i)
    rcases hi' with hh | hh
    · right; rw [← p2] at hh; exact mirror_slot hsz hby (by decide) hh
    · left; rw [← p1] at hh; exact mirror_slot hsz hby (by decide) hh
  -- ep
  · rcases h.ep with he | he
    · left
      show mirrorEp p.ep = InvalidSq
      rw [he]; decide
    · right
      obtain ⟨e1, e2, e3, e4⟩ := he
      have he88 : p.ep ∈ sq88 := mem_sq88.2 ⟨e1, e2⟩
      obtain ⟨q6, q3⟩ := epSq_fin _ he88
      have hep : (Model.mirror p).ep = mirrorSq p.ep := by
        show mirrorEp p.ep = _
        simp [mirrorEp, e2]
      have hz : ∀ s, p.board[s]? = some 0 → (mirrorBoard p.board)[mirrorSq s]? = some 0 := fun s hs => by
        rw [mirrorBoard_some hsz hs, mirrorPiece_zero]
      refine ⟨by rw [hep]; exact mirrorSq_lt_128 e1, by rw [hep, isValid_mirrorSq]; exact e2,
        by rw [hep]; exact hz _ e3, ?_⟩
      rw [whiteTurn_mirror hm.flags, hep, mirror_board]
      -- the last clause of `EpOk`, by the side to move: rank 6 with a black pawn below the target goes to rank 3
      -- with a white pawn above it (`epSq_fin`), and conversely
      by_cases hw : whiteTurn p = true
      · simp only [hw, if_true] at e4
        obtain ⟨r, b1, b2⟩ := e4
        obtain ⟨r', s1, s2⟩ := q6 r
        simp only [hw, Bool.not_true, Bool.false_eq_true, if_false]
        refine ⟨r', ?_, ?_⟩
        · rw [s1, mirrorBoard_some hsz b1, p2]
        · rw [s2]; exact hz _ b2
      · simp only [hw, Bool.false_eq_true, if_false] at e4
        obtain ⟨r, b1, b2⟩ := e4
        obtain ⟨r', s1, s2⟩ := q3 r
        have hw' : whiteTurn p = false := by simpa using hw
        simp only [hw', Bool.not_false, if_true]
        refine ⟨r', ?_, ?_⟩
        · rw [s2, mirrorBoard_some hsz b1, p1]
        · rw [s1]; exact hz _ b2

end Magog.Mir
