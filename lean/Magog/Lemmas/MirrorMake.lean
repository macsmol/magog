import Magog.Lemmas.MirrorMove

/-! For C15: `makeMove` commutes with the colour flip. Both runs are put in closed form (`MM.makeMoveW_closed`), whose
    ingredients commute one by one (`MirrorMove`); what is left is the attack test on the position after the move, and
    for it the hypotheses of `isUnderCheck_mirror` (`afterMove_hyps`), read off the closed form. -/

namespace Magog.Mir
open Magog Magog.Model Magog.Count Magog.Geo Magog.Atk

/-- the castling shapes: a move from the king's square for which `MM.rookHop` is `some` (the two cases of
    `MM.rookHop_some`: queen's wing, king's wing); `afterMove_hyps` rebuilds them from `MM.hop_some`, `MM.rookHop_some` -/
def shapeQ (cur : Side) (m : Move) : Prop := m.frm = cur.king ∧ fileOf m.frm = Gen.E ∧ fileOf m.to = Gen.C
def shapeK (cur : Side) (m : Move) : Prop := m.frm = cur.king ∧ fileOf m.frm = Gen.E ∧ fileOf m.to = Gen.G

/-- what a move must satisfy (relative to the mover's colour `w`) for `makeMove` to commute with the
    colour flip: the moved man is the mover's; a promotion piece is a bare kind; a king move lands on a
    board square; a castling-shaped king move does not wipe the enemy king off the rook's corner. -/
structure MoveOkW (w : Bool) (p : Position) (m : Move) : Prop where
  own : ∃ c, p.board[m.frm]? = some c ∧ c &&& colBit w ≠ 0 ∧ c &&& colBit (!w) = 0
  promo : m.promo < 64
  kingTo : m.frm = (p.side w).king → m.to ∈ sq88
  cornerQ : shapeQ (p.side w) m → (p.side (!w)).king ≠ (Gen.A + homeRank w) % 256
  cornerK : shapeK (p.side w) m → (p.side (!w)).king ≠ (Gen.H + homeRank w) % 256

/-- `Mir.MoveOk`: `MoveOkW` for the side to move. Unrelated to `Total.MoveOk` and `MM.SimpleMove` (`MMSimple`), which
    say what kind of move `m` is: this one only excludes what breaks the flip, and every move `countMoves` tries has
    it (`moveOk_listed`, `moveOk_king` in `MirrorCount`). -/
def MoveOk (p : Position) (m : Move) : Prop := MoveOkW (whiteTurn p) p m

def mirrorRes (r : Position × Bool) : Position × Bool := (mirror r.1, r.2)

theorem officer_fin (w : Bool) : ∀ c ∈ officersOf w,
    c &&& Pawn = 0 ∧ c ≠ 0 ∧ c ≠ King ||| MM.colorBit w ∧ c ≠ Pawn ||| MM.colorBit w := by
  cases w <;> decide

/-- Conjuncts in order: 1–3 the castling rook's code has no pawn bit, one colour bit, is a byte (for the cell
    `MM.hopBoard` writes); 4 the king's code has one colour bit; 5 the enemy king's code has not the mover's bit;
    6 a pawn is not the king. 4–6 serve `isUnderCheck_hyps` and the enemy-king cases of `afterMove_hyps`. -/
theorem rookc_fin (w : Bool) :
    (Rook ||| MM.colorBit w) &&& Pawn = 0 ∧ oneColour (Rook ||| MM.colorBit w) = true ∧ Rook ||| MM.colorBit w < 256 ∧
    oneColour (kingOf w) = true ∧ kingOf (!w) &&& MM.colorBit w = 0 ∧ pawnOf w ≠ kingOf w := by
  cases w <;> decide

theorem own_fin {c : Nat} (w : Bool) (h1 : c &&& MM.colorBit w ≠ 0) (h2 : c &&& MM.colorBit (!w) = 0) : oneColour c = true := by
  cases w <;> simp_all [oneColour, MM.colorBit]

theorem isUnderCheck_hyps {p : Position} (h : MirrorOk p) (w : Bool) :
    p.board.size = 128 ∧ (∀ (i x : Nat), p.board[i]? = some x → x < 256) ∧
    (∀ a ∈ (p.side w).pawns, a ∈ sq88) ∧
    (∀ a ∈ (p.side w).pieces, a ∈ sq88 ∧ ∀ x, p.board[a]? = some x → x &&& Pawn = 0) ∧
    (p.side w).king ∈ sq88 ∧ (∀ x, p.board[(p.side w).king]? = some x → oneColour x = true) ∧
    (p.side (!w)).king ∈ sq88 := by
  have hen := h.side w
  refine ⟨h.size, h.bytes, fun a ha => (hen.pawns a ha).1, fun a ha => ?_, hen.king.1, fun x hx => ?_,
    (h.side (!w)).king.1⟩
  · obtain ⟨h1, c, hc, hb⟩ := hen.pieces a ha
    refine ⟨h1, fun x hx => ?_⟩
    rw [hb] at hx
    rw [← Option.some.inj hx]
    exact (officer_fin _ c hc).1
  · rw [hen.king.2] at hx
    rw [← Option.some.inj hx]
    exact (rookc_fin w).2.2.2.1

theorem afterMove_hyps (w : Bool) {p : Position} {m : Move} (h : MirrorOk p) (hm : MoveOkW w p m) {c tp : Nat}
    (hc : p.board[m.frm]? = some c) (htp : p.board[m.to]? = some tp) {c1 en2 : Side}
    (hcur : MM.curAfter w (p.side w) c m = .ok c1) (hen2 : MM.enAfter w (p.side (!w)) c tp p.ep m = .ok en2) :
    let b2 := MM.boardAfter w p.board (p.side w).king p.ep c m
    b2.size = 128 ∧ (∀ (i x : Nat), b2[i]? = some x → x < 256) ∧ (∀ a ∈ en2.pawns, a ∈ sq88) ∧
    (∀ a ∈ en2.pieces, a ∈ sq88 ∧ ∀ x, b2[a]? = some x → x &&& Pawn = 0) ∧ en2.king ∈ sq88 ∧
    (∀ x, b2[en2.king]? = some x → oneColour x = true) ∧ c1.king ∈ sq88 := by
  obtain ⟨c', hc', hcw, hce⟩ := hm.own
  cases hc.symm.trans hc'
  obtain ⟨hking, hpw, hpc, hepm⟩ := enAfter_frame hen2
  obtain ⟨rP, rO, rlt, _, kC, _⟩ := rookc_fin w
  have hen := h.side (!w)
  have hc256 := h.bytes _ _ hc
  have hplaced : MM.placed w c m < 256 ∧ oneColour (MM.placed w c m) = true := by
    unfold MM.placed
    split
    · exact ⟨hc256, own_fin w hcw hce⟩
    · exact ⟨(promo_fin _ hm.promo w).2.1, (promo_fin _ hm.promo w).2.2⟩
  refine ⟨MM.boardAfter_size.trans h.size, fun i x hx => ?_, fun a ha => (hen.pawns a (hpw a ha)).1, fun a ha => ?_,
    hking ▸ hen.king.1, fun x hx => ?_, ?_⟩
  · rcases MM.boardAfter_cell hx with h0 | ⟨_, rfl⟩ | ⟨rfl, _⟩ | ⟨_, _, _, ⟨_, rfl⟩ | ⟨_, rfl⟩⟩
    · exact h.bytes _ _ h0
    · exact hplaced.1
    · decide
    · decide
    · exact rlt
  · obtain ⟨ha88, co, hco, hbo⟩ := hen.pieces a (hpc a ha)
    obtain ⟨o1, o2, o3, o4⟩ := officer_fin (!w) co hco
    refine ⟨ha88, fun x hx => ?_⟩
    rcases MM.boardAfter_cell hx with h0 | ⟨rfl, _⟩ | ⟨rfl, _⟩ | ⟨_, _, _, ⟨_, rfl⟩ | ⟨_, rfl⟩⟩
    · rw [hbo] at h0
      rw [← Option.some.inj h0]
      exact o1
    · -- the destination held an enemy officer: it was removed from the list
      cases htp.symm.trans hbo
      exact absurd ha (enAfter_to_not_mem hen.nodup o2 o3 o4 hen2)
    · decide
    · decide
    · exact rP
  · rw [hking] at hx
    obtain ⟨_, hkb⟩ := hen.king
    rcases MM.boardAfter_cell hx with h0 | ⟨_, rfl⟩ | ⟨rfl, hfrm | ⟨hE, hsq⟩⟩ | ⟨rf, rt, hh, ⟨ha, rfl⟩ | ⟨_, rfl⟩⟩
    · rw [hkb] at h0
      rw [← Option.some.inj h0]
      exact (rookc_fin (!w)).2.2.2.1
    · exact hplaced.2
    · -- the enemy king does not stand on the origin: that man is the mover's
      rw [hfrm, hc] at hkb
      rw [Option.some.inj hkb] at hcw
      exact absurd kC hcw
    · -- nor on the square of the pawn taken en passant
      obtain ⟨_, hpb⟩ := hen.pawns _ (hepm hE)
      rw [← hsq, hkb] at hpb
      exact absurd (Option.some.inj hpb).symm (rookc_fin (!w)).2.2.2.2.2
    · -- nor on the corner the castling rook leaves
      obtain ⟨hK, hr, _⟩ := MM.hop_some hh
      obtain ⟨hE, hCG⟩ := MM.rookHop_some hr
      rcases hCG with ⟨hC, rfl, _⟩ | ⟨hG, rfl, _⟩
      · exact absurd ha (hm.cornerQ ⟨hK.2, hE, hC⟩)
      · exact absurd ha (hm.cornerK ⟨hK.2, hE, hG⟩)
    · exact rO
  · rw [MM.curAfter_king hcur]
    split
    · next hk => exact hm.kingTo hk.2
    · exact (h.side w).king.1

theorem okVal_makeMoveW_none {w : Bool} {p : Position} {m : Move} (h : p.board[m.to]? = none) :
    okVal (MM.makeMoveW w p m) = none := by
  cases hx : MM.makeMoveW w p m with
  | error e => rfl
  | ok r =>
    obtain ⟨_, _, _, htp, _⟩ := MM.makeMoveW_ok_iff_closed.mp hx
    cases h.symm.trans htp

theorem makeMoveW_mirror (w : Bool) {p : Position} {m : Move} (h : MirrorOk p) (hm : MoveOkW w p m) :
    okVal (MM.makeMoveW (!w) (mirror p) (mirrorMove m)) = (okVal (MM.makeMoveW w p m)).map mirrorRes := by
  obtain ⟨fp, hfp, _, _⟩ := hm.own
  have hf128 := lt_128_of_getElem? h.size hfp
  have hfp256 := h.bytes _ _ hfp
  cases htp : p.board[m.to]? with
  | none =>
    rw [okVal_makeMoveW_none htp, okVal_makeMoveW_none (m := mirrorMove m)
      (by rw [mirror_board]; exact (getElem?_mirrorBoard h.size m.to).trans (by rw [htp]; rfl))]
    rfl
  | some tp =>
    have hto := lt_128_of_getElem? h.size htp
    have htp256 := h.bytes _ _ htp
    rw [MM.makeMoveW_closed hfp htp (MM.inBounds_of_size h.size hf128),
      MM.makeMoveW_closed (mirrorBoard_some h.size hfp) (mirrorBoard_some h.size htp)
        (MM.inBounds_of_size (size_mirrorBoard _) (mirrorSq_lt_128 hf128))]
    have hk : ∀ s : Side, (mirrorSide s).king = mirrorSq s.king := fun _ => rfl
    unfold MM.makeMoveC
    simp only [okVal_bind, side_mirror, Bool.not_not, mirror_board, mirror_ep, hk,
      show (mirror p).flags = mirrorFlags p.flags from rfl,
      boardAfter_mirror w hfp256 m h.size _ h.epValid hto hm.promo, flagsOf_mirror w hfp256 m h.flags,
      curAfter_mirror w hfp256 m, enAfter_mirror w hfp256 m htp256 _ h.epValid hto]
    cases hcur : MM.curAfter w (p.side w) fp m with
    | error e => rfl
    | ok c1 =>
      cases hen2 : MM.enAfter w (p.side (!w)) fp tp p.ep m with
      | error e => rfl
      | ok en2 =>
        obtain ⟨g1, g2, g3, g4, g5, g6, g7⟩ := afterMove_hyps w h hm hfp htp hcur hen2
        simp only [okVal_ok, Option.map_some, Option.bind_some]
        rw [hk, isUnderCheck_mirror g1 g2 g3 g4 g5 g6 g7]
        cases isUnderCheck (MM.boardAfter w p.board (p.side w).king p.ep fp m) en2 c1.king with
        | error e => rfl
        | ok chk => cases w <;> rfl

/-- **`makeMove` commutes with the colour flip**: same panic behaviour up to the payload, and the
    `.ok` results correspond (mirrored position, same king-safety verdict) -/
theorem makeMove_mirror {p : Position} {m : Move} (h : MirrorOk p) (hm : MoveOk p m) :
    okVal (makeMove (mirror p) (mirrorMove m)) = (okVal (makeMove p m)).map mirrorRes := by
  rw [MM.makeMove_eq_W, MM.makeMove_eq_W, whiteTurn_mirror h.flags]
  exact makeMoveW_mirror _ h hm

theorem isLegal_mirror {p : Position} {m : Move} (h : MirrorOk p) (hm : MoveOk p m) :
    okVal (isLegal (mirror p) (mirrorMove m)) = okVal (isLegal p m) := by
  unfold isLegal
  simp only [okVal_bind, okVal_pure, makeMove_mirror h hm]
  cases okVal (makeMove p m) <;> rfl

end Magog.Mir
