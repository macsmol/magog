import Magog.Lemmas.MirrorAttack

/-! For C15: the ingredients of `makeMove`'s closed form (`MMClosed`: `curAfter`, `enAfter`, `boardAfter`, `flagsOf`)
    commute with the colour flip (the list bookkeeping up to the panic payload: `kill` reports the square in its
    message). -/

namespace Magog.Mir
open Magog Magog.Model Magog.Count Magog.Geo Magog.Atk

theorem idxOf?_map_mirror (l : List Nat) (sq : Nat) :
    (l.map mirrorSq).idxOf? (mirrorSq sq) = l.idxOf? sq := by
  induction l with
  | nil => rfl
  | cons x xs ih =>
    simp only [List.map_cons, List.idxOf?_cons, ih]
    by_cases h : x = sq
    · simp [h]
    · have : mirrorSq x ≠ mirrorSq sq := fun hh => h (mirrorSq_inj.1 hh)
      simp [h, this]

theorem swapRemove_map (l : List Nat) {i : Nat} (hi : i < l.length) :
    MM.swapRemove (l.map mirrorSq) i = (MM.swapRemove l i).map mirrorSq := by
  have hne : l ≠ [] := by intro h; subst h; simp at hi
  have : (l.map mirrorSq).getLastD 0 = mirrorSq (l.getLastD 0) := by
    rw [List.getLastD_eq_getLast?, List.getLastD_eq_getLast?, List.getLast?_map]
    cases hl : l.getLast? with
    | none => simp [List.getLast?_eq_none_iff] at hl; exact absurd hl hne
    | some v => rfl
  unfold MM.swapRemove
  rw [this, List.map_dropLast, List.map_set]

theorem kill_mirror (l : List Nat) (sq : Nat) (what : String) :
    okVal (kill (l.map mirrorSq) (mirrorSq sq) what) = (okVal (kill l sq what)).map (List.map mirrorSq) := by
  unfold kill
  rw [idxOf?_map_mirror]
  cases h : l.idxOf? sq with
  | none => rfl
  | some i =>
    obtain ⟨hi, _⟩ := List.idxOf?_eq_some_iff.1 h
    exact congrArg some (swapRemove_map l hi)

theorem replaceFirst_mirror (l : List Nat) (a b : Nat) :
    replaceFirst (l.map mirrorSq) (mirrorSq a) (mirrorSq b) = (replaceFirst l a b).map mirrorSq := by
  unfold replaceFirst
  rw [idxOf?_map_mirror]
  cases l.idxOf? a with
  | none => rfl
  | some i => simp only [List.map_set]

theorem appendCap_mirror (l : List Nat) (cap sq : Nat) (what : String) :
    okVal (appendCap (l.map mirrorSq) cap (mirrorSq sq) what)
      = (okVal (appendCap l cap sq what)).map (List.map mirrorSq) := by
  unfold appendCap
  simp only [List.length_map]
  split <;> simp

theorem okVal_emap {α β : Type} (f : α → β) (x : M α) : okVal (x.map f) = (okVal x).map f := by
  cases x <;> rfl

/-- Conjuncts in order: 1–3 `mirrorPiece` of the mover's pawn, king, rook; 4–5 the pawn and king codes are bytes;
    6–9 the squares of `MM.rookHop` (files a, d, h, f of the home rank) under `mirrorSq`; 10 the home rank itself
    (what `rank_cond` reads as `.2.2.2.2.2.2.2.2.2`). -/
theorem const_fin (w : Bool) :
    mirrorPiece (Pawn ||| MM.colorBit w) = Pawn ||| MM.colorBit (!w) ∧
    mirrorPiece (King ||| MM.colorBit w) = King ||| MM.colorBit (!w) ∧
    mirrorPiece (Rook ||| MM.colorBit w) = Rook ||| MM.colorBit (!w) ∧
    Pawn ||| MM.colorBit w < 256 ∧ King ||| MM.colorBit w < 256 ∧
    mirrorSq ((Gen.A + MM.homeRank w) % 256) = (Gen.A + MM.homeRank (!w)) % 256 ∧
    mirrorSq ((Gen.D + MM.homeRank w) % 256) = (Gen.D + MM.homeRank (!w)) % 256 ∧
    mirrorSq ((Gen.H + MM.homeRank w) % 256) = (Gen.H + MM.homeRank (!w)) % 256 ∧
    mirrorSq ((Gen.F + MM.homeRank w) % 256) = (Gen.F + MM.homeRank (!w)) % 256 ∧
    mirrorSq (MM.homeRank w) = MM.homeRank (!w) := by
  cases w <;> decide

theorem promo_fin : ∀ k < 64, ∀ w : Bool,
    mirrorPiece (k ||| MM.colorBit w) = k ||| MM.colorBit (!w) ∧ k ||| MM.colorBit w < 256 ∧ oneColour (k ||| MM.colorBit w) = true := by
  decide +kernel

/-- the three cell tests of `makeMove` (own pawn, enemy king, empty) on a mirrored byte -/
theorem code_mirror (w : Bool) {x : Nat} (hx : x < 256) :
    (mirrorPiece x = Pawn ||| MM.colorBit (!w) ↔ x = Pawn ||| MM.colorBit w) ∧
    (mirrorPiece x = King ||| MM.colorBit (!w) ↔ x = King ||| MM.colorBit w) ∧ (mirrorPiece x = 0 ↔ x = 0) := by
  obtain ⟨cP, cK, _, cP', cK', _⟩ := const_fin w
  rw [← cP, ← cK]
  refine ⟨mirrorPiece_inj hx cP', mirrorPiece_inj hx cK', ?_⟩
  have := mirrorPiece_inj hx (by decide : (0 : Nat) < 256)
  rwa [mirrorPiece_zero] at this

theorem clearBits_lt {x : Nat} (h : x < 256) (m : Nat) : clearBits x m < 256 :=
  Nat.lt_of_le_of_lt Nat.and_le_left h

theorem rank_cond (w : Bool) (s : Nat) :
    (rankOf (mirrorSq s) == MM.homeRank (!w)) = (rankOf s == MM.homeRank w) := by
  rw [← (const_fin w).2.2.2.2.2.2.2.2.2, rankOf_beq_mirror]

theorem mmCorners_le (f : Nat) (m : Move) (cr er ck cq ek eq : Nat) : mmCorners f m cr er ck cq ek eq ≤ f := by
  have step : ∀ (c : Bool) (g k : Nat), (if c then clearBits g k else g) ≤ g := fun c g k => by
    cases c
    · exact Nat.le_refl g
    · exact Nat.and_le_left
  exact Nat.le_trans (step _ _ _) (Nat.le_trans (step _ _ _) (Nat.le_trans (step _ _ _) (step _ _ _)))

theorem mmCorners_mirror (w : Bool) {f : Nat} (hf : f < 256) (m : Move) :
    mirrorFlags (mmCorners f m (MM.homeRank w) (MM.homeRank (!w)) (MM.flagK w) (MM.flagQ w) (MM.flagK (!w)) (MM.flagQ (!w)))
      = mmCorners (mirrorFlags f) (mirrorMove m) (MM.homeRank (!w)) (MM.homeRank w) (MM.flagK (!w)) (MM.flagQ (!w))
          (MM.flagK w) (MM.flagQ w) := by
  have hr : ∀ s, (rankOf (mirrorSq s) == MM.homeRank w) = (rankOf s == MM.homeRank (!w)) := fun s => by
    have := rank_cond (!w) s
    rwa [Bool.not_not] at this
  have lt : ∀ (c : Bool) {g : Nat} (k : Nat), g < 256 → (if c then clearBits g k else g) < 256 :=
    fun c g k hg => by
      cases c
      · exact hg
      · exact clearBits_lt hg k
  unfold mmCorners
  simp only [mirrorMove, fileOf_mirrorSq, rank_cond, hr]
  rw [apply_ite mirrorFlags, mirrorFlags_clearK (!w) (lt _ _ (lt _ _ (lt _ _ hf))),
    apply_ite mirrorFlags, mirrorFlags_clearQ (!w) (lt _ _ (lt _ _ hf)),
    apply_ite mirrorFlags, mirrorFlags_clearK w (lt _ _ hf), apply_ite mirrorFlags, mirrorFlags_clearQ w hf, Bool.not_not]

theorem rank_fin16 : ∀ f < 256, f &&& 0xF0 = 16 * (f / 16) := by decide +kernel

theorem killSq_fin : ∀ x < 16, ∀ r < 16,
    (x + ((16 * r) ^^^ 0x70)) % 256 = ((x + 16 * r) % 256) ^^^ 0x70 := by decide +kernel

theorem epSq_mirror (m : Move) : MM.epSq (mirrorMove m) = mirrorSq (MM.epSq m) := by
  have hx : fileOf m.to < 16 := Nat.lt_of_le_of_lt Nat.and_le_right (by decide)
  have hf : m.frm % 256 < 256 := Nat.mod_lt _ (by decide)
  have hr : rankOf m.frm = 16 * (m.frm % 256 / 16) := by
    rw [← rank_fin16 _ hf, rankOf_mod m.frm, rankOf]
  unfold MM.epSq mirrorMove
  rw [fileOf_mirrorSq, rankOf_mirrorSq, hr]
  exact killSq_fin _ hx _ (by omega)

theorem ep_cond {ep to : Nat} (hep : ep < 128 → isValid ep = true) (hto : to < 128) :
    (mirrorEp ep == mirrorSq to) = (ep == to) := by
  rw [Bool.eq_iff_iff]
  simp only [beq_iff_eq, mirrorEp]
  by_cases hv : isValid ep = true
  · simp [hv, mirrorSq_inj]
  · have hge : ¬ ep < 128 := fun h => hv (hep h)
    simp only [hv, Bool.false_eq_true, if_false]
    constructor
    · intro h
      have := mirrorSq_lt_128 hto
      omega
    · intro h; omega

/-! ### the closed form of `makeMove` under the flip

`fp`, `tp` are the bytes on `m.frm`, `m.to`; the flipped position holds `mirrorPiece fp`, `mirrorPiece tp` on the
flipped squares, so the case distinctions of the closed form (`KingMoves`, `IsEp`, `hop`) are the same on both sides. -/

section
variable (w : Bool) {fp : Nat} (hfp : fp < 256) (m : Move)
include hfp

theorem kingMoves_mirror (king : Nat) :
    MM.KingMoves (!w) (mirrorSq king) (mirrorPiece fp) (mirrorMove m) ↔ MM.KingMoves w king fp m :=
  and_congr (not_congr (code_mirror w hfp).1) mirrorSq_inj

theorem isEp_mirror {ep : Nat} (hep : ep < 128 → isValid ep = true) (hto : m.to < 128) :
    MM.IsEp (!w) (mirrorPiece fp) (mirrorEp ep) (mirrorMove m) ↔ MM.IsEp w fp ep m := by
  have := ep_cond hep hto
  rw [Bool.eq_iff_iff, beq_iff_eq, beq_iff_eq] at this
  exact and_congr Iff.rfl (and_congr this (code_mirror w hfp).1)

omit hfp in
theorem rookHop_mirror (frm to : Nat) :
    MM.rookHop (mirrorSq frm) (mirrorSq to) (MM.homeRank (!w))
      = (MM.rookHop frm to (MM.homeRank w)).map fun r => (mirrorSq r.1, mirrorSq r.2) := by
  obtain ⟨_, _, _, _, _, cA, cD, cH, cF, _⟩ := const_fin w
  simp only [MM.rookHop, fileOf_mirrorSq]
  by_cases hE : fileOf frm = Gen.E
  · rw [if_pos hE, if_pos hE]
    by_cases hC : fileOf to = Gen.C
    · rw [if_pos hC, if_pos hC, Option.map_some, cA, cD]
    · rw [if_neg hC, if_neg hC]
      by_cases hG : fileOf to = Gen.G
      · rw [if_pos hG, if_pos hG, Option.map_some, cH, cF]
      · rw [if_neg hG, if_neg hG]; rfl
  · rw [if_neg hE, if_neg hE]; rfl

theorem hop_mirror (king : Nat) :
    MM.hop (!w) (mirrorSq king) (mirrorPiece fp) (mirrorMove m)
      = (MM.hop w king fp m).map fun r => (mirrorSq r.1, mirrorSq r.2) := by
  unfold MM.hop
  simp only [kingMoves_mirror w hfp m king]
  split
  · exact rookHop_mirror w _ _
  · rfl

theorem hopBoard_mirror {B : Array Nat} (hB : B.size = 128) (king : Nat) :
    MM.hopBoard (!w) (mirrorBoard B) (mirrorSq king) (mirrorPiece fp) (mirrorMove m)
      = mirrorBoard (MM.hopBoard w B king fp m) := by
  unfold MM.hopBoard
  rw [hop_mirror w hfp m king]
  cases MM.hop w king fp m with
  | none => rfl
  | some r =>
    simp only [Option.map_some, mirrorBoard_set, Array.size_setIfInBounds, hB, mirrorPiece_zero, (const_fin w).2.2.1]

theorem boardAfter_mirror {B : Array Nat} (hB : B.size = 128) (king : Nat) {ep : Nat}
    (hep : ep < 128 → isValid ep = true) (hto : m.to < 128) (hpromo : m.promo < 64) :
    MM.boardAfter (!w) (mirrorBoard B) (mirrorSq king) (mirrorEp ep) (mirrorPiece fp) (mirrorMove m)
      = mirrorBoard (MM.boardAfter w B king ep fp m) := by
  have hpl : MM.placed (!w) (mirrorPiece fp) (mirrorMove m) = mirrorPiece (MM.placed w fp m) := by
    by_cases h0 : m.promo = 0
    · simp only [MM.placed, mirrorMove, h0, if_true]
    · simp only [MM.placed, mirrorMove, h0, if_false, (promo_fin _ hpromo w).1]
  unfold MM.boardAfter
  simp only [hopBoard_mirror w hfp m hB king, isEp_mirror w hfp m hep hto, hpl, epSq_mirror]
  split <;>
    simp only [mirrorBoard_set, Array.size_setIfInBounds, MM.hopBoard_size, hB, mirrorPiece_zero] <;> rfl

theorem curAfter_mirror (cur : Side) :
    okVal (MM.curAfter (!w) (mirrorSide cur) (mirrorPiece fp) (mirrorMove m))
      = (okVal (MM.curAfter w cur fp m)).map mirrorSide := by
  unfold MM.curAfter
  dsimp +instances only [mirrorMove, mirrorSide]
  simp only [(code_mirror w hfp).1, mirrorSq_inj, idxOf?_map_mirror, rookHop_mirror w]
  split
  · split
    · simp only [okVal_pure, Option.map_some, mirrorSide, replaceFirst_mirror]
    · cases hi : cur.pawns.idxOf? m.frm with
      | none => rfl
      | some i =>
        simp only [okVal_emap, appendCap_mirror, swapRemove_map _ (List.idxOf?_eq_some_iff.1 hi).1, Option.map_map]
        rfl
  · split
    · cases MM.rookHop m.frm m.to (MM.homeRank w) <;>
        simp only [Option.map_none, Option.map_some, okVal_pure, mirrorSide, replaceFirst_mirror]
    · simp only [okVal_pure, Option.map_some, mirrorSide, replaceFirst_mirror]

omit hfp in
theorem enCaptured_mirror {tp : Nat} (htp : tp < 256) (en : Side) :
    okVal (MM.enCaptured (!w) (mirrorSide en) (mirrorPiece tp) (mirrorMove m))
      = (okVal (MM.enCaptured w en tp m)).map mirrorSide := by
  obtain ⟨cP, cK, c0⟩ := code_mirror (!w) htp
  unfold MM.enCaptured
  dsimp +instances only [mirrorMove, mirrorSide]
  simp only [cP, cK, c0]
  split
  · rfl
  · split <;> simp only [okVal_emap, kill_mirror, Option.map_map] <;> rfl

theorem enAfter_mirror {tp : Nat} (htp : tp < 256) (en : Side) {ep : Nat} (hep : ep < 128 → isValid ep = true)
    (hto : m.to < 128) :
    okVal (MM.enAfter (!w) (mirrorSide en) (mirrorPiece fp) (mirrorPiece tp) (mirrorEp ep) (mirrorMove m))
      = (okVal (MM.enAfter w en fp tp ep m)).map mirrorSide := by
  unfold MM.enAfter MM.enEp
  simp only [okVal_bind, enCaptured_mirror w m htp, isEp_mirror w hfp m hep hto, epSq_mirror]
  cases okVal (MM.enCaptured w en tp m) with
  | none => rfl
  | some en1 =>
    simp only [Option.map_some, Option.bind_some]
    split
    · simp only [okVal_emap, mirrorSide, kill_mirror, Option.map_map]
      rfl
    · rfl

theorem flagsOf_mirror {f : Nat} (hf : f < 256) (king : Nat) :
    MM.flagsOf (!w) (mirrorFlags f) (mirrorSq king) (mirrorPiece fp) (mirrorMove m)
      = mirrorFlags (MM.flagsOf w f king fp m) := by
  have h1 : (if MM.KingMoves w king fp m then clearBits f (MM.flagK w ||| MM.flagQ w) else f) < 256 := by
    split
    · exact clearBits_lt hf _
    · exact hf
  unfold MM.flagsOf MM.newFlags
  rw [mirrorFlags_xorTurn (Nat.lt_of_le_of_lt (mmCorners_le ..) h1), mmCorners_mirror w h1]
  simp only [kingMoves_mirror w hfp m king, Bool.not_not]
  split
  · rw [mirrorFlags_clearKQ w hf]
  · rfl

end

end Magog.Mir
