import Magog.Lemmas.MirrorTables
import Magog.Lemmas.Attack
import Magog.Lemmas.MMBasic
import Magog.Lemmas.Walk

/-! For C15: the well-formedness `MirrorOk` (per side: `SideHolds`) under which the colour flip is a symmetry of the
    evaluation, list-loop lemmas up to the panic payload, and the flags byte under the flip. The facts about
    `MirrorOk` are spread along the chain: `MirrorOk.flipTurn` here, `MirrorOk.pstOk` in `MirrorPst`,
    `MirrorOk.of_inv` and `mirrorOk_of_B` in `MirrorEval`, `MirrorOk.mirror` in `MirrorInv`. -/

namespace Magog.Mir
open Magog Magog.Model Magog.Count Magog.Geo Magog.Atk

theorem sumMI_eq {α} (f : α → M Int) (l : List α) : sumMI f l = Walk.foldMon 0 (· + ·) f l := by
  induction l with
  | nil => rfl
  | cons x xs ih => simp only [sumMI, Walk.foldMon, ih]

section
variable {α β γ : Type} {zero : γ} {add : γ → γ → γ}

theorem foldMon_map (f : β → M γ) (g : α → β) (l : List α) :
    Walk.foldMon zero add f (l.map g) = Walk.foldMon zero add (fun x => f (g x)) l := by
  induction l with
  | nil => rfl
  | cons x xs ih => simp only [List.map_cons, Walk.foldMon, ih]

theorem okVal_foldMon_congr {f g : α → M γ} {l : List α} (h : ∀ x ∈ l, okVal (f x) = okVal (g x)) :
    okVal (Walk.foldMon zero add f l) = okVal (Walk.foldMon zero add g l) := by
  induction l with
  | nil => rfl
  | cons x xs ih =>
    simp only [Walk.foldMon, okVal_bind, h x List.mem_cons_self,
      ih (fun y hy => h y (List.mem_cons_of_mem _ hy))]

end

theorem anyM'_map {α β} (f : β → M Bool) (g : α → β) (l : List α) :
    anyM' f (l.map g) = anyM' (fun x => f (g x)) l := by
  induction l with
  | nil => rfl
  | cons x xs ih => simp only [List.map_cons, anyM', ih]

theorem okVal_anyM'_congr {α} {f g : α → M Bool} {l : List α} (h : ∀ x ∈ l, okVal (f x) = okVal (g x)) :
    okVal (anyM' f l) = okVal (anyM' g l) := by
  induction l with
  | nil => rfl
  | cons x xs ih =>
    simp only [anyM', okVal_bind, h x List.mem_cons_self]
    refine Option.bind_congr fun b _ => ?_
    cases b
    · simpa using ih (fun y hy => h y (List.mem_cons_of_mem _ hy))
    · rfl

theorem okVal_sumM'_perm {α} (f : α → M Nat) {l₁ l₂ : List α} (h : l₁.Perm l₂) :
    okVal (sumM' f l₁) = okVal (sumM' f l₂) := by
  induction h with
  | nil => rfl
  | cons x _ ih => simp only [sumM', okVal_bind, ih]
  | swap x y l =>
    simp only [sumM', okVal_bind, okVal_pure]
    cases okVal (f x) <;> cases okVal (f y) <;> cases okVal (sumM' f l) <;> simp <;> omega
  | trans _ _ ih1 ih2 => rw [ih1, ih2]

theorem bind2_isSome {α β γ} {x : M α} {y : M β} (f : α → β → γ) (hx : (okVal x).isSome)
    (hy : (okVal y).isSome) : (okVal (do let a ← x; let b ← y; pure (f a b))).isSome := by
  cases x with
  | error e => simp at hx
  | ok a => cases y with
    | error e => simp at hy
    | ok b => rfl

theorem foldMon_isSome {α γ : Type} {zero : γ} {add : γ → γ → γ} {f : α → M γ} {l : List α}
    (h : ∀ x ∈ l, (okVal (f x)).isSome) : (okVal (Walk.foldMon zero add f l)).isSome := by
  induction l with
  | nil => rfl
  | cons x xs ih =>
    exact bind2_isSome add (h x List.mem_cons_self) (ih fun y hy => h y (List.mem_cons_of_mem _ hy))

def oneColour (x : Nat) : Bool := (x &&& WhiteBit != 0) != (x &&& BlackBit != 0)

/-- the men a side's lists name stand where the lists say (one direction of `Atk.SideOk`),
    and no officer is listed twice -/
structure SideHolds (b : Array Nat) (sd : Side) (w : Bool) : Prop where
  pawns : ∀ s ∈ sd.pawns, s ∈ sq88 ∧ b[s]? = some (pawnOf w)
  pieces : ∀ s ∈ sd.pieces, s ∈ sq88 ∧ ∃ c ∈ officersOf w, b[s]? = some c
  king : sd.king ∈ sq88 ∧ b[sd.king]? = some (kingOf w)
  nodup : sd.pieces.Nodup

/-- The explicit well-formedness under which the colour flip is a symmetry of the evaluation.
    It does not mention the side to move (so it also holds for the turn-flipped position), legality,
    completeness of the lists, the off-board slots, or the pawn ranks. Weaker than `Inv` (`MirrorOk.of_inv`, in
    `MirrorEval`): `white`/`black` keep the left-to-right halves of `Inv.white`/`Inv.black` and the officers' `Nodup`;
    `wCastle`/`bCastle` (`Gen.E1`/`Gen.E8` are `MM.kingHome true/false`) follow from `Inv.castling`. -/
structure MirrorOk (p : Position) : Prop where
  size : p.board.size = 128
  bytes : ∀ (i x : Nat), p.board[i]? = some x → x < 256
  white : SideHolds p.board (p.side true) true
  black : SideHolds p.board (p.side false) false
  flags : p.flags < 256
  wCastle : p.flags &&& (FWK ||| FWQ) ≠ 0 → p.whiteKing = Gen.E1
  bCastle : p.flags &&& (FBK ||| FBQ) ≠ 0 → p.blackKing = Gen.E8
  epByte : p.ep < 256
  epValid : p.ep < 128 → isValid p.ep = true

theorem MirrorOk.side {p : Position} (h : MirrorOk p) (w : Bool) : SideHolds p.board (p.side w) w := by
  cases w
  · exact h.black
  · exact h.white

/-- `colBit`, `homeRank` are `MM.colorBit`, `MM.homeRank` (same bodies, equal by unfolding). They occur only in the
    statement of `MoveOkW` (`MirrorMake`); the proofs read its fields as facts about the `MM` constants. -/
def colBit (w : Bool) : Nat := if w then WhiteBit else BlackBit
def homeRank (w : Bool) : Nat := if w then Gen.Rank1 else Gen.Rank8

/-- Read only through the named projections that follow it (`mirrorFlags_test`, `mirrorFlags_clearK/Q/KQ`,
    `mirrorFlags_xorTurn`, `whiteTurn_mirror`), except conjunct 1 (`< 256`, in `MirrorOk.mirror`) and conjunct 2
    (involution, in `mirror_involutive`). -/
theorem flags_fin : ∀ f < 256,
    mirrorFlags f < 256 ∧ mirrorFlags (mirrorFlags f) = f ∧
    (mirrorFlags f &&& FWhiteTurn != 0) = !(f &&& FWhiteTurn != 0) ∧
    mirrorFlags (f ^^^ FWhiteTurn) = mirrorFlags f ^^^ FWhiteTurn ∧
    ∀ w : Bool,
      (mirrorFlags f &&& MM.flagK (!w) != 0) = (f &&& MM.flagK w != 0) ∧
      (mirrorFlags f &&& MM.flagQ (!w) != 0) = (f &&& MM.flagQ w != 0) ∧
      mirrorFlags (clearBits f (MM.flagK w)) = clearBits (mirrorFlags f) (MM.flagK (!w)) ∧
      mirrorFlags (clearBits f (MM.flagQ w)) = clearBits (mirrorFlags f) (MM.flagQ (!w)) ∧
      mirrorFlags (clearBits f (MM.flagK w ||| MM.flagQ w)) = clearBits (mirrorFlags f) (MM.flagK (!w) ||| MM.flagQ (!w)) := by
  decide +kernel

theorem mirrorFlags_test (w : Bool) {f : Nat} (hf : f < 256) :
    (mirrorFlags f &&& MM.flagK (!w) != 0) = (f &&& MM.flagK w != 0) ∧
    (mirrorFlags f &&& MM.flagQ (!w) != 0) = (f &&& MM.flagQ w != 0) :=
  ⟨((flags_fin f hf).2.2.2.2 w).1, ((flags_fin f hf).2.2.2.2 w).2.1⟩

theorem mirrorFlags_clearK (w : Bool) {f : Nat} (hf : f < 256) :
    mirrorFlags (clearBits f (MM.flagK w)) = clearBits (mirrorFlags f) (MM.flagK (!w)) :=
  ((flags_fin f hf).2.2.2.2 w).2.2.1

theorem mirrorFlags_clearQ (w : Bool) {f : Nat} (hf : f < 256) :
    mirrorFlags (clearBits f (MM.flagQ w)) = clearBits (mirrorFlags f) (MM.flagQ (!w)) :=
  ((flags_fin f hf).2.2.2.2 w).2.2.2.1

theorem mirrorFlags_clearKQ (w : Bool) {f : Nat} (hf : f < 256) :
    mirrorFlags (clearBits f (MM.flagK w ||| MM.flagQ w)) = clearBits (mirrorFlags f) (MM.flagK (!w) ||| MM.flagQ (!w)) :=
  ((flags_fin f hf).2.2.2.2 w).2.2.2.2

theorem mirrorFlags_xorTurn {f : Nat} (hf : f < 256) :
    mirrorFlags (f ^^^ FWhiteTurn) = mirrorFlags f ^^^ FWhiteTurn := (flags_fin f hf).2.2.2.1

theorem whiteTurn_mirror {p : Position} (h : p.flags < 256) : whiteTurn (mirror p) = !whiteTurn p := by
  simp only [whiteTurn, mirror]
  exact (flags_fin _ h).2.2.1

theorem side_mirror (p : Position) (w : Bool) : (mirror p).side w = mirrorSide (p.side (!w)) := by
  cases w <;> rfl

theorem mirror_board (p : Position) : (mirror p).board = mirrorBoard p.board := rfl
theorem mirror_ep (p : Position) : (mirror p).ep = mirrorEp p.ep := rfl

theorem flipTurn_mirror {p : Position} (h : p.flags < 256) : mirror (flipTurn p) = flipTurn (mirror p) := by
  simp only [mirror, flipTurn]
  rw [mirrorFlags_xorTurn h]

theorem MirrorOk.flipTurn {p : Position} (h : MirrorOk p) : MirrorOk (flipTurn p) := by
  have hb : (Model.flipTurn p).board = p.board := rfl
  have hf : (Model.flipTurn p).flags = p.flags ^^^ FWhiteTurn := rfl
  have e1 : ∀ f < 256, f ^^^ FWhiteTurn < 256 ∧ (f ^^^ FWhiteTurn) &&& (FWK ||| FWQ) = f &&& (FWK ||| FWQ) ∧
      (f ^^^ FWhiteTurn) &&& (FBK ||| FBQ) = f &&& (FBK ||| FBQ) := by decide +kernel
  obtain ⟨e2, e3, e4⟩ := e1 _ h.flags
  refine ⟨h.size, h.bytes, h.white, h.black, ?_, ?_, ?_, h.epByte, h.epValid⟩
  · rw [hf]; exact e2
  · rw [hf, e3]; exact h.wCastle
  · rw [hf, e4]; exact h.bCastle

end Magog.Mir
