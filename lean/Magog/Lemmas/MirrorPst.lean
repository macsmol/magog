import Magog.Lemmas.MirrorOk

/-! For C15: the material + piece-square part of the evaluation is colour-symmetric.
    Built on the kernel-checked symmetry of the fourteen hand-typed tables (`pstRows_fin`, `pst_mirror`). -/

namespace Magog.Mir
open Magog Magog.Model Magog.Count Magog.Geo Magog.Atk

def tablePairs : List (List Int × List Int) :=
  [(Gen.sqTablePawnsWhite, Gen.sqTablePawnsBlack), (Gen.sqTableKnightsWhite, Gen.sqTableKnightsBlack),
   (Gen.sqTableBishopsWhite, Gen.sqTableBishopsBlack), (Gen.sqTableRooksWhite, Gen.sqTableRooksBlack),
   (Gen.sqTableQueensWhite, Gen.sqTableQueensBlack), (Gen.sqTableKingMidgameWhite, Gen.sqTableKingMidgameBlack),
   (Gen.sqTableKingEndgameWhite, Gen.sqTableKingEndgameBlack)]

/-- The Boolean exists for its name: `pstMirrorCheck_true` is one of the C15 theorems that MANIFEST.json and
    DESIGN.md list (re-exported by `Props/C15`). The kernel evaluates `pstRows_fin`, not this Boolean;
    `pst_mirror` is `pstMirrorCheck_true` in ∀-form. -/
def pstMirrorCheck : Bool :=
  tablePairs.all fun (w, b) => w.length == 128 && b.length == 128 &&
    sq88.all fun s => w[s]? == b[mirrorSq s]?

theorem pstRows_fin : ∀ p ∈ tablePairs, p.1.length = 128 ∧ p.2 = flipRows 8 p.1 := by decide +kernel

theorem pstMirrorCheck_true : pstMirrorCheck = true := by
  refine List.all_eq_true.2 fun p hp => ?_
  obtain ⟨hw, hb⟩ := pstRows_fin p hp
  simp only [hb, Bool.and_eq_true, beq_iff_eq, List.all_eq_true]
  exact ⟨⟨hw, (flipRows_getElem? 8 _ hw).1⟩, fun s hs => (flipRows_mirrorSq hw hs).symm⟩

/-- **table symmetry** (on the tables regenerated from pieceSquareTables.go): every white table is the
    rank-mirrored black table, for all seven pairs and all 64 squares; all tables have 128 entries -/
theorem pst_mirror (w b : List Int) (hp : (w, b) ∈ tablePairs) (s : Nat) (hs : s ∈ sq88) :
    w.length = 128 ∧ b.length = 128 ∧ w[s]? = b[mirrorSq s]? := by
  have h := pstMirrorCheck_true
  simp only [pstMirrorCheck, List.all_eq_true, Bool.and_eq_true, beq_iff_eq] at h
  obtain ⟨⟨h1, h2⟩, h3⟩ := h (w, b) hp
  exact ⟨h1, h2, h3 s hs⟩

def TabMir (t t' : Array Int) : Prop :=
  ∀ s ∈ sq88, t'[mirrorSq s]? = t[s]? ∧ (t[s]?).isSome

theorem tabMir_wb {w b : List Int} (hp : (w, b) ∈ tablePairs) : TabMir w.toArray b.toArray := by
  intro s hs
  obtain ⟨h1, _, h3⟩ := pst_mirror w b hp s hs
  have : s < w.length := by rw [h1]; exact (mem_sq88.1 hs).1
  simp only [List.getElem?_toArray]
  rw [← h3]
  simp [this]

theorem TabMir.symm {t t' : Array Int} (h : TabMir t t') : TabMir t' t := by
  intro s hs
  obtain ⟨h1, h2⟩ := h (mirrorSq s) (mirrorSq_mem_sq88.2 hs)
  rw [mirrorSq_mirrorSq] at h1
  exact ⟨h1.symm, h1 ▸ h2⟩

theorem tabMir_bw {w b : List Int} (hp : (w, b) ∈ tablePairs) : TabMir b.toArray w.toArray :=
  (tabMir_wb hp).symm

@[simp] theorem okVal_tgetI (t : Array Int) (what : String) (i : Nat) : okVal (tgetI t what i) = t[i]? := by
  unfold tgetI
  cases t[i]? <;> rfl

theorem bind_congr2 {α β} {x x' : Option α} {f f' : α → Option β} (hx : x' = x) (hf : ∀ a, f' a = f a) :
    x'.bind f' = x.bind f := by
  rw [hx, funext hf]

theorem nonPawnMaterial_mirror {b : Array Nat} (hb : b.size = 128)
    (hbytes : ∀ (i x : Nat), b[i]? = some x → x < 256) (l : List Nat) :
    okVal (nonPawnMaterial (mirrorBoard b) (l.map mirrorSq)) = okVal (nonPawnMaterial b l) := by
  unfold nonPawnMaterial
  rw [Walk.sumM'_eq, Walk.sumM'_eq, foldMon_map]
  refine okVal_foldMon_congr fun s _ => ?_
  simp only [okVal_bind]
  exact okVal_bget_mirror_bind hb _ fun c hc => by rw [mirrorPiece_kind (hbytes s c hc)]

theorem nonPawnMaterial_isSome {b : Array Nat} (hb : b.size = 128) {l : List Nat}
    (hl : ∀ s ∈ l, s ∈ sq88) : (okVal (nonPawnMaterial b l)).isSome := by
  unfold nonPawnMaterial
  rw [Walk.sumM'_eq]
  refine foldMon_isSome fun s hs => ?_
  have : s < b.size := by rw [hb]; exact (mem_sq88.1 (hl s hs)).1
  simp [this]

theorem sidePst_mirror {b : Array Nat} (hb : b.size = 128)
    (hbytes : ∀ (i x : Nat), b[i]? = some x → x < 256) {sd : Side}
    (hpc : ∀ s ∈ sd.pieces, s ∈ sq88) (hpw : ∀ s ∈ sd.pawns, s ∈ sq88)
    {tN tB tR tQ tP tN' tB' tR' tQ' tP' : Array Int}
    (hN : TabMir tN tN') (hB : TabMir tB tB') (hR : TabMir tR tR') (hQ : TabMir tQ tQ') (hP : TabMir tP tP') :
    okVal (sidePst (mirrorBoard b) (mirrorSide sd) tN' tB' tR' tQ' tP') = okVal (sidePst b sd tN tB tR tQ tP) := by
  unfold sidePst
  simp only [mirrorSide, sumMI_eq, foldMon_map, okVal_bind]
  refine bind_congr2 (okVal_foldMon_congr fun s hs => ?_) fun _ =>
    bind_congr2 (okVal_foldMon_congr fun s hs => ?_) fun _ => rfl
  · have h88 := hpc s hs
    simp only [okVal_bind]
    refine okVal_bget_mirror_bind hb _ fun c hc => ?_
    simp only [mirrorPiece_kind (hbytes s c hc), okVal_ite, okVal_bind, okVal_tgetI, (hN s h88).1, (hB s h88).1,
      (hR s h88).1, (hQ s h88).1]
  · simp only [okVal_bind, okVal_tgetI, (hP s (hpw s hs)).1]

theorem isSome_ite {α} {c : Prop} [Decidable c] {x y : Option α} (hx : x.isSome) (hy : y.isSome) :
    (if c then x else y).isSome := by
  split
  · exact hx
  · exact hy

theorem sidePst_isSome {b : Array Nat} (hb : b.size = 128) {sd : Side}
    (hpc : ∀ s ∈ sd.pieces, s ∈ sq88) (hpw : ∀ s ∈ sd.pawns, s ∈ sq88)
    {tN tB tR tQ tP tN' tB' tR' tQ' tP' : Array Int}
    (hN : TabMir tN tN') (hB : TabMir tB tB') (hR : TabMir tR tR') (hQ : TabMir tQ tQ') (hP : TabMir tP tP') :
    (okVal (sidePst b sd tN tB tR tQ tP)).isSome := by
  unfold sidePst
  simp only [sumMI_eq]
  refine bind2_isSome (fun a b => a + b) (foldMon_isSome fun s hs => ?_) (foldMon_isSome fun s hs => ?_)
  · have h88 := hpc s hs
    have : s < b.size := by rw [hb]; exact (mem_sq88.1 h88).1
    obtain ⟨vN, hvN⟩ := Option.isSome_iff_exists.1 (hN s h88).2
    obtain ⟨vB, hvB⟩ := Option.isSome_iff_exists.1 (hB s h88).2
    obtain ⟨vR, hvR⟩ := Option.isSome_iff_exists.1 (hR s h88).2
    obtain ⟨vQ, hvQ⟩ := Option.isSome_iff_exists.1 (hQ s h88).2
    simp only [okVal_bind, okVal_bget, this, getElem?_pos, Option.bind_some, okVal_ite, okVal_tgetI,
      hvN, hvB, hvR, hvQ, okVal_pure]
    exact isSome_ite rfl (isSome_ite rfl (isSome_ite rfl (isSome_ite rfl rfl)))
  · obtain ⟨v, hv⟩ := Option.isSome_iff_exists.1 (hP s (hpw s hs)).2
    simp [hv]

/-- What the cheap score needs, for totality (`pieceSquareScore_total`) and for symmetry alike: of `MirrorOk`
    (`MirrorOk.pstOk`) only the board's size and bytes and that the listed squares are board squares, not what
    stands on them. -/
structure PstOk (p : Position) : Prop where
  size : p.board.size = 128
  bytes : ∀ (i x : Nat), p.board[i]? = some x → x < 256
  flags : p.flags < 256
  wPieces : ∀ s ∈ p.whitePieces, s ∈ sq88
  bPieces : ∀ s ∈ p.blackPieces, s ∈ sq88
  wPawns : ∀ s ∈ p.whitePawns, s ∈ sq88
  bPawns : ∀ s ∈ p.blackPawns, s ∈ sq88
  wKing : p.whiteKing ∈ sq88
  bKing : p.blackKing ∈ sq88

theorem MirrorOk.pstOk {p : Position} (h : MirrorOk p) : PstOk p :=
  ⟨h.size, h.bytes, h.flags, fun s hs => (h.white.pieces s hs).1, fun s hs => (h.black.pieces s hs).1,
    fun s hs => (h.white.pawns s hs).1, fun s hs => (h.black.pawns s hs).1, h.white.king.1, h.black.king.1⟩

theorem tp_P : (Gen.sqTablePawnsWhite, Gen.sqTablePawnsBlack) ∈ tablePairs := by simp [tablePairs]
theorem tp_N : (Gen.sqTableKnightsWhite, Gen.sqTableKnightsBlack) ∈ tablePairs := by simp [tablePairs]
theorem tp_B : (Gen.sqTableBishopsWhite, Gen.sqTableBishopsBlack) ∈ tablePairs := by simp [tablePairs]
theorem tp_R : (Gen.sqTableRooksWhite, Gen.sqTableRooksBlack) ∈ tablePairs := by simp [tablePairs]
theorem tp_Q : (Gen.sqTableQueensWhite, Gen.sqTableQueensBlack) ∈ tablePairs := by simp [tablePairs]
theorem tp_KM : (Gen.sqTableKingMidgameWhite, Gen.sqTableKingMidgameBlack) ∈ tablePairs := by simp [tablePairs]
theorem tp_KE : (Gen.sqTableKingEndgameWhite, Gen.sqTableKingEndgameBlack) ∈ tablePairs := by simp [tablePairs]

theorem pieceSquareScore_okVal (blend : Blend) (p : Position) {wm bm : Nat} {w b wkm wke bkm bke : Int}
    (h1 : okVal (nonPawnMaterial p.board p.whitePieces) = some wm)
    (h2 : okVal (nonPawnMaterial p.board p.blackPieces) = some bm)
    (h3 : okVal (sidePst p.board (p.side true) pstKnightsWhite pstBishopsWhite pstRooksWhite pstQueensWhite
      pstPawnsWhite) = some w)
    (h4 : okVal (sidePst p.board (p.side false) pstKnightsBlack pstBishopsBlack pstRooksBlack pstQueensBlack
      pstPawnsBlack) = some b)
    (h5 : pstKingMidWhite[p.whiteKing]? = some wkm) (h6 : pstKingEndWhite[p.whiteKing]? = some wke)
    (h7 : pstKingMidBlack[p.blackKing]? = some bkm) (h8 : pstKingEndBlack[p.blackKing]? = some bke) :
    okVal (pieceSquareScore blend p) = some (
      if whiteTurn p then (w + blend (wm + bm) wkm wke) - (b + blend (wm + bm) bkm bke)
      else -((w + blend (wm + bm) wkm wke) - (b + blend (wm + bm) bkm bke))) := by
  unfold pieceSquareScore
  simp only [okVal_bind, okVal_pure, okVal_tgetI, h1, h2, h3, h4, h5, h6, h7, h8, Option.bind_some]

theorem pieceSquareScore_both (blend : Blend) {p : Position} (h : PstOk p) :
    ∃ x, pieceSquareScore blend p = .ok x ∧ pieceSquareScore blend (mirror p) = .ok x := by
  obtain ⟨wm, h1⟩ := Option.isSome_iff_exists.1 (nonPawnMaterial_isSome h.size h.wPieces)
  obtain ⟨bm, h2⟩ := Option.isSome_iff_exists.1 (nonPawnMaterial_isSome h.size h.bPieces)
  obtain ⟨w, h3⟩ := Option.isSome_iff_exists.1 (sidePst_isSome (sd := p.side true) h.size h.wPieces h.wPawns
    (tabMir_wb tp_N) (tabMir_wb tp_B) (tabMir_wb tp_R) (tabMir_wb tp_Q) (tabMir_wb tp_P))
  obtain ⟨b, h4⟩ := Option.isSome_iff_exists.1 (sidePst_isSome (sd := p.side false) h.size h.bPieces h.bPawns
    (tabMir_bw tp_N) (tabMir_bw tp_B) (tabMir_bw tp_R) (tabMir_bw tp_Q) (tabMir_bw tp_P))
  obtain ⟨wkm, h5⟩ := Option.isSome_iff_exists.1 (tabMir_wb tp_KM _ h.wKing).2
  obtain ⟨wke, h6⟩ := Option.isSome_iff_exists.1 (tabMir_wb tp_KE _ h.wKing).2
  obtain ⟨bkm, h7⟩ := Option.isSome_iff_exists.1 (tabMir_bw tp_KM _ h.bKing).2
  obtain ⟨bke, h8⟩ := Option.isSome_iff_exists.1 (tabMir_bw tp_KE _ h.bKing).2
  -- each ingredient of the flipped position is the other colour's ingredient of `p`
  have e := pieceSquareScore_okVal blend (mirror p)
    ((nonPawnMaterial_mirror h.size h.bytes _).trans h2) ((nonPawnMaterial_mirror h.size h.bytes _).trans h1)
    ((side_mirror p true ▸ sidePst_mirror h.size h.bytes h.bPieces h.bPawns (tabMir_bw tp_N) (tabMir_bw tp_B)
      (tabMir_bw tp_R) (tabMir_bw tp_Q) (tabMir_bw tp_P)).trans h4)
    ((side_mirror p false ▸ sidePst_mirror h.size h.bytes h.wPieces h.wPawns (tabMir_wb tp_N) (tabMir_wb tp_B)
      (tabMir_wb tp_R) (tabMir_wb tp_Q) (tabMir_wb tp_P)).trans h3)
    ((tabMir_bw tp_KM _ h.bKing).1.trans h7) ((tabMir_bw tp_KE _ h.bKing).1.trans h8)
    ((tabMir_wb tp_KM _ h.wKing).1.trans h5) ((tabMir_wb tp_KE _ h.wKing).1.trans h6)
  refine ⟨_, okVal_eq_some (pieceSquareScore_okVal blend p h1 h2 h3 h4 h5 h6 h7 h8), ?_⟩
  rw [okVal_eq_some e, whiteTurn_mirror h.flags, Nat.add_comm bm wm]
  cases whiteTurn p
  · simp only [Bool.not_false, if_true, Bool.false_eq_true, if_false, Int.neg_sub]
  · simp only [Bool.not_true, if_true, Bool.false_eq_true, if_false, Int.neg_sub]

theorem pieceSquareScore_total (blend : Blend) {p : Position} (h : PstOk p) : ∃ x, pieceSquareScore blend p = .ok x :=
  (pieceSquareScore_both blend h).imp fun _ hx => hx.1

theorem pieceSquareScore_mirror_pstOk (blend : Blend) {p : Position} (h : PstOk p) :
    pieceSquareScore blend (mirror p) = pieceSquareScore blend p :=
  let ⟨_, h1, h2⟩ := pieceSquareScore_both blend h
  h2.trans h1.symm

end Magog.Mir
