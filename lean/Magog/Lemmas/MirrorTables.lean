import Magog.Lemmas.MirrorBase
import Magog.Lemmas.Attack

/-! For C15: the generated direction constants and the attack / direction tables under the
    rank mirror. Single steps are kernel-decided over the 64 squares × the step directions; a table is
    compared with itself row by row, in one pass; pairs of squares and slider walks are reduced to these. -/

namespace Magog.Mir
open Magog Magog.Model Magog.Count Magog.Geo Magog.Atk

def allDirs : List Nat := knightDirs ++ kingDirs ++ bishopDirs ++ rookDirs

/-- **dir_mirror**. Off the board the two bytes may differ (the file nibble wraps): the equation is
    claimed only for a step that stays on it. -/
theorem dir_mirror {s d : Nat} (hs : s ∈ sq88) (hd : d ∈ allDirs) :
    isValid (addb (mirrorSq s) (mirDir d)) = isValid (addb s d) ∧
    (isValid (addb s d) = true → addb (mirrorSq s) (mirDir d) = mirrorSq (addb s d)) := by
  revert d
  revert s
  decide +kernel

theorem knightDirs_perm : (knightDirs.map mirDir).Perm knightDirs := by
  rw [← List.isPerm_iff]; decide
theorem bishopDirs_perm : (bishopDirs.map mirDir).Perm bishopDirs := by
  rw [← List.isPerm_iff]; decide
theorem rookDirs_perm : (rookDirs.map mirDir).Perm rookDirs := by
  rw [← List.isPerm_iff]; decide
theorem kingDirs_perm : (kingDirs.map mirDir).Perm kingDirs := by
  rw [← List.isPerm_iff]; decide

theorem mem_allDirs_knight {d : Nat} (h : d ∈ knightDirs) : d ∈ allDirs := by simp [allDirs, h]
theorem mem_allDirs_king {d : Nat} (h : d ∈ kingDirs) : d ∈ allDirs := by simp [allDirs, h]
theorem mem_allDirs_bishop {d : Nat} (h : d ∈ bishopDirs) : d ∈ allDirs := by simp [allDirs, h]
theorem mem_allDirs_rook {d : Nat} (h : d ∈ rookDirs) : d ∈ allDirs := by simp [allDirs, h]

theorem mirDir_N : mirDir Gen.DirN = Gen.DirS := by decide
theorem mirDir_S : mirDir Gen.DirS = Gen.DirN := by decide

/-! ### tables by rows

A table indexed by `16 * rank + file` (a piece-square table, 8 rows) or by `16 * rank difference + file
difference` (the attack and direction tables, 15 rows) is mirrored by reading its rows of 16 in
reverse order: a structural operation, checked against the generated tables in one pass. -/

def flipRows {α} : Nat → List α → List α
  | 0, _ => []
  | n + 1, l => flipRows n (l.drop 16) ++ l.take 16

theorem flipRows_getElem? {α} : ∀ (n : Nat) (l : List α), l.length = 16 * n →
    (flipRows n l).length = 16 * n ∧
    ∀ i < 16 * n, (flipRows n l)[i]? = l[16 * (n - 1 - i / 16) + i % 16]?
  | 0, _, _ => ⟨rfl, fun i hi => absurd hi (by omega)⟩
  | n + 1, l, hl => by
    obtain ⟨hlen, ih⟩ := flipRows_getElem? n (l.drop 16) (by rw [List.length_drop, hl]; omega)
    refine ⟨by rw [flipRows, List.length_append, hlen, List.length_take, hl]; omega, fun i hi => ?_⟩
    rw [flipRows]
    by_cases h : i < 16 * n
    · rw [List.getElem?_append_left (by rw [hlen]; exact h), ih i h, List.getElem?_drop]
      congr 1
      omega
    · rw [List.getElem?_append_right (by rw [hlen]; omega), hlen, List.getElem?_take, if_pos (by omega)]
      congr 1
      omega

theorem sq88_rank_file : ∀ s ∈ sq88,
    s / 16 < 8 ∧ s % 16 < 8 ∧ mirrorSq s = 16 * (7 - s / 16) + s % 16 := by decide +kernel

theorem flipRows_mirrorSq {α} {w : List α} (hw : w.length = 128) {s : Nat} (hs : s ∈ sq88) :
    (flipRows 8 w)[mirrorSq s]? = w[s]? := by
  obtain ⟨h1, h2, e⟩ := sq88_rank_file s hs
  rw [e, (flipRows_getElem? 8 w hw).2 _ (by omega)]
  congr 1
  omega

def mirIdx (i : Nat) : Nat := 16 * (14 - i / 16) + i % 16

theorem idxN_mirror {a t : Nat} (ha : a ∈ sq88) (ht : t ∈ sq88) :
    idxN (mirrorSq a) (mirrorSq t) = mirIdx (idxN a t) := by
  obtain ⟨_, _, ea⟩ := sq88_rank_file a ha
  obtain ⟨_, _, et⟩ := sq88_rank_file t ht
  have e119 : Gen.lastValidSquare = 119 := rfl
  simp only [idxN, mirIdx, ea, et, e119]
  omega

/-- `62`: the knight, bishop, rook, queen and king bits of an attack-table entry, i.e. all but the two pawn bits -/
def swapPawnBits (x : Nat) : Nat :=
  (x &&& 62) ||| (if x &&& Gen.WPawnAttacks != 0 then Gen.BPawnAttacks else 0)
    ||| (if x &&& Gen.BPawnAttacks != 0 then Gen.WPawnAttacks else 0)

/-- the tables have 239 entries: `++ [0]` pads them to 15 rows of 16 -/
theorem tabRows_fin :
    flipRows 15 (Gen.attackTable ++ [0]) = (Gen.attackTable ++ [0]).map swapPawnBits ∧
    flipRows 15 (Gen.directionTable ++ [0]) = (Gen.directionTable ++ [0]).map mirDir := by decide +kernel

/-- `60`: `62` without the knight bit; an entry that meets it is one along which `pieceAttacks` walks (`walk_mirror`) -/
theorem tabEntry_fin : ∀ p ∈ Gen.attackTable.zip Gen.directionTable,
    swapPawnBits p.1 &&& 62 = p.1 &&& 62 ∧
    (swapPawnBits p.1 &&& Gen.WPawnAttacks != 0) = (p.1 &&& Gen.BPawnAttacks != 0) ∧
    (swapPawnBits p.1 &&& Gen.BPawnAttacks != 0) = (p.1 &&& Gen.WPawnAttacks != 0) ∧
    (p.1 &&& 60 ≠ 0 → (p.1 &&& Gen.QueenAttacks != 0) = true ∧ p.2 ∈ allDirs) := by decide +kernel

theorem tabEntry_mem {i : Nat} (hi : i < 239) :
    (Gen.attackTable.getD i 0, Gen.directionTable.getD i 0) ∈ Gen.attackTable.zip Gen.directionTable := by
  have h1 : i < Gen.attackTable.length := attack_len ▸ hi
  have h2 : i < Gen.directionTable.length := direction_len ▸ hi
  rw [List.getD_eq_getElem?_getD, List.getD_eq_getElem?_getD, List.getElem?_eq_getElem h1,
    List.getElem?_eq_getElem h2]
  exact List.mem_iff_getElem.2 ⟨i, by rw [List.length_zip]; omega, List.getElem_zip⟩

theorem getD_append_zero (l : List Nat) (j : Nat) : (l ++ [0]).getD j 0 = l.getD j 0 := by
  rw [List.getD_eq_getElem?_getD, List.getD_eq_getElem?_getD, List.getElem?_append]
  split
  · rfl
  · rw [List.getElem?_eq_none (l := l) (by omega)]
    cases j - l.length <;> rfl

theorem getD_mirIdx {l : List Nat} {f : Nat → Nat} (hl : l.length = 239)
    (h : flipRows 15 (l ++ [0]) = (l ++ [0]).map f) {i : Nat} (hi : i < 239) :
    l.getD (mirIdx i) 0 = f (l.getD i 0) := by
  have key : (flipRows 15 (l ++ [0]))[i]? = (l ++ [0])[mirIdx i]? :=
    (flipRows_getElem? 15 _ (by rw [List.length_append, hl]; rfl)).2 i (by omega)
  rw [h, List.getElem?_map, List.getElem?_append_left (by omega)] at key
  rw [← getD_append_zero l (mirIdx i), List.getD_eq_getElem?_getD, ← key, List.getD_eq_getElem?_getD,
    List.getElem?_eq_getElem (by omega)]
  rfl

/-- **attack_mirror**: on the generated tables, for all 64 × 64 pairs of board squares: the entry of the
    mirrored pair has the same knight/bishop/rook/queen/king bits and the two pawn bits exchanged; the
    direction entry is the rank-negated direction -/
theorem attack_mirror {a t : Nat} (ha : a ∈ sq88) (ht : t ∈ sq88) :
    attackAt (mirrorSq a) (mirrorSq t) &&& 62 = attackAt a t &&& 62 ∧
    (attackAt (mirrorSq a) (mirrorSq t) &&& Gen.WPawnAttacks != 0) = (attackAt a t &&& Gen.BPawnAttacks != 0) ∧
    (attackAt (mirrorSq a) (mirrorSq t) &&& Gen.BPawnAttacks != 0) = (attackAt a t &&& Gen.WPawnAttacks != 0) ∧
    dirAt (mirrorSq a) (mirrorSq t) = mirDir (dirAt a t) := by
  have hi := idxN_lt ha ht
  obtain ⟨e1, e2, e3, _⟩ := tabEntry_fin _ (tabEntry_mem hi)
  simp only [attackAt, dirAt, idxN_mirror ha ht, getD_mirIdx attack_len tabRows_fin.1 hi,
    getD_mirIdx direction_len tabRows_fin.2 hi]
  exact ⟨e1, e2, e3, trivial⟩

theorem walkList_start {d t : Nat} (ht : t ∈ sq88) : ∀ {fuel sq : Nat} {l : List Nat},
    walkList d t fuel sq = some l → (∀ s ∈ l, s ∈ sq88) → isValid sq = true
  | 0, _, _, h, _ => by simp [walkList] at h
  | n + 1, sq, l, h, hl => by
    simp only [walkList, beq_iff_eq] at h
    by_cases hsd : sq = t
    · exact hsd ▸ (mem_sq88.1 ht).2
    · rw [if_neg hsd] at h
      obtain ⟨l', _, rfl⟩ := Option.map_eq_some_iff.1 h
      exact (mem_sq88.1 (hl _ List.mem_cons_self)).2

/-- a walk over board squares is mirrored square by square: every step taken lands on the target or on
    the next square of the walk, so `dir_mirror` applies to it -/
theorem walkList_mirror {d t : Nat} (hd : d ∈ allDirs) (ht : t ∈ sq88) : ∀ (fuel sq : Nat) (l : List Nat),
    walkList d t fuel sq = some l → (∀ s ∈ l, s ∈ sq88) →
    walkList (mirDir d) (mirrorSq t) fuel (mirrorSq sq) = some (l.map mirrorSq) := by
  intro fuel
  induction fuel with
  | zero => intro sq l h; simp [walkList] at h
  | succ n ih =>
    intro sq l h hl
    simp only [walkList, beq_iff_eq, mirrorSq_inj] at h ⊢
    by_cases hsd : sq = t
    · rw [if_pos hsd] at h ⊢
      cases h; rfl
    · rw [if_neg hsd] at h ⊢
      obtain ⟨l', hl', rfl⟩ := Option.map_eq_some_iff.1 h
      have hl'88 : ∀ s ∈ l', s ∈ sq88 := fun s hs => hl s (List.mem_cons_of_mem _ hs)
      rw [(dir_mirror (hl sq List.mem_cons_self) hd).2 (walkList_start ht hl' hl'88), ih _ _ hl' hl'88]
      rfl

theorem walk_mirror {a t : Nat} (ha : a ∈ sq88) (ht : t ∈ sq88) (h60 : attackAt a t &&& 60 ≠ 0) :
    ∃ l, walkList (dirAt a t) t 8 (addb a (dirAt a t)) = some l ∧ (∀ s ∈ l, s < 128) ∧
      walkList (dirAt (mirrorSq a) (mirrorSq t)) (mirrorSq t) 8
        (addb (mirrorSq a) (dirAt (mirrorSq a) (mirrorSq t))) = some (l.map mirrorSq) := by
  have ⟨hq, (hd : dirAt a t ∈ allDirs)⟩ := (tabEntry_fin _ (tabEntry_mem (idxN_lt ha ht))).2.2.2 h60
  obtain ⟨l, hl, hl88, _⟩ := walk_of_line ha ht ((pair_bits ha ht).2.2.2.2.2.2 ▸ hq)
  refine ⟨l, hl, fun s hs => (mem_sq88.1 (hl88 s hs)).1, ?_⟩
  rw [(attack_mirror ha ht).2.2.2, (dir_mirror ha hd).2 (walkList_start ht hl hl88)]
  exact walkList_mirror hd ht _ _ _ hl hl88

end Magog.Mir
