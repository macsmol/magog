import Magog.Lemmas.MirrorInv
import Magog.Lemmas.WitnessRuns

/-! Concrete positions for the non-vacuity examples of C15 (everything about them is checked by
    kernel evaluation). -/

namespace Magog.Mir
open Magog Magog.Model Magog.Count Magog.Geo Magog.Atk

/-- a simple integer blend (the driver uses the `float64` one; the theorems hold for every blend) -/
def c15Blend : Blend := fun msum mid endg => mid + 2 * endg + (msum : Int)

/-- an asymmetric position: White Ke1, Ra1, Pa7, Pc2 (may castle queenside); black Kh6, Rb8, Nf6, Pg7;
    White to move -/
def c15Witness : Position :=
  { board := ((((((((Array.replicate 128 0).setIfInBounds Gen.E1 Gen.WKing).setIfInBounds Gen.H6 Gen.BKing).setIfInBounds
      Gen.A7 Gen.WPawn).setIfInBounds Gen.B8 Gen.BRook).setIfInBounds Gen.A1 Gen.WRook).setIfInBounds
      Gen.C2 Gen.WPawn).setIfInBounds Gen.F6 Gen.BKnight).setIfInBounds Gen.G7 Gen.BPawn,
    blackPieces := [Gen.B8, Gen.F6], whitePieces := [Gen.A1], blackPawns := [Gen.G7],
    whitePawns := [Gen.A7, Gen.C2],
    blackKing := Gen.H6, whiteKing := Gen.E1, flags := Gen.FlagWhiteTurn ||| Gen.FlagWhiteCanCastleQside,
    ep := InvalidSq, ply := 0 }

/-- `MirrorOk`, but with a white pawn on the eighth rank: `countMoves` reads `board[0x81]` and panics;
    in the mirror image the black pawn on the first rank makes it read `board[0xF1]` -/
def c15BackPawn : Position :=
  { board := (((Array.replicate 128 0).setIfInBounds Gen.E1 Gen.WKing).setIfInBounds Gen.H6 Gen.BKing).setIfInBounds
      Gen.A8 Gen.WPawn,
    blackPieces := [], whitePieces := [], blackPawns := [], whitePawns := [Gen.A8],
    blackKing := Gen.H6, whiteKing := Gen.E1, flags := Gen.FlagWhiteTurn, ep := InvalidSq, ply := 0 }

/-- White Ke1; black Ke8, Pd2; White to move. The "move" a3–e8 from an EMPTY square (not `MoveOk`) wipes
    the black king's slot; `isUnderCheck` then selects the white pawn-attack flag on both sides of the
    mirror, and the verdicts differ: `MoveOk` cannot be dropped from `makeMove_mirror`. -/
def c15NoOwn : Position :=
  { board := (((Array.replicate 128 0).setIfInBounds Gen.E1 Gen.WKing).setIfInBounds Gen.E8 Gen.BKing).setIfInBounds
      Gen.D2 Gen.BPawn,
    blackPieces := [], whitePieces := [], blackPawns := [Gen.D2], whitePawns := [],
    blackKing := Gen.E8, whiteKing := Gen.E1, flags := Gen.FlagWhiteTurn, ep := InvalidSq, ply := 0 }

def errVal {α} (x : M α) : Option Panic :=
  match x with
  | .ok _ => none
  | .error e => some e

theorem errVal_eq {α} {x : M α} {e : Panic} (h : errVal x = some e) : x = .error e := by
  cases x with
  | ok a => cases h
  | error e' => cases h; rfl

theorem c15Witness_ok : MirrorOk c15Witness := mirrorOk_of_B (by decide +kernel)
theorem c15BackPawn_ok : MirrorOk c15BackPawn := mirrorOk_of_B (by decide +kernel)

/-- The runs on `c15Witness` and its mirror image, evaluated together: `evaluate` and `lazyEvaluate` call the two
    counters, so within one evaluation the kernel runs each counter once per position. -/
theorem c15Witness_runs :
    okVal (evaluate c15Blend c15Witness 3) = some (-190) ∧
    okVal (evaluate c15Blend (mirror c15Witness) 3) = some (-190) ∧
    (okVal (countMoves c15Witness) = some 24 ∧
      okVal (countMoves (mirror c15Witness)) = some 24 ∧ okVal (countMoves (flipTurn c15Witness)) = some 28) ∧
    (okVal (lazyEvaluate c15Blend c15Witness 3 400 500) = some (-170) ∧
      okVal (lazyEvaluate c15Blend (mirror c15Witness) 3 400 500) = some (-170)) := by
  decide +kernel

theorem c15Witness_eval : okVal (evaluate c15Blend c15Witness 3) = some (-190) := c15Witness_runs.1

theorem c15Witness_eval_mirror : okVal (evaluate c15Blend (mirror c15Witness) 3) = some (-190) :=
  c15Witness_runs.2.1

theorem c15Witness_counts : okVal (countMoves c15Witness) = some 24 ∧
    okVal (countMoves (mirror c15Witness)) = some 24 ∧ okVal (countMoves (flipTurn c15Witness)) = some 28 :=
  c15Witness_runs.2.2.1

theorem c15Witness_lazy : okVal (lazyEvaluate c15Blend c15Witness 3 400 500) = some (-170) ∧
    okVal (lazyEvaluate c15Blend (mirror c15Witness) 3 400 500) = some (-170) := c15Witness_runs.2.2.2

theorem c15BackPawn_err : errVal (evaluate c15Blend c15BackPawn 3) = some (.index "board" 129) := by
  decide +kernel

set_option maxRecDepth 100000 in
theorem c15BackPawn_err_mirror :
    errVal (evaluate c15Blend (mirror c15BackPawn) 3) = some (.index "board" 241) := by
  decide +kernel

set_option maxRecDepth 100000 in
theorem c15NoOwn_fact : mirrorOkB c15NoOwn = true ∧
    (okVal (makeMove c15NoOwn ⟨Gen.A3, Gen.E8, 0, InvalidSq⟩)).map (·.2) = some true ∧
    (okVal (makeMove (mirror c15NoOwn) (mirrorMove ⟨Gen.A3, Gen.E8, 0, InvalidSq⟩))).map (·.2) = some false := by
  decide +kernel

theorem mirror_startPosition : mirror startPosition = flipTurn startPosition := by
  rw [startPosition_eq]; decide +kernel

theorem mirror_start : (mirror startPosition).whitePieces = startPosition.whitePieces ∧
    (mirror startPosition).blackPawns = startPosition.blackPawns ∧
    (mirror startPosition).board = startPosition.board ∧
    whiteTurn (mirror startPosition) = false ∧ (mirror startPosition).flags = 30 := by
  rw [mirror_startPosition]
  refine ⟨rfl, rfl, rfl, ?_, ?_⟩ <;> rw [startPosition_eq] <;> decide

end Magog.Mir

namespace Magog.Witness
open Magog Magog.Model Magog.Count

/-- the opponent's mobility at the start, as `lazyEvaluate` asks for it: White's, by colour symmetry -/
theorem start_flip_countMoves : countMoves (flipTurn startPosition) = .ok 20 :=
  okVal_eq_some (by
    rw [← Mir.mirror_startPosition, Mir.countMoves_okVal_mirror (Mir.MirrorOk.of_inv inv_startPosition),
      start_countMoves]; rfl)

end Magog.Witness
