import Magog.Lemmas.UciTotal
import Magog.Lemmas.FenWriteText

/-! String-level facts about `doPosition` (the Go library functions `strings.Index`, `TrimSpace`, `Split` on
    a command of the shape `<head> moves m1 m2 … mk`): the command is cut at the word `moves`, the head goes
    to `parsePosition`, the move strings come back one by one. Used by C07 and, for rendered `go` lines, by
    `GoForms` (whose namespace is `UciFrame`). -/

namespace Magog.PosCmd
open Magog Magog.Model

def CleanByte (c : Nat) : Prop := c < 128 ∧ asciiSpace c = false

theorem cleanByte_of_range {c : Nat} (h1 : 32 < c) (h2 : c < 128) : CleanByte c := by
  refine ⟨h2, ?_⟩
  have : c ≠ 9 ∧ c ≠ 10 ∧ c ≠ 11 ∧ c ≠ 12 ∧ c ≠ 13 ∧ c ≠ 32 := by omega
  simp [asciiSpace, this]

def HighHeads (seqs : List Bytes) : Prop := ∀ q ∈ seqs, 128 ≤ q.headD 0

theorem highHeads_uni : HighHeads uniSpaceSeqs := by unfold HighHeads; decide
theorem highHeads_rev : HighHeads (uniSpaceSeqs.map List.reverse) := by unfold HighHeads; decide

theorem spaceLen_clean {seqs : List Bytes} (hh : HighHeads seqs) {c : Nat} (r : Bytes) (hc : CleanByte c) :
    spaceLen seqs (c :: r) = 0 := by
  unfold spaceLen
  simp only [hc.2, Bool.false_eq_true, if_false]
  have : seqs.find? (fun q => q.isPrefixOf (c :: r)) = none := by
    rw [List.find?_eq_none]
    intro q hq
    have hge := hh q hq
    have := hc.1
    match q, hge with
    | h :: t, hge =>
      have : (h == c) = false := by
        rw [beq_eq_false_iff_ne]; have : 128 ≤ h := hge; omega
      simp [List.isPrefixOf, this]
  rw [this]

theorem trimFront_clean {seqs : List Bytes} (hh : HighHeads seqs) (fuel : Nat) {c : Nat} (r : Bytes) (hc : CleanByte c) :
    trimFront seqs fuel (c :: r) = c :: r := by
  cases fuel with
  | zero => rfl
  | succ n => simp [trimFront, spaceLen_clean hh r hc]

theorem trimFront_sp (seqs : List Bytes) (fuel : Nat) (r : Bytes) :
    trimFront seqs (fuel + 1) (32 :: r) = trimFront seqs fuel r := by
  have : spaceLen seqs (32 :: r) = 1 := by simp [spaceLen, asciiSpace]
  simp [trimFront, this]

theorem trimLeft_clean {c : Nat} (r : Bytes) (hc : CleanByte c) : trimLeft (c :: r) = c :: r :=
  trimFront_clean highHeads_uni _ r hc

theorem trimLeft_sp (s : Bytes) : trimLeft (32 :: s) = trimLeft s := by
  unfold trimLeft
  exact trimFront_sp _ _ _

theorem trimRight_clean (l : Bytes) {d : Nat} (hd : CleanByte d) : trimRight (l ++ [d]) = l ++ [d] := by
  unfold trimRight
  rw [List.reverse_append, List.reverse_singleton, List.singleton_append, trimFront_clean highHeads_rev _ _ hd]
  simp

theorem trimRight_sp (s : Bytes) : trimRight (s ++ [32]) = trimRight s := by
  unfold trimRight
  rw [List.reverse_append, List.reverse_singleton, List.singleton_append, List.length_append, List.length_singleton,
    trimFront_sp]

def Ends (s : Bytes) : Prop := (∃ c r, s = c :: r ∧ CleanByte c) ∧ (∃ l d, s = l ++ [d] ∧ CleanByte d)

def endsB (s : Bytes) : Bool :=
  match s.head?, s.getLast? with
  | some c, some d => decide (c < 128) && !asciiSpace c && decide (d < 128) && !asciiSpace d
  | _, _ => false

theorem ends_of_B {s : Bytes} (h : endsB s = true) : Ends s := by
  unfold endsB at h
  split at h
  · rename_i c d hc hd
    simp only [Bool.and_eq_true, decide_eq_true_eq, Bool.not_eq_true'] at h
    obtain ⟨⟨⟨h1, h2⟩, h3⟩, h4⟩ := h
    constructor
    · match s, hc with
      | x :: r, hc =>
        simp only [List.head?_cons, Option.some.injEq] at hc
        subst hc
        exact ⟨x, r, rfl, h1, h2⟩
    · have hne : s ≠ [] := by intro e; subst e; simp at hd
      rw [List.getLast?_eq_some_getLast hne, Option.some.injEq] at hd
      exact ⟨s.dropLast, d, by rw [← hd, List.dropLast_concat_getLast hne], h3, h4⟩
  · cases h

theorem Ends.trim {s : Bytes} (h : Ends s) : trimSpace s = s := by
  obtain ⟨⟨c, r, h1, hc⟩, ⟨l, d, h2, hd⟩⟩ := h
  unfold trimSpace
  rw [h1, trimLeft_clean r hc, ← h1, h2, trimRight_clean l hd]

theorem Ends.trim_sp_left {s : Bytes} (h : Ends s) : trimSpace (32 :: s) = s := by
  have := h.trim
  unfold trimSpace at this ⊢
  rw [trimLeft_sp, this]

theorem Ends.trim_sp_right {s : Bytes} (h : Ends s) : trimSpace (s ++ [32]) = s := by
  obtain ⟨⟨c, r, h1, hc⟩, ⟨l, d, h2, hd⟩⟩ := h
  unfold trimSpace
  rw [h1, List.cons_append, trimLeft_clean _ hc, ← List.cons_append, ← h1, trimRight_sp, h2, trimRight_clean l hd]

theorem Ends.append {a b : Bytes} (x : Bytes) (ha : Ends a) (hb : Ends b) : Ends (a ++ x ++ b) := by
  obtain ⟨⟨c, r, h1, hc⟩, _⟩ := ha
  obtain ⟨_, ⟨l, d, h2, hd⟩⟩ := hb
  refine ⟨⟨c, r ++ x ++ b, by rw [h1]; simp, hc⟩, ⟨a ++ x ++ l, d, by rw [h2]; simp, hd⟩⟩

theorem indexOf_skip {h : Nat} {t : Bytes} : ∀ (l rest : Bytes), h ∉ l →
    indexOf (h :: t) (l ++ rest) = (indexOf (h :: t) rest).map (· + l.length)
  | [], rest, _ => by simp
  | c :: l, rest, hn => by
    have hc : (h == c) = false := by
      rw [beq_eq_false_iff_ne]; intro e; exact hn (e ▸ List.mem_cons_self)
    have ih := indexOf_skip (h := h) (t := t) l rest (fun hm => hn (List.mem_cons_of_mem _ hm))
    rw [List.cons_append, indexOf]
    simp only [List.isPrefixOf, hc, Bool.false_and, Bool.false_eq_true, if_false, ih, Option.map_map]
    cases indexOf (h :: t) rest with
    | none => rfl
    | some v => simp only [Option.map_some, Function.comp, List.length_cons, Option.some.injEq]; omega

theorem isPrefixOf_append (a b : Bytes) : a.isPrefixOf (a ++ b) = true :=
  List.isPrefixOf_iff_prefix.2 (List.prefix_append a b)

theorem trimPrefix_append (a b : Bytes) : trimPrefix (a ++ b) a = b := by
  unfold trimPrefix
  rw [show hasPrefix (a ++ b) a = true from isPrefixOf_append a b, if_pos rfl, List.drop_left]

theorem indexOf_here (h : Nat) (t rest : Bytes) : indexOf (h :: t) ((h :: t) ++ rest) = some 0 := by
  rw [List.cons_append, indexOf, ← List.cons_append, isPrefixOf_append]
  rfl

/-- `strings.Join(ts, " ")` -/
def joinSp : List Bytes → Bytes
  | [] => []
  | [t] => t
  | t :: t' :: ts => t ++ 32 :: joinSp (t' :: ts)

theorem joinSp_eq : ∀ ts : List Bytes, joinSp ts = Spec.joinBytes 32 ts
  | [] => rfl
  | [_] => rfl
  | t :: t' :: ts => congrArg (t ++ 32 :: ·) (joinSp_eq (t' :: ts))

theorem splitOn_joinSp (ts : List Bytes) (hne : ts ≠ []) (hc : ∀ t ∈ ts, 32 ∉ t) : splitOn 32 (joinSp ts) = ts :=
  joinSp_eq ts ▸ FenWrite.splitOn_join 32 ts hne hc

def Word (t : Bytes) : Prop := t ≠ [] ∧ ∀ c ∈ t, CleanByte c

theorem word_of_clean {t : Bytes} (hne : t ≠ []) (h : t.all (fun c => decide (c < 128) && !asciiSpace c) = true) :
    Word t := by
  refine ⟨hne, fun c hc => ?_⟩
  have := List.all_eq_true.1 h c hc
  simpa [CleanByte] using this

theorem Word.no_sp {t : Bytes} (h : Word t) : 32 ∉ t := fun hm => absurd (h.2 32 hm).2 (by decide)

theorem Word.ends {t : Bytes} (h : Word t) : Ends t := by
  obtain ⟨hne, hc⟩ := h
  constructor
  · match t, hne with
    | c :: r, _ => exact ⟨c, r, rfl, hc c List.mem_cons_self⟩
  · refine ⟨t.dropLast, t.getLast hne, (List.dropLast_concat_getLast hne).symm, hc _ (List.getLast_mem hne)⟩

theorem joinSp_ends : ∀ (ts : List Bytes), ts ≠ [] → (∀ t ∈ ts, Word t) → Ends (joinSp ts)
  | [], h, _ => absurd rfl h
  | [t], _, hw => (hw t List.mem_cons_self).ends
  | t :: t' :: ts, _, hw => by
    have h1 := (hw t List.mem_cons_self).ends
    have h2 := joinSp_ends (t' :: ts) (by simp) (fun x hx => hw x (List.mem_cons_of_mem _ hx))
    have := Ends.append [32] h1 h2
    rw [joinSp]
    simpa using this

def posCmd (head : Bytes) (texts : List Bytes) : Bytes :=
  (head ++ [32]) ++ (Gen.uMoves_bytes ++ (32 :: joinSp texts))

/-- the input line `position startpos moves t1 … tk` -/
def startposLine (texts : List Bytes) : Bytes :=
  Gen.uPosition_bytes ++ 32 :: posCmd Gen.uStartpos_bytes texts

/-- the input line `position fen <f> moves t1 … tk` -/
def fenLine (f : Bytes) (texts : List Bytes) : Bytes :=
  Gen.uPosition_bytes ++ 32 :: posCmd (Gen.uFen_bytes ++ 32 :: f) texts

theorem positionHead_moves {ops : EngineOps} (hts : ops.str.trimSpace = trimSpace) (st : UciState)
    (head : Bytes) (texts : List Bytes) (hm : 109 ∉ head) (hends : Ends head) (hne : texts ≠ [])
    (hw : ∀ t ∈ texts, Word t) :
    positionHead ops st (posCmd head texts) = (do
      let r ← parsePosition ops st head
      match r.2 with
      | some e => pure (.rejected r.1 e)
      | none => pure (.moves r.1 texts)) := by
  -- 109 is `m`: `strings.Index` cannot find the word `moves` inside `head`
  have hidx : indexOf Gen.uMoves_bytes (posCmd head texts) = some (head.length + 1) := by
    unfold posCmd
    simp only [Gen.uMoves_bytes]
    rw [indexOf_skip (head ++ [32]) _ (by simp [hm]), indexOf_here]
    simp
  have hlen : head.length + 1 ≤ (posCmd head texts).length := by
    unfold posCmd; simp only [List.length_append, List.length_cons, List.length_nil]; omega
  have hlen2 : head.length + 1 + Gen.uMoves_bytes.length ≤ (posCmd head texts).length := by
    unfold posCmd; simp only [List.length_append, List.length_cons, List.length_nil]; omega
  have htake : (posCmd head texts).take (head.length + 1) = head ++ [32] := by
    unfold posCmd
    rw [List.take_append_of_le_length (by simp), List.take_of_length_le (by simp)]
  have hdrop : (posCmd head texts).drop (head.length + 1 + Gen.uMoves_bytes.length) = 32 :: joinSp texts := by
    unfold posCmd
    rw [← List.append_assoc]
    rw [List.drop_append_of_le_length (by simp only [List.length_append, List.length_cons, List.length_nil]; omega),
      List.drop_of_length_le (by simp only [List.length_append, List.length_cons, List.length_nil]; omega)]
    rfl
  have hbody := joinSp_ends texts hne hw
  unfold positionHead
  simp only [hidx, sliceTo, hlen, if_true, sliceFrom, hlen2, htake, hdrop, hts, hends.trim_sp_right,
    hbody.trim_sp_left, splitOn_joinSp texts hne (fun t ht => (hw t ht).no_sp), pure_bind]
  cases parsePosition ops st head with
  | error e => rfl
  | ok r => obtain ⟨a, _ | e⟩ := r <;> rfl

theorem doPosition_moves {ops : EngineOps} (hts : ops.str.trimSpace = trimSpace) (st : UciState)
    (head : Bytes) (texts : List Bytes) (hm : 109 ∉ head) (hends : Ends head) (hne : texts ≠ [])
    (hw : ∀ t ∈ texts, Word t) :
    doPosition ops st (posCmd head texts) = (do
      let r ← parsePosition ops st head
      match r.2 with
      | some e => pure (r.1, [.invalidFen e])
      | none => applyMoves ops r.1 texts) := by
  unfold doPosition
  rw [positionHead_moves hts st head texts hm hends hne hw]
  cases parsePosition ops st head with
  | error e => rfl
  | ok r => obtain ⟨a, _ | e⟩ := r <;> rfl

theorem parsePosition_startpos (ops : EngineOps) (st : UciState) :
    parsePosition ops st Gen.uStartpos_bytes = .ok ({ st with pos := some ops.startPos }, none) := by
  unfold parsePosition
  rw [if_pos (by decide)]
  rfl

theorem parsePosition_fen {ops : EngineOps} (hts : ops.str.trimSpace = trimSpace) (st : UciState) (f : Bytes)
    (hends : Ends f) :
    parsePosition ops st (Gen.uFen_bytes ++ 32 :: f) = (do
      match (← parseFen f) with
      | .error e => pure (st, some e)
      | .ok p => pure ({ st with pos := some p }, none)) := by
  have h1 : hasPrefix (Gen.uFen_bytes ++ 32 :: f) Gen.uStartpos_bytes = false := by
    simp [hasPrefix, Gen.uFen_bytes, Gen.uStartpos_bytes, List.isPrefixOf]
  have h2 : hasPrefix (Gen.uFen_bytes ++ 32 :: f) (Gen.uFen_bytes ++ [32]) = true := by
    have : Gen.uFen_bytes ++ 32 :: f = (Gen.uFen_bytes ++ [32]) ++ f := by simp
    rw [this]
    exact isPrefixOf_append _ _
  unfold parsePosition
  simp only [h1, h2, trimPrefix_append, Bool.false_eq_true, if_false, if_true, hts, hends.trim_sp_left]
  cases parseFen f with
  | error e => rfl
  | ok r => cases r <;> rfl

theorem word_startpos : Word Gen.uStartpos_bytes := word_of_clean (by decide) (by decide)

theorem ends_fenHead {f : Bytes} (hends : Ends f) : Ends (Gen.uFen_bytes ++ 32 :: f) := by
  have hw : Word Gen.uFen_bytes := word_of_clean (by decide) (by decide)
  have := Ends.append [32] hw.ends hends
  simpa using this

theorem ends_posCmd {head : Bytes} {texts : List Bytes} (hh : Ends head) (hne : texts ≠ [])
    (hw : ∀ t ∈ texts, Word t) : Ends (posCmd head texts) := by
  have := Ends.append (32 :: Gen.uMoves_bytes ++ [32]) hh (joinSp_ends texts hne hw)
  unfold posCmd
  simpa using this

theorem uciStep_position {ops : EngineOps} (hts : ops.str.trimSpace = trimSpace) (st : UciState) (cmd : Bytes)
    (hends : Ends cmd) : uciStep ops st (Gen.uPosition_bytes ++ 32 :: cmd) = doPosition ops st cmd := by
  have hpre : hasPrefix (Gen.uPosition_bytes ++ 32 :: cmd) Gen.uPosition_bytes = true := isPrefixOf_append _ _
  rw [UciTotal.uciStep_position hpre, trimPrefix_append, hts, hends.trim_sp_left]

end Magog.PosCmd
