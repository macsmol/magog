import Magog.Model.Start

/-! Decidable equality of positions, and the start position in normal form.

`startPosition` is computed from the dumped board string, and other witness positions by playing moves or parsing
a FEN. Kernel evaluation of a statement about such a position redoes that computation at every board access. Each
witness position therefore has a lemma `W = ⟨literal⟩`, proved by one evaluation, and evaluations about `W` rewrite
with it first. -/

namespace Magog.Model

/-- componentwise, with the boards compared as lists (`Array`'s own test indexes both arrays at every cell,
    which is quadratic in the kernel) -/
instance : DecidableEq Position := fun a b =>
  decidable_of_iff (a.board.toList = b.board.toList ∧ a.blackPieces = b.blackPieces ∧
      a.whitePieces = b.whitePieces ∧ a.blackPawns = b.blackPawns ∧ a.whitePawns = b.whitePawns ∧
      a.blackKing = b.blackKing ∧ a.whiteKing = b.whiteKing ∧ a.flags = b.flags ∧ a.ep = b.ep ∧ a.ply = b.ply) <| by
    cases a; cases b; simp only [Position.mk.injEq, Array.toList_inj]

theorem startPosition_eq : startPosition =
    { board := #[136, 130, 132, 144, 160, 132, 130, 136, 0, 0, 0, 0, 0, 0, 0, 0, 129, 129, 129, 129, 129, 129,
      129, 129, 0, 0, 0, 0, 0, 0, 0, 0, 0, 0, 0, 0, 0, 0, 0, 0, 0, 0, 0, 0, 0, 0, 0, 0, 0, 0, 0, 0, 0, 0, 0, 0, 0,
      0, 0, 0, 0, 0, 0, 0, 0, 0, 0, 0, 0, 0, 0, 0, 0, 0, 0, 0, 0, 0, 0, 0, 0, 0, 0, 0, 0, 0, 0, 0, 0, 0, 0, 0, 0,
      0, 0, 0, 65, 65, 65, 65, 65, 65, 65, 65, 0, 0, 0, 0, 0, 0, 0, 0, 72, 66, 68, 80, 96, 68, 66, 72, 0, 0, 0, 0,
      0, 0, 0, 0], blackPieces := [112, 113, 114, 115, 117, 118, 119], whitePieces := [0, 1, 2, 3, 5, 6, 7],
      blackPawns := [96, 97, 98, 99, 100, 101, 102, 103], whitePawns := [16, 17, 18, 19, 20, 21, 22, 23],
      blackKing := 116, whiteKing := 4, flags := 31, ep := 136, ply := 0 } := by
  decide +kernel

end Magog.Model
