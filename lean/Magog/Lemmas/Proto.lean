import Magog.Model.Protocol

/-! The repaired stop / isready / go protocol as a transition table: which states it can be in (`fresh`, `live`) and
    what each label does there (`step_fresh`, `step_live`). The theorems of C12 read the table instead of unfolding
    `step` per theorem. -/

namespace Magog.Model.Proto

/-- the shape of the handlers after the `fix:` commit for C12 (`Props.C12.sourceShape_eq`: it is what the source has) -/
def repaired : Shape :=
  { cap := 1, stopNonBlocking := true, stopReadsFlag := false, isreadyAlwaysNew := false, goDrains := true }

/-- no `Search` object yet -/
def fresh (r b g : Nat) : State := ⟨[], 0, none, .idle, r, b, g⟩

/-- one `Search` object with `c` queued tokens and flag `fl`, the global points to it, the command thread is idle,
    the search thread (if any) runs on it -/
def live (c : Nat) (fl : Bool) (thr : Option Phase) (r b g : Nat) : State :=
  ⟨[⟨c, fl⟩], 1, thr.map (⟨1, ·⟩), .idle, r, b, g⟩

theorem step_fresh (r b g : Nat) (l : Label) :
    step repaired (fresh r b g) l =
      match l with
      | .isready => some (live 0 true none (r + 1) b g)
      | .stop => some (fresh r b g)
      | .go => some (live 0 true (some .spawned) r b (g + 1))
      | _ => none := by
  cases l <;> rfl

/-- With at most one token queued: `stop` leaves exactly one, `go` (only without a live thread) drains the channel,
    the poll takes the token and sets the flag, and nothing else touches the object. -/
theorem step_live {c : Nat} (hc : c ≤ 1) (fl : Bool) (thr : Option Phase) (r b g : Nat) (l : Label) :
    step repaired (live c fl thr r b g) l =
      match l, thr with
      | .isready, _ => some (live c fl thr (r + 1) b g)
      | .stop, _ => some (live 1 fl thr r b g)
      | .go, none => some (live 0 fl (some .spawned) r b (g + 1))
      | .go, some .done => some (live 0 fl (some .spawned) r b (g + 1))
      | .tStart, some .spawned => some (live c false (some .running) r b g)
      | .tPoll, some .running => if fl then none else some (live 0 (decide (c = 1)) (some .running) r b g)
      | .tLeave, some .running => some (live c fl (some .finishing) r b g)
      | .tPrint, some .finishing => some (live c fl (some .done) r (b + 1) g)
      | _, _ => none := by
  have hc' : c = 0 ∨ c = 1 := by omega
  rcases hc' with rfl | rfl <;> cases l <;> cases thr <;> (try rename_i ph; cases ph) <;> cases fl <;> rfl

end Magog.Model.Proto
