import Magog.Lemmas.GenGeometry
import Magog.Spec.Pseudo

/-! `Spec.pseudo'` (and `Spec.isTactical`, `Spec.apply` in `apply_some`, the en-passant target after a move)
    unfolded per kind of the moving man, in the vocabulary of the generator geometry (`pushRel`, `capRel`, …).
    Statements and proofs speak of `Spec` only; `GenGeometry` is imported for these relations, which it defines. -/

namespace Magog.PseudoSpec
open Magog Magog.GenGeoO

def tgtOk (P : Spec.Pos) (t : Nat) : Bool :=
  match P.at t with
  | some m => m.color != P.turn
  | none => true

/-- the common part of `Spec.pseudo` -/
def common (P : Spec.Pos) (man : Spec.Man) (m : Spec.Move) : Bool :=
  man.color == P.turn && decide (m.frm < 64) && decide (m.to < 64) && tgtOk P m.to

theorem pseudo_origin {P : Spec.Pos} {m : Spec.Move} (h : Spec.pseudo P m = true) :
    ∃ man, P.at m.frm = some man ∧ man.color = P.turn ∧ m.frm < 64 := by
  unfold Spec.pseudo at h
  cases hat : P.at m.frm with
  | none => simp [hat] at h
  | some man =>
    simp only [hat, Bool.and_eq_true, decide_eq_true_eq, beq_iff_eq] at h
    exact ⟨man, rfl, h.1.1.1.1, h.1.1.1.2⟩

theorem pseudo'_officer {P : Spec.Pos} {m : Spec.Move} {man : Spec.Man} (hat : P.at m.frm = some man)
    (hp : man.kind ≠ .pawn) (hk : man.kind ≠ .king) :
    Spec.pseudo' P m = (common P man m && (m.promo == none && Spec.manAttacks P.board man m.frm m.to)) := by
  obtain ⟨col, kind⟩ := man
  cases kind <;> first
    | exact absurd rfl hp
    | exact absurd rfl hk
    | (simp only [Spec.pseudo', Spec.pseudo, Spec.kingStepAttacked, hat, common, tgtOk, Bool.not_false,
        Bool.and_true]; rfl)

def castleKClause (P : Spec.Pos) (m : Spec.Move) : Bool :=
  let c := P.turn
  Spec.canCastleK P && m.frm == Spec.mkSq 4 (Spec.homeRank c) && m.to == Spec.mkSq 6 (Spec.homeRank c) &&
    P.at (Spec.mkSq 7 (Spec.homeRank c)) == some ⟨c, .rook⟩ &&
    (P.at (Spec.mkSq 5 (Spec.homeRank c))).isNone && (P.at (Spec.mkSq 6 (Spec.homeRank c))).isNone &&
    !Spec.attacked P.board c.other (Spec.mkSq 4 (Spec.homeRank c)) &&
    !Spec.attacked P.board c.other (Spec.mkSq 5 (Spec.homeRank c)) &&
    !Spec.attacked P.board c.other (Spec.mkSq 6 (Spec.homeRank c))

def castleQClause (P : Spec.Pos) (m : Spec.Move) : Bool :=
  let c := P.turn
  Spec.canCastleQ P && m.frm == Spec.mkSq 4 (Spec.homeRank c) && m.to == Spec.mkSq 2 (Spec.homeRank c) &&
    P.at (Spec.mkSq 0 (Spec.homeRank c)) == some ⟨c, .rook⟩ &&
    (P.at (Spec.mkSq 3 (Spec.homeRank c))).isNone && (P.at (Spec.mkSq 2 (Spec.homeRank c))).isNone &&
    (P.at (Spec.mkSq 1 (Spec.homeRank c))).isNone &&
    !Spec.attacked P.board c.other (Spec.mkSq 4 (Spec.homeRank c)) &&
    !Spec.attacked P.board c.other (Spec.mkSq 3 (Spec.homeRank c)) &&
    !Spec.attacked P.board c.other (Spec.mkSq 2 (Spec.homeRank c))

theorem pseudo'_king {P : Spec.Pos} {m : Spec.Move} {col : Spec.Color} (hat : P.at m.frm = some ⟨col, .king⟩) :
    Spec.pseudo' P m = (common P ⟨col, .king⟩ m &&
      (m.promo == none && (Spec.manAttacks P.board ⟨col, .king⟩ m.frm m.to || castleKClause P m || castleQClause P m)) &&
      !(!(Spec.adiff (Spec.fileOf m.frm) (Spec.fileOf m.to) == 2) && Spec.attacked P.board P.turn.other m.to)) := by
  simp only [Spec.pseudo', Spec.pseudo, Spec.kingStepAttacked, Spec.isCastle, hat, common, tgtOk, castleKClause,
    castleQClause]
  rfl

theorem king_near {a b : Nat} (h : Spec.manAttacks Geo.emptyBoard ⟨.white, .king⟩ a b = true) :
    (Spec.adiff (Spec.fileOf a) (Spec.fileOf b) == 2) = false := by
  simp only [Spec.manAttacks, Bool.and_eq_true, decide_eq_true_eq] at h
  have := h.1.1
  simp only [beq_eq_false_iff_ne, ne_eq]
  omega

theorem pseudo'_plain {P : Spec.Pos} {m : Spec.Move} {man : Spec.Man} (hat : P.at m.frm = some man)
    (hp : man.kind ≠ .pawn) (h : Spec.pseudo' P m = true) : m.promo = none ∧ m.to < 64 := by
  obtain ⟨col, kind⟩ := man
  by_cases hk : kind = .king
  · subst hk
    rw [pseudo'_king hat] at h
    simp only [common, Bool.and_eq_true, decide_eq_true_eq, beq_iff_eq] at h
    exact ⟨h.1.2.1, h.1.1.1.2⟩
  · rw [pseudo'_officer hat hp hk] at h
    simp only [common, Bool.and_eq_true, decide_eq_true_eq, beq_iff_eq] at h
    exact ⟨h.2.1, h.1.1.2⟩

def promoOkB (c : Spec.Color) (m : Spec.Move) : Bool :=
  if Spec.rankOf m.to == Spec.promoRank c then
    (m.promo == some .queen || m.promo == some .rook || m.promo == some .bishop || m.promo == some .knight)
  else m.promo == none

theorem pseudo'_pawn {P : Spec.Pos} {m : Spec.Move} {col : Spec.Color} (hat : P.at m.frm = some ⟨col, .pawn⟩) :
    Spec.pseudo' P m = (common P ⟨col, .pawn⟩ m &&
      (promoOkB P.turn m && Spec.rankOf m.frm != Spec.promoRank P.turn &&
        (pushRel P.turn m.frm m.to && (P.at m.to).isNone ||
         dblRel P.turn m.frm m.to && (P.at m.to).isNone &&
           (P.at (Spec.mkSq (Spec.fileOf m.frm) (Spec.fwd P.turn (Spec.rankOf m.frm)))).isNone ||
         capRel P.turn m.frm m.to && (P.at m.to).isSome ||
         capRel P.turn m.frm m.to && (P.at m.to).isNone && P.ep == some m.to))) := by
  simp only [Spec.pseudo', Spec.pseudo, Spec.kingStepAttacked, hat, common, tgtOk, promoOkB, pushRel, dblRel, capRel,
    Bool.not_false, Bool.and_true]
  rfl

theorem isTactical_pawn {P : Spec.Pos} {m : Spec.Move} {col : Spec.Color} (hat : P.at m.frm = some ⟨col, .pawn⟩) :
    Spec.isTactical P m = ((P.at m.to).isSome ||
      (Spec.fileOf m.frm != Spec.fileOf m.to && (P.at m.to).isNone) || m.promo.isSome) := by
  simp only [Spec.isTactical, Spec.isCapture, Spec.isEnPassant, hat]

theorem isTactical_nonpawn {P : Spec.Pos} {m : Spec.Move} {man : Spec.Man} (hat : P.at m.frm = some man)
    (hp : man.kind ≠ .pawn) : Spec.isTactical P m = ((P.at m.to).isSome || m.promo.isSome) := by
  obtain ⟨col, kind⟩ := man
  cases kind <;> first
    | exact absurd rfl hp
    | simp only [Spec.isTactical, Spec.isCapture, Spec.isEnPassant, hat, Bool.or_false]

theorem apply_some {P : Spec.Pos} {m : Spec.Move} {man : Spec.Man} (hat : P.at m.frm = some man) :
    Spec.apply P m =
      { board :=
          let placed : Spec.Man := match m.promo with | some k => ⟨P.turn, k⟩ | none => man
          let b1 := (P.board.setIfInBounds m.frm none).setIfInBounds m.to (some placed)
          let b2 := if Spec.isEnPassant P m then
            b1.setIfInBounds (Spec.mkSq (Spec.fileOf m.to) (Spec.rankOf m.frm)) none else b1
          if Spec.isCastle P m then
            if Spec.fileOf m.to == 6 then
              (b2.setIfInBounds (Spec.mkSq 7 (Spec.rankOf m.frm)) none).setIfInBounds
                (Spec.mkSq 5 (Spec.rankOf m.frm)) (some ⟨P.turn, .rook⟩)
            else
              (b2.setIfInBounds (Spec.mkSq 0 (Spec.rankOf m.frm)) none).setIfInBounds
                (Spec.mkSq 3 (Spec.rankOf m.frm)) (some ⟨P.turn, .rook⟩)
          else b2
        turn := P.turn.other
        wk := P.wk && !(m.frm == 4 || m.to == 4) && !(m.frm == 7 || m.to == 7)
        wq := P.wq && !(m.frm == 4 || m.to == 4) && !(m.frm == 0 || m.to == 0)
        bk := P.bk && !(m.frm == 60 || m.to == 60) && !(m.frm == 63 || m.to == 63)
        bq := P.bq && !(m.frm == 60 || m.to == 60) && !(m.frm == 56 || m.to == 56)
        ep := if man.kind == .pawn && Spec.adiff (Spec.rankOf m.frm) (Spec.rankOf m.to) == 2
          then some (Spec.mkSq (Spec.fileOf m.frm) ((Spec.rankOf m.frm + Spec.rankOf m.to) / 2)) else none } := by
  unfold Spec.apply
  simp only [hat]
  rfl

theorem apply_ep {P : Spec.Pos} {m : Spec.Move} {man : Spec.Man} (hat : P.at m.frm = some man) :
    (Spec.apply P m).ep = (if man.kind == .pawn && Spec.adiff (Spec.rankOf m.frm) (Spec.rankOf m.to) == 2
      then some (Spec.mkSq (Spec.fileOf m.frm) ((Spec.rankOf m.frm + Spec.rankOf m.to) / 2)) else none) := by
  rw [apply_some hat]

theorem fwd_adiff (c : Spec.Color) (r : Nat) : Spec.adiff r (Spec.fwd c r) ≠ 2 := by
  have key : ∀ a b : Nat, (b = a + 1 ∨ a = b + 1 ∨ a = b) → Spec.adiff a b ≠ 2 := by
    intro a b h
    unfold Spec.adiff
    split <;> omega
  apply key
  cases c
  · exact Or.inl rfl
  · have : Spec.fwd .black r = r - 1 := rfl
    omega

theorem adiff_one_ne {a b : Nat} (h : Spec.adiff a b = 1) : a ≠ b := by
  intro e; subst e; simp [Spec.adiff] at h

-- `false || …` here and `true || …` in `pawn_cap_aux` are the `tac || sm.promo.isSome` of the hypothesis of
-- `GenPseudo.pawnTo_ok` at `tac := false` resp. `true`, left unreduced so that the lemmas fit it as they stand
theorem pawn_push_aux {P : Spec.Pos} {m : Spec.Move} {col c : Spec.Color} (hat : P.at m.frm = some ⟨col, .pawn⟩)
    (hr : pushRel c m.frm m.to = true) (he : (P.at m.to).isNone = true) :
    Spec.isTactical P m = (false || m.promo.isSome) ∧ (Spec.apply P m).ep = none := by
  simp only [pushRel, Bool.and_eq_true, beq_iff_eq] at hr
  refine ⟨?_, ?_⟩
  · rw [isTactical_pawn hat, hr.1]
    cases h : P.at m.to <;> simp [h] at he ⊢
  · rw [apply_ep hat, hr.2]
    simp [fwd_adiff c (Spec.rankOf m.frm)]

theorem pawn_cap_aux {P : Spec.Pos} {m : Spec.Move} {col c : Spec.Color} (hat : P.at m.frm = some ⟨col, .pawn⟩)
    (hr : capRel c m.frm m.to = true) :
    Spec.isTactical P m = (true || m.promo.isSome) ∧ (Spec.apply P m).ep = none := by
  simp only [capRel, Bool.and_eq_true, beq_iff_eq] at hr
  refine ⟨?_, ?_⟩
  · rw [isTactical_pawn hat]
    have hfile : (Spec.fileOf m.frm != Spec.fileOf m.to) = true := by
      rw [bne_iff_ne]; exact (adiff_one_ne hr.1).symm
    cases h : P.at m.to <;> simp [hfile]
  · rw [apply_ep hat, hr.2]
    simp [fwd_adiff c (Spec.rankOf m.frm)]

end Magog.PseudoSpec
