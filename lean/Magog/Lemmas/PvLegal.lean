import Magog.Lemmas.SearchBasic

/-! Principal variations are legal lines (C10): the definitions and hypotheses, and what the search proofs need to
    know about the triangular PV table (shapes, row prefixes, `updateBestLine`).

The table is written "before read": a node at depth `d` only writes rows `≥ d`, and whenever its value lies
strictly inside its window (`α < v < β`, the only case in which its parent copies the row) the prefix of row `d`
it returns was written during this call. The induction that turns this into theorems is in `RowsIndep.lean`. -/

namespace Magog.Model
open Magog


def GenFull (p : Position) (m : Move) : Prop :=
  ∃ kt ms, generateMoves kt p = .ok ms ∧ m ∈ ms.map (·.mov)

def GenTac (p : Position) (m : Move) : Prop :=
  ∃ ms, generateTacticalMoves p = .ok ms ∧ m ∈ ms.map (·.mov)

/-- a line of generated moves (full generator, or the tactical generator inside quiescence), each applied
    successfully by `makeMove` without leaving the own king in check -/
def LegalLine : Position → List Move → Prop
  | _, [] => True
  | p, m :: rest => ∃ q, (GenFull p m ∨ GenTac p m) ∧ makeMove p m = .ok (q, true) ∧ LegalLine q rest

/-- a legal line whose first move comes from the full move generator (lines of the root and of `alphaBeta` nodes) -/
def RootLine : Position → List Move → Prop
  | _, [] => True
  | p, m :: rest => ∃ q, GenFull p m ∧ makeMove p m = .ok (q, true) ∧ LegalLine q rest

theorem RootLine.legal {p : Position} {l : List Move} (h : RootLine p l) : LegalLine p l := by
  cases l with
  | nil => trivial
  | cons m rest =>
    obtain ⟨q, hg, hm, hr⟩ := h
    exact ⟨q, .inl hg, hm, hr⟩

theorem RootLine.head {p : Position} {m : Move} {rest : List Move} (h : RootLine p (m :: rest)) : GenFull p m := by
  obtain ⟨q, hg, _, _⟩ := h
  exact hg


/-- the sort function neither invents moves nor drops all of them (true of every permutation) -/
structure SortSound (env : Env) : Prop where
  mem : ∀ (l : List RMove) (m : RMove), m ∈ env.sortFn l → m ∈ l
  ne : ∀ l : List RMove, l ≠ [] → env.sortFn l ≠ []

/-- `G` is indexed by the distance from the root, `G d` holding of the positions the search can reach at depth `d`,
    and is closed along generated moves that `makeMove` accepts with verdict `true` (`AlphaBeta.Closed` is the
    form without index, over both verdicts). The index is there for the witnesses: `PvWitness.Reach p0 N` is the
    finite list of positions `d` plies from `p0`. On `Total.G` it is not used (`Capstone.G_closed`). -/
def GenClosed (G : Nat → Position → Prop) : Prop :=
  ∀ d p m q, G d p → (GenFull p m ∨ GenTac p m) → makeMove p m = .ok (q, true) → G (d + 1) q

/-- every static or terminal score of a position in `G d`, for a depth `d` at which the table still has a row
    `d + 1` (`d + 1 < D`, `D` = number of rows), lies strictly between `−∞` and `+∞` -/
def EvalFinite (env : Env) (G : Nat → Position → Prop) (D : Nat) : Prop :=
  ∀ (d : Nat) (p : Position), d + 1 < D → G d p → ∀ (a b x : Int),
    (lazyEvaluate env.blend p d a b = .ok x ∨ evaluate env.blend p d = .ok x ∨ terminalNodeScore p d = .ok x) →
    Gen.MinusInfinityScore < x ∧ x < Gen.InfinityScore


/-- as many rows, of the same sizes: whether an access to the table panics depends on nothing else -/
structure SameShape (r r' : Array (Array Move)) : Prop where
  size : r'.size = r.size
  row : ∀ i : Nat, r'[i]?.map Array.size = r[i]?.map Array.size

theorem SameShape.refl (r : Array (Array Move)) : SameShape r r := ⟨rfl, fun _ => rfl⟩

theorem SameShape.symm {r r' : Array (Array Move)} (h : SameShape r r') : SameShape r' r :=
  ⟨h.size.symm, fun i => (h.row i).symm⟩

theorem SameShape.trans {a b c : Array (Array Move)} (h1 : SameShape a b) (h2 : SameShape b c) : SameShape a c :=
  ⟨h2.size.trans h1.size, fun i => (h2.row i).trans (h1.row i)⟩

theorem SameShape.some {r t : Array (Array Move)} (h : SameShape r t) {d : Nat} {row : Array Move}
    (hr : r[d]? = some row) : ∃ row', t[d]? = some row' ∧ row'.size = row.size := by
  have := h.row d
  rw [hr] at this
  cases ht : t[d]? with
  | none => rw [ht] at this; cases this
  | some x => rw [ht] at this; exact ⟨x, rfl, Option.some.inj this⟩

/-- what a piece of the search at depth `d` does to the table: the shape stays, and so does every row of index `< d` -/
structure Frame (d : Nat) (r r' : Array (Array Move)) : Prop extends SameShape r r' where
  below : ∀ j, j < d → r'[j]? = r[j]?

theorem Frame.refl (d : Nat) (r : Array (Array Move)) : Frame d r r := ⟨SameShape.refl r, fun _ _ => rfl⟩

theorem Frame.trans {d : Nat} {a b c : Array (Array Move)} (h1 : Frame d a b) (h2 : Frame d b c) : Frame d a c :=
  ⟨h1.toSameShape.trans h2.toSameShape, fun j hj => (h2.below j hj).trans (h1.below j hj)⟩

theorem Frame.mono {d d' : Nat} {a b : Array (Array Move)} (h : Frame d a b) (hd : d' ≤ d) : Frame d' a b :=
  ⟨h.toSameShape, fun j hj => h.below j (Nat.lt_of_lt_of_le hj hd)⟩

theorem SameShape.after {r rw r' rw' : Array (Array Move)} {d d' : Nat} (h : SameShape r rw) (f : Frame d r r')
    (f' : Frame d' rw rw') : SameShape r' rw' :=
  (f.toSameShape.symm.trans h).trans f'.toSameShape

/-- the length `len` that travels with row `d` (a node's `curLen`, its result) fits into that row, if there is one -/
def LenOk (r : Array (Array Move)) (d len : Nat) : Prop := ∀ row, r[d]? = some row → len ≤ row.size

theorem LenOk.shape {r r' : Array (Array Move)} {d len : Nat} (h : LenOk r d len) (hs : SameShape r r') :
    LenOk r' d len := by
  intro row hrow
  obtain ⟨row0, h0, hsz⟩ := hs.symm.some hrow
  have := h row0 h0
  omega

theorem rowPrefix_congr {s s' : SS} {d : Nat} (h : s'.rows[d]? = s.rows[d]?) (len : Nat) :
    rowPrefix s' d len = rowPrefix s d len := by
  unfold rowPrefix
  rw [Array.getD_eq_getD_getElem?, Array.getD_eq_getD_getElem?, h]

theorem rowPrefix_zero (s : SS) (d : Nat) : rowPrefix s d 0 = [] := by
  unfold rowPrefix; rfl

theorem rowPrefix_of_some {s : SS} {d : Nat} {row : Array Move} (h : s.rows[d]? = some row) (len : Nat) :
    rowPrefix s d len = row.toList.take len := by
  unfold rowPrefix
  rw [Array.getD_eq_getD_getElem?, h]; rfl

/-- `rowLen` reads the shape of the table only -/
theorem rowLen_eq (s : SS) (d : Nat) : rowLen s d =
    match s.rows[d]?.map Array.size with
    | some n => pure n
    | none => throw (.index "bestLineAtDepth" d) := by
  unfold rowLen
  cases s.rows[d]? <;> rfl

theorem rowLen_ok {s : SS} {d n : Nat} (h : rowLen s d = .ok n) : LenOk s.rows d n ∧ d < s.rows.size := by
  unfold rowLen at h
  split at h
  · rename_i r hr
    simp only [pure_ok] at h
    subst h
    exact ⟨fun row hrow => by rw [Option.some.inj (hr.symm.trans hrow)]; exact Nat.le_refl _,
      (Array.getElem?_eq_some_iff.1 hr).1⟩
  · exact absurd h (by simp [throw_ok])


theorem foldl_set_getElem? (sub : Array Move) (n : Nat) (r0 : Array Move) (j : Nat) :
    ((List.range n).foldl (fun (r : Array Move) i => r.setIfInBounds (i + 1) (sub.getD i Move.zero)) r0)[j]? =
      if 1 ≤ j ∧ j ≤ n ∧ j < r0.size then some (sub.getD (j - 1) Move.zero) else r0[j]? := by
  induction n with
  | zero =>
    simp only [List.range_zero, List.foldl_nil]
    rw [if_neg (by omega)]
  | succ n ih =>
    rw [List.range_succ, List.foldl_append, List.foldl_cons, List.foldl_nil, Array.getElem?_setIfInBounds,
      foldl_setIfInBounds_size (fun i => i + 1) (fun i => sub.getD i Move.zero), ih]
    by_cases hj : n + 1 = j
    · subst hj
      simp only [if_true]
      by_cases hs : n + 1 < r0.size
      · rw [if_pos hs, if_pos ⟨by omega, by omega, hs⟩]; rfl
      · rw [if_neg hs, if_neg (by omega)]
        exact (Array.getElem?_eq_none (by omega)).symm
    · rw [if_neg hj]
      by_cases hc : 1 ≤ j ∧ j ≤ n ∧ j < r0.size
      · rw [if_pos hc, if_pos ⟨hc.1, by omega, hc.2.2⟩]
      · rw [if_neg hc, if_neg (by omega)]

theorem writeLine_take {row sub : Array Move} {sl : Nat} (mv : Move) (h1 : sl ≤ sub.size) (h2 : sl + 1 ≤ row.size) :
    (writeLine row sub sl mv).toList.take (sl + 1) = mv :: sub.toList.take sl := by
  apply List.ext_getElem?
  intro j
  rw [List.getElem?_take]
  by_cases hj : j < sl + 1
  · rw [if_pos hj, Array.getElem?_toList, writeLine, foldl_set_getElem?]
    simp only [Array.size_setIfInBounds]
    cases j with
    | zero =>
      rw [if_neg (by omega), Array.getElem?_setIfInBounds]
      simp only [if_true, List.getElem?_cons_zero]
      rw [if_pos (by omega)]
    | succ k =>
      rw [if_pos ⟨by omega, by omega, by omega⟩]
      simp only [Nat.add_sub_cancel, List.getElem?_cons_succ]
      rw [List.getElem?_take, if_pos (by omega), Array.getElem?_toList, Array.getD_eq_getD_getElem?]
      have : k < sub.size := by omega
      rw [Array.getElem?_eq_getElem this]; rfl
  · rw [if_neg hj]
    symm
    apply List.getElem?_eq_none
    simp only [List.length_cons, List.length_take, Array.length_toList]
    omega

theorem updateBestLine_spec {s : SS} {d sl : Nat} {mv : Move} {s' : SS} {n : Nat}
    (h : updateBestLine s d sl mv = .ok (s', n)) :
    n = sl + 1 ∧ Frame d s.rows s'.rows ∧ LenOk s'.rows d n ∧ s' = { s with rows := s'.rows } ∧
    (LenOk s.rows (d + 1) sl → rowPrefix s' d n = mv :: rowPrefix s (d + 1) sl) := by
  obtain ⟨row, sub, hrow, hsub, hsz, rfl, hs'⟩ := updateBestLine_ok.1 h
  have hr' : s'.rows = s.rows.setIfInBounds d (writeLine row sub sl mv) := by rw [hs']
  have hd : d < s.rows.size := (Array.getElem?_eq_some_iff.1 hrow).1
  have hnew : s'.rows[d]? = some (writeLine row sub sl mv) := by
    rw [hr', Array.getElem?_setIfInBounds, if_pos rfl, if_pos hd]
  have hother : ∀ j, j ≠ d → s'.rows[j]? = s.rows[j]? :=
    fun j hj => by rw [hr', Array.getElem?_setIfInBounds, if_neg (fun h => hj h.symm)]
  refine ⟨rfl, ⟨⟨by rw [hr', Array.size_setIfInBounds], fun i => ?_⟩, fun j hj => hother j (by omega)⟩, ?_,
    by rw [hs'], fun hlen => ?_⟩
  · by_cases hi : i = d
    · rw [hi, hnew, hrow, Option.map_some, Option.map_some, writeLine_size]
    · rw [hother i hi]
  · intro r hr
    rw [hnew] at hr
    rw [← Option.some.inj hr, writeLine_size]
    exact hsz
  · rw [rowPrefix_of_some hnew, rowPrefix_of_some hsub]
    exact writeLine_take mv (hlen sub hsub) hsz


theorem sortedBonus_mem {env : Env} (hs : SortSound env) {cand : List Move} {matched depth : Nat} {ms : List RMove}
    {rm : RMove} (h : rm ∈ env.sortFn (applyPvBonus cand matched depth ms).1) : rm.mov ∈ ms.map (·.mov) := by
  rw [← applyPvBonus_movs cand matched depth ms]
  exact List.mem_map.2 ⟨rm, hs.mem _ _ h, rfl⟩

theorem sortedBonus_ne_nil {env : Env} (hs : SortSound env) (cand : List Move) (matched depth : Nat)
    {ms : List RMove} (hne : ¬ ms.isEmpty = true) : env.sortFn (applyPvBonus cand matched depth ms).1 ≠ [] := by
  apply hs.ne
  intro h0
  have hmovs := applyPvBonus_movs cand matched depth ms
  rw [h0] at hmovs
  exact hne (List.isEmpty_iff.2 (List.map_eq_nil_iff.1 hmovs.symm))


def Event.pv? : Event → Option (List Move)
  | .infoPv _ _ _ pv => some pv
  | .infoDepth _ _ _ pv => some pv
  | _ => none

def pvsOf (l : List Event) : List (List Move) := l.filterMap Event.pv?

theorem mem_pvsOf {l : List Event} {pv : List Move} :
    pv ∈ pvsOf l ↔ (∃ sc d n, Event.infoPv sc d n pv ∈ l) ∨ (∃ d sc n, Event.infoDepth d sc n pv ∈ l) := by
  simp only [pvsOf, List.mem_filterMap]
  constructor
  · rintro ⟨e, he, hd⟩
    cases e <;> simp only [Event.pv?, Option.some.injEq, reduceCtorEq] at hd
    · subst hd; exact .inl ⟨_, _, _, he⟩
    · subst hd; exact .inr ⟨_, _, _, he⟩
  · rintro (⟨sc, d, n, he⟩ | ⟨d, sc, n, he⟩)
    · exact ⟨_, he, rfl⟩
    · exact ⟨_, he, rfl⟩

/-- The hypotheses of the two-table induction of `RowsIndep`, hence of C10 and C14; `D` bounds the number of rows.
    For concrete runs `PvWitness` discharges them by evaluation (`sortSound_of_perm`, `reach_closed`,
    `levelsBoundedB`); on `Total.G` they are `Capstone.G_closed` and `Capstone.evalFinite_of_blendBounded`. -/
structure PvHyps (env : Env) (G : Nat → Position → Prop) (D : Nat) : Prop where
  sort : SortSound env
  closed : GenClosed G
  finite : EvalFinite env G D

end Magog.Model
