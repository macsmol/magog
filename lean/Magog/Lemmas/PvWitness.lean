import Magog.Lemmas.PvLegal
import Magog.Lemmas.KillerIndep
import Magog.Lemmas.AlphaBeta

/-! Tools for discharging the hypotheses of the PV theorems (`GenClosed`, `EvalFinite`) on concrete inputs by
    kernel evaluation: the positions reachable in exactly `d` plies, and a Boolean bound check of the evaluation. -/

namespace Magog.Model.PvWitness
open Magog Magog.Model

def movsOf (x : M (List RMove)) : List Move :=
  match x with
  | .ok ms => ms.map (·.mov)
  | .error _ => []

def succOf (p : Position) (m : Move) : Option Position :=
  match makeMove p m with
  | .ok (q, true) => some q
  | _ => none

def succList (p : Position) : List Position :=
  (movsOf (generateMoves Killers.empty p) ++ movsOf (generateTacticalMoves p)).filterMap (succOf p)

theorem genFull_mem_movsOf {p : Position} {m : Move} (hg : GenFull p m) :
    m ∈ movsOf (generateMoves Killers.empty p) := by
  obtain ⟨kt, ms, hms, hmem⟩ := hg
  obtain ⟨ms0, hms0⟩ := Magog.Lemmas.KillerIndep.generateMoves_ok_indep' kt Killers.empty Props.C18.killers_empty_size p ⟨ms, hms⟩
  rw [hms0]
  show m ∈ ms0.map (·.mov)
  rw [← Magog.Lemmas.KillerIndep.killerIndep kt Killers.empty p ms ms0 hms hms0]
  exact hmem

theorem genTac_mem_movsOf {p : Position} {m : Move} (hg : GenTac p m) :
    m ∈ movsOf (generateTacticalMoves p) := by
  obtain ⟨ms, hms, hmem⟩ := hg
  rw [hms]
  exact hmem

theorem mem_succList {p : Position} {m : Move} {q : Position} (hg : GenFull p m ∨ GenTac p m)
    (hm : makeMove p m = .ok (q, true)) : q ∈ succList p := by
  unfold succList
  refine List.mem_filterMap.2 ⟨m, ?_, by unfold succOf; rw [hm]⟩
  rcases hg with hg | hg
  · exact List.mem_append_left _ (genFull_mem_movsOf hg)
  · exact List.mem_append_right _ (genTac_mem_movsOf hg)

def levels (p0 : Position) : Nat → List Position
  | 0 => [p0]
  | d + 1 => (levels p0 d).flatMap succList

/-- `q` is reachable from `p0` in `d` plies — claimed only up to depth `N` -/
def Reach (p0 : Position) (N : Nat) (d : Nat) (q : Position) : Prop := d ≤ N → q ∈ levels p0 d

theorem reach_root (p0 : Position) (N : Nat) : Reach p0 N 0 p0 := fun _ => List.mem_singleton.2 rfl

theorem reach_closed (p0 : Position) (N : Nat) : GenClosed (Reach p0 N) := by
  intro d p m q hp hg hm hd
  show q ∈ (levels p0 d).flatMap succList
  exact List.mem_flatMap.2 ⟨p, hp (by omega), mem_succList hg hm⟩

def evalBoundedB (blend : Blend) (p : Position) : Bool :=
  match pieceSquareScore blend p, countMoves p, countMoves (flipTurn p) with
  | .ok cheap, .ok own, .ok enemy =>
    decide (cheap.natAbs + own * Gen.MobilityScoreFactor + enemy * Gen.MobilityScoreFactor < 1000000)
  | _, _, _ => false

theorem lazyEvaluate_bounded {blend : Blend} {p : Position} (hb : evalBoundedB blend p = true) {d : Nat}
    (hd : d ≤ 1000) {a b x : Int} (h : lazyEvaluate blend p d a b = .ok x) :
    Gen.MinusInfinityScore < x ∧ x < Gen.InfinityScore := by
  unfold evalBoundedB at hb
  split at hb
  · rename_i cheap own enemy hc ho he
    have hb := of_decide_eq_true hb
    obtain ⟨mate, _, h⟩ := Magog.Lemmas.AlphaBeta.lazyEvaluate_ok.1 h
    rw [hc, ho, he] at h
    simp only [Gen.MobilityScoreFactor, Gen.LostScore, Gen.DrawScore, Gen.MinusInfinityScore, Gen.InfinityScore] at hb h ⊢
    rcases h with ⟨_, rfl⟩ | ⟨_, c, hc', ⟨_, rfl⟩ | ⟨_, o, ho', ⟨_, rfl⟩ | ⟨_, e, he', rfl⟩⟩⟩
    · omega
    · cases hc'; omega
    · cases hc'; cases ho'; omega
    · cases hc'; cases ho'; cases he'; omega
  · cases hb

theorem terminal_bounded {p : Position} {d : Nat} (hd : d ≤ 1000) {x : Int} (h : terminalNodeScore p d = .ok x) :
    Gen.MinusInfinityScore < x ∧ x < Gen.InfinityScore := by
  unfold terminalNodeScore at h
  obtain ⟨chk, _, h⟩ := bind_ok.1 h
  simp only [pure_ok] at h; subst h
  split <;> simp only [Gen.LostScore, Gen.DrawScore, Gen.MinusInfinityScore, Gen.InfinityScore] <;> omega

def levelsBoundedB (blend : Blend) (p0 : Position) (N : Nat) : Bool :=
  (List.range (N + 1)).all fun d => (levels p0 d).all (evalBoundedB blend)

theorem evalFinite_of_levels {env : Env} {p0 : Position} {N D : Nat} (hD : D ≤ N + 2) (hN : N ≤ 1000)
    (h : levelsBoundedB env.blend p0 N = true) : EvalFinite env (Reach p0 N) D := by
  intro d p hd hp a b x hx
  have hdN : d ≤ N := by omega
  have hb : evalBoundedB env.blend p = true := by
    unfold levelsBoundedB at h
    rw [List.all_eq_true] at h
    have := h d (List.mem_range.2 (by omega))
    rw [List.all_eq_true] at this
    exact this p (hp hdN)
  rcases hx with hx | hx | hx
  · exact lazyEvaluate_bounded hb (by omega) hx
  · exact lazyEvaluate_bounded hb (by omega) hx
  · exact terminal_bounded (by omega) hx

theorem sortSound_of_perm {env : Env} (h : Magog.Lemmas.AlphaBeta.PermSort env) : SortSound env where
  mem l m hm := (h l).mem_iff.1 hm
  ne l hl h0 := by
    have hp := h l
    rw [h0] at hp
    exact hl hp.symm.eq_nil

def hasPv2 : M SS → Bool
  | .ok s => (s.out.any fun e => match e with
      | .infoDepth 2 _ _ [_, _] => true
      | _ => false) &&
    (match s.out with
      | .bestmove _ :: _ => true
      | _ => false)
  | .error _ => false

theorem hasPv2_elim {r : M SS} (h : hasPv2 r = true) :
    ∃ s sc n m1 m2 m rest, r = .ok s ∧ Event.infoDepth 2 sc n [m1, m2] ∈ s.out ∧ s.out = .bestmove m :: rest := by
  unfold hasPv2 at h
  split at h
  · rename_i s
    obtain ⟨h1, h2⟩ := Bool.and_eq_true_iff.1 h
    obtain ⟨e, he, h1⟩ := List.any_eq_true.1 h1
    split at h1
    · split at h2
      · rename_i hout
        exact ⟨s, _, _, _, _, _, _, rfl, he, hout⟩
      · cases h2
    · cases h1
  · cases h

def illegalSecondB (p : Position) (m m2 : Move) : Bool :=
  match makeMove p m with
  | .ok (q, _) => !decide (m2 ∈ movsOf (generateMoves Killers.empty q)) &&
      !decide (m2 ∈ movsOf (generateTacticalMoves q))
  | .error _ => true

theorem not_legal_of_illegalSecondB {p : Position} {m m2 : Move} {rest : List Move}
    (h : illegalSecondB p m m2 = true) : ¬ LegalLine p (m :: m2 :: rest) := by
  rintro ⟨q, _, hmk, q2, hg, _, _⟩
  unfold illegalSecondB at h
  rw [hmk] at h
  simp only [Bool.and_eq_true, Bool.not_eq_true', decide_eq_false_iff_not] at h
  rcases hg with hg | hg
  · exact h.1 (genFull_mem_movsOf hg)
  · exact h.2 (genTac_mem_movsOf hg)

def printsIllegal (p : Position) : M SS → Bool
  | .ok s => s.out.any fun e => match e with
    | .infoPv _ _ _ (m :: m2 :: _) => illegalSecondB p m m2
    | _ => false
  | .error _ => false

theorem printsIllegal_elim {p : Position} {r : M SS} (h : printsIllegal p r = true) :
    ∃ s sc d n pv, r = .ok s ∧ Event.infoPv sc d n pv ∈ s.out ∧ ¬ LegalLine p pv := by
  unfold printsIllegal at h
  split at h
  · rename_i s
    obtain ⟨e, he, h⟩ := List.any_eq_true.1 h
    split at h
    · exact ⟨s, _, _, _, _, rfl, he, not_legal_of_illegalSecondB h⟩
    · cases h
  · cases h

def outsDiffer : M SS → M SS → Bool
  | .ok s, .ok s' => decide (s.out ≠ s'.out)
  | _, _ => false

theorem outsDiffer_elim {r r' : M SS} (h : outsDiffer r r' = true) :
    ∃ s s', r = .ok s ∧ r' = .ok s' ∧ s.out ≠ s'.out := by
  unfold outsDiffer at h
  split at h
  · exact ⟨_, _, rfl, rfl, of_decide_eq_true h⟩
  · cases h

end Magog.Model.PvWitness
