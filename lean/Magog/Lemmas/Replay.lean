import Magog.Lemmas.MakeMoveInv
import Magog.Lemmas.MMPly
import Magog.Model.Notation
import Magog.Model.Uci
import Magog.Spec.MoveText
import Magog.Lemmas.PositionCmd
import Magog.Lemmas.TotalApply
import Magog.Lemmas.GenPseudo
import Magog.Props.C02Abs

/-! Replaying a game, for C07 (`position … moves m1 … mk`) and for C02 at the level of the rules. `applyUciMove` on
    the text form of a generated move is `makeMove` on the move itself: the en-passant target it reconstructs is the
    generator's own (`TotalApply.uciFix_generated`); hence the `doPosition` loop on the text forms of a game is `playM`
    on its moves (`applyMoves_replay`). The printer gives `Spec.moveText` on generated moves. Under `LegalLink`, the
    link between the rules' `Spec.legal` and the engine's generator + `makeMove` verdict (a hypothesis here; proved in
    `Lemmas/LegalLinkProof.lean`), a list of legal moves of the rules is replayed by the model (`play_spec`).
    `Rel₂ R` relates two lists element by element (the moves of a game and their texts). For the examples of `Props/C07` and `Props/C02Spec`: `abs_startPosition` and the game
    `startPos_e4e5Nf3`. -/

namespace Magog.Replay
open Magog Magog.Model Magog.Atk Magog.Geo Magog.Count Magog.GenGeo Magog.MM

/-- what the text form of a move carries: origin, destination, promotion piece; no en-passant mark
    (this is what `parseMoveString` returns) -/
def uciForm (m : Move) : Move := ⟨m.frm, m.to, m.promo, InvalidSq⟩

theorem playM_cons_ok {p p' : Position} {m : Move} {b : Bool} (ms : List Move) (h : makeMove p m = .ok (p', b)) :
    playM p (m :: ms) = playM p' ms := by
  simp only [playM, h, ok_bind]

theorem playM_ok {p : Position} (hI : Inv p) (hS : OppSafe p) : ∀ {ms : List Move}, GameOk p ms →
    ∃ q, playM p ms = .ok q ∧ Inv q ∧ OppSafe q := by
  intro ms hg
  obtain ⟨q, hq, h⟩ := history hI hS hg ms.length (Nat.le_refl _)
  rw [List.take_length] at hq
  exact ⟨q, hq, h⟩

theorem replay_fold : ∀ {ms : List Move} {p : Position}, Inv p → OppSafe p → GameOk p ms →
    (ms.map uciForm).foldlM applyUciMove p = playM p ms := by
  intro ms
  induction ms with
  | nil => intro p _ _ _; rfl
  | cons m ms ih =>
    intro p hI hS hg
    obtain ⟨hgen, p', hmm, hrest⟩ := hg
    obtain ⟨hI', hS'⟩ := Props.C02.makeMove_inv hI hS hgen hmm
    rw [List.map_cons, List.foldlM_cons, uciForm, TotalApply.applyUciMove_eq hI hgen hmm, playM_cons_ok ms hmm]
    exact ih hI' hS' hrest

def Rel₂ {α β} (R : α → β → Prop) : List α → List β → Prop
  | [], [] => True
  | a :: as, b :: bs => R a b ∧ Rel₂ R as bs
  | _, _ => False

theorem applyMoves_replay {ops : EngineOps} (hap : ops.applyMove = applyUciMove) :
    ∀ {ms : List Move} {texts : List Bytes} {p : Position} (st : UciState), st.pos = some p →
      Inv p → OppSafe p → GameOk p ms →
      Rel₂ (fun m s => parseMoveString ops.str.lower s = some (uciForm m)) ms texts →
      ∃ q, playM p ms = .ok q ∧ Inv q ∧ OppSafe q ∧
        applyMoves ops st texts = .ok (({ st with pos := some q } : UciState).clearKillers, []) := by
  intro ms
  induction ms with
  | nil =>
    intro texts p st hp hI hS _ hf
    cases texts with
    | cons _ _ => exact absurd hf (by simp [Rel₂])
    | nil => ?_
    refine ⟨p, rfl, hI, hS, ?_⟩
    have : ({ st with pos := some p } : UciState) = st := by cases st; simp_all
    rw [this]
    rfl
  | cons m ms ih =>
    intro texts p st hp hI hS hg hf
    obtain ⟨hgen, p', hmm, hrest⟩ := hg
    obtain ⟨hI', hS'⟩ := Props.C02.makeMove_inv hI hS hgen hmm
    cases texts with
    | nil => exact absurd hf (by simp [Rel₂])
    | cons s rest =>
      obtain ⟨hhead, htail⟩ := hf
      obtain ⟨q, hq, hIq, hSq, hrun⟩ := ih ({ st with pos := some p' }) rfl hI' hS' hrest htail
      refine ⟨q, by rw [playM_cons_ok ms hmm]; exact hq, hIq, hSq, ?_⟩
      rw [applyMoves, hhead]
      simp only [hp, hap, uciForm, TotalApply.applyUciMove_eq hI hgen hmm, ok_bind]
      exact hrun

theorem generated_shape {p : Position} {m : Move} (hI : Inv p) (hG : MM.Generated p m) :
    m.frm ∈ sq88 ∧ m.to ∈ sq88 ∧ MMAbs.PromoOk m.promo := by
  have hcase := MMAbs.generated_cases hI hG
  obtain ⟨fp, tp, hc⟩ := MMAbs.gen_common hI hcase
  refine ⟨hc.frm88, hc.to88, ?_⟩
  cases hcase with
  | push _ _ _ _ _ _ hpromo => exact MMAbs.promoOk_of_shape hpromo
  | dbl _ _ _ _ _ _ _ hpromo => exact .inl hpromo
  | capture _ _ _ _ _ _ _ _ _ _ hpromo => exact MMAbs.promoOk_of_shape hpromo
  | enpassant _ _ _ _ _ _ _ _ hpromo => exact .inl hpromo
  | officer _ _ _ _ _ _ _ _ _ hpromo => exact .inl hpromo
  | king _ _ _ _ _ _ _ _ _ hpromo => exact .inl hpromo
  | castleK _ _ _ _ _ _ hpromo => exact .inl hpromo
  | castleQ _ _ _ _ _ _ hpromo => exact .inl hpromo

theorem gameOk_shape : ∀ {ms : List Move} {p : Position}, Inv p → OppSafe p → GameOk p ms →
    ∀ m ∈ ms, m.frm ∈ sq88 ∧ m.to ∈ sq88 ∧ MMAbs.PromoOk m.promo := by
  intro ms
  induction ms with
  | nil => intro p _ _ _ m hm; cases hm
  | cons m ms ih =>
    intro p hI hS hg x hx
    obtain ⟨hgen, p', hmm, hrest⟩ := hg
    obtain ⟨hI', hS'⟩ := Props.C02.makeMove_inv hI hS hgen hmm
    rcases List.mem_cons.mp hx with rfl | hx
    · exact generated_shape hI hgen
    · exact ih hI' hS' hrest x hx

theorem Rel₂.imp_mem {α β} {R S : α → β → Prop} : ∀ {as : List α} {bs : List β},
    (∀ a ∈ as, ∀ b, R a b → S a b) → Rel₂ R as bs → Rel₂ S as bs
  | [], [], _, _ => trivial
  | [], _ :: _, _, h => h.elim
  | _ :: _, [], _, h => h.elim
  | a :: _, b :: _, himp, h =>
    ⟨himp a List.mem_cons_self b h.1, Rel₂.imp_mem (fun x hx => himp x (List.mem_cons_of_mem _ hx)) h.2⟩

theorem Rel₂.map_right {α β} {R : α → β → Prop} (f : α → β) : ∀ {as : List α},
    (∀ a ∈ as, R a (f a)) → Rel₂ R as (as.map f)
  | [], _ => trivial
  | a :: _, h => ⟨h a List.mem_cons_self, Rel₂.map_right f (fun x hx => h x (List.mem_cons_of_mem _ hx))⟩

theorem sqString_text : ∀ a ∈ sq88, sqString a = Spec.sqText (to64 a) := by decide +kernel

theorem moveString_shape {m : Move} (hf : m.frm ∈ sq88) (ht : m.to ∈ sq88) (hp : MMAbs.PromoOk m.promo) :
    moveString m = .ok (Spec.moveText (absMove m)) := by
  unfold moveString Spec.moveText absMove
  simp only [sqString_text _ hf, sqString_text _ ht]
  rcases hp with h | h | h | h | h <;> rw [h] <;> rfl

theorem moveText_word {sm : Spec.Move} (hf : sm.frm < 64) (ht : sm.to < 64) : PosCmd.Word (Spec.moveText sm) := by
  obtain ⟨frm, dst, promo⟩ := sm
  have hf : @LT.lt Nat _ frm 64 := hf
  have ht : @LT.lt Nat _ dst 64 := ht
  refine ⟨by simp [Spec.moveText, Spec.sqText], ?_⟩
  intro c hc
  simp only [Spec.moveText, Spec.sqText, Spec.fileOf, Spec.rankOf, List.mem_append, List.mem_cons, List.not_mem_nil,
    or_false] at hc
  rcases hc with ((rfl | rfl) | (rfl | rfl)) | hc
  · exact PosCmd.cleanByte_of_range (by omega) (by omega)
  · exact PosCmd.cleanByte_of_range (by omega) (by omega)
  · exact PosCmd.cleanByte_of_range (by omega) (by omega)
  · exact PosCmd.cleanByte_of_range (by omega) (by omega)
  · have : c = 110 ∨ c = 98 ∨ c = 114 ∨ c = 113 := by
      unfold Spec.promoText at hc
      split at hc <;> simp_all
    rcases this with rfl | rfl | rfl | rfl <;> exact PosCmd.cleanByte_of_range (by omega) (by omega)

theorem generated_word {p : Position} {m : Move} (hI : Inv p) (hG : MM.Generated p m) :
    PosCmd.Word (Spec.moveText (absMove m)) := by
  obtain ⟨hf, ht, _⟩ := generated_shape hI hG
  exact moveText_word (to64_lt hf) (to64_lt ht)

theorem abs_startPosition : abs startPosition = Spec.startPos := by
  rw [startPosition_eq]
  exact pos_ext (by decide +kernel) (by decide +kernel) (by decide +kernel) (by decide +kernel)
    (by decide +kernel) (by decide +kernel) (by decide +kernel)

/-- 1.e4 e5 2.Nf3 is a game by the rules -/
theorem startPos_e4e5Nf3 :
    (Spec.play Spec.startPos [⟨12, 28, none⟩, ⟨52, 36, none⟩, ⟨6, 21, none⟩]).isSome = true := by decide +kernel

theorem playM_ply : ∀ {ms : List Move} {p q : Position}, playM p ms = .ok q → 0 ≤ p.ply →
    p.ply + ms.length < 32768 → q.ply = p.ply + ms.length := by
  intro ms
  induction ms with
  | nil =>
    intro p q h _ _
    simp only [playM, pure_eq_ok, Except.ok.injEq] at h
    subst h
    simp
  | cons m ms ih =>
    intro p q h h0 hlt
    simp only [playM, bind_ok] at h
    obtain ⟨⟨p', b⟩, hmm, hrest⟩ := h
    have hply : p'.ply = wrap16 (p.ply + 1) := (makeMove_ply_aux hmm).1
    simp only [List.length_cons] at hlt ⊢
    have hw : p'.ply = p.ply + 1 := by
      rw [hply]; unfold wrap16; omega
    have := ih (p := p') hrest (by omega) (by omega)
    rw [this, hw]
    omega

/-- **Hypothesis linking the rules to the engine's legality filter** (it holds: `legalLink` in
    Lemmas/LegalLinkProof.lean, from the completeness of the generator, C01, and `verdict_spec`): on a well-formed
    position with the side not to move not in check, every move the rules call legal is denoted by a generated engine
    move that `makeMove` accepts (verdict `true`). -/
def LegalLink : Prop :=
  ∀ p : Position, Inv p → OppSafe p → ∀ sm : Spec.Move, Spec.legal (abs p) sm = true →
    ∃ m, MM.Generated p m ∧ absMove m = sm ∧ ∃ p', makeMove p m = .ok (p', true)

theorem step_spec (hL : LegalLink) {p : Position} {sm : Spec.Move} (hI : Inv p) (hS : OppSafe p)
    (hleg : Spec.legal (abs p) sm = true) :
    ∃ m p', MM.Generated p m ∧ absMove m = sm ∧ makeMove p m = .ok (p', true) ∧ Inv p' ∧ OppSafe p' ∧
      abs p' = Spec.apply (abs p) sm ∧ p'.ply = wrap16 (p.ply + 1) := by
  obtain ⟨m, hgen, habs, p', hmm⟩ := hL p hI hS sm hleg
  obtain ⟨hI', hS'⟩ := Props.C02.makeMove_inv hI hS hgen hmm
  refine ⟨m, p', hgen, habs, hmm, hI', hS', ?_, (makeMove_ply_aux hmm).1⟩
  rw [← habs]
  exact Props.C02Abs.makeMove_abs hI hgen (GenPseudo.generated_not_king hI hS hgen) hmm

theorem play_spec_prefix (hL : LegalLink) : ∀ (sms : List Spec.Move) {p : Position} {P' : Spec.Pos}, Inv p → OppSafe p →
    Spec.play (abs p) sms = some P' →
    ∃ ms, ms.map absMove = sms ∧ GameOk p ms ∧
      ∀ k, k ≤ sms.length → ∃ q, playM p (ms.take k) = .ok q ∧ Inv q ∧ OppSafe q ∧
        Spec.play (abs p) (sms.take k) = some (abs q) := by
  intro sms
  induction sms with
  | nil =>
    intro p P' hI hS _
    refine ⟨[], rfl, trivial, fun k _ => ⟨p, by simp [playM, pure_eq_ok], hI, hS, by simp [Spec.play]⟩⟩
  | cons sm sms ih =>
    intro p P' hI hS h
    simp only [Spec.play] at h
    split at h
    · rename_i hleg
      obtain ⟨m, p1, hgen, habs, hmm, hI1, hS1, hab1, _⟩ := step_spec hL hI hS hleg
      rw [← hab1] at h
      obtain ⟨ms, hmap, hgame, hpre⟩ := ih hI1 hS1 h
      refine ⟨m :: ms, by rw [List.map_cons, habs, hmap], ⟨hgen, p1, hmm, hgame⟩, ?_⟩
      intro k hk
      cases k with
      | zero => exact ⟨p, by simp [playM, pure_eq_ok], hI, hS, by simp [Spec.play]⟩
      | succ k =>
        obtain ⟨q, hq, hIq, hSq, hsp⟩ := hpre k (by simpa using hk)
        refine ⟨q, ?_, hIq, hSq, ?_⟩
        · rw [List.take_succ_cons, playM_cons_ok _ hmm]; exact hq
        · rw [List.take_succ_cons]
          simp only [Spec.play, hleg, if_true]
          rw [← hab1]; exact hsp
    · cases h

theorem play_spec (hL : LegalLink) (sms : List Spec.Move) {p : Position} {P' : Spec.Pos} (hI : Inv p) (hS : OppSafe p)
    (h : Spec.play (abs p) sms = some P') :
    ∃ ms p', ms.map absMove = sms ∧ GameOk p ms ∧ playM p ms = .ok p' ∧ Inv p' ∧ OppSafe p' ∧ abs p' = P' := by
  obtain ⟨ms, hmap, hgame, hpre⟩ := play_spec_prefix hL sms hI hS h
  obtain ⟨q, hq, hIq, hSq, hsp⟩ := hpre sms.length (Nat.le_refl _)
  have hlen : sms.length = ms.length := by rw [← hmap, List.length_map]
  rw [hlen, List.take_length] at hq
  rw [List.take_length, h] at hsp
  exact ⟨ms, q, hmap, hgame, hq, hIq, hSq, (Option.some.inj hsp).symm⟩

end Magog.Replay
