import Magog.Lemmas.PvLegal
import Magog.Lemmas.SearchFrame

/-! The search on two PV tables (C10, C14).

A run on the table `s.rows` is followed, in lock step, by the run on a table `rw` of the same shape but other
contents (always written as the state `s.setRows rw`). One induction over the search shows that the second run
succeeds with the same result, and that every row prefix that is ever read (copied by a parent, printed, stored as
the candidate line) was written before in the same search: it is therefore the same in both tables (C14: stale
buffers do not matter) and a legal line (C10). Taking `rw := s.rows` gives the statements about a single run.

This is not an instance of `SearchSim`'s two-run theorem: a `SimRel` relates states that differ at most in `out`
(`SimRel.same`), and here the tables differ; what agrees is a fact about the returned `(value, length)` that holds only
inside the window, which no relation on states expresses. -/

namespace Magog.Model
open Magog

local notation "INF" => (Gen.InfinityScore : Int)

theorem inf_pos : (0 : Int) < INF := by decide

def SS.setRows (s : SS) (r : Array (Array Move)) : SS := { s with rows := r }

@[simp] theorem SS.setRows_rows (s : SS) (r) : (s.setRows r).rows = r := rfl
@[simp] theorem SS.setRows_killers (s : SS) (r) : (s.setRows r).killers = s.killers := rfl
@[simp] theorem SS.setRows_nodes (s : SS) (r) : (s.setRows r).nodes = s.nodes := rfl
@[simp] theorem SS.setRows_interrupted (s : SS) (r) : (s.setRows r).interrupted = s.interrupted := rfl
@[simp] theorem SS.setRows_tick (s : SS) (r) : (s.setRows r).tick = s.tick := rfl
@[simp] theorem SS.setRows_matched (s : SS) (r) : (s.setRows r).matched = s.matched := rfl
@[simp] theorem SS.setRows_cand (s : SS) (r) : (s.setRows r).cand = s.cand := rfl
@[simp] theorem SS.setRows_rootMoves (s : SS) (r) : (s.setRows r).rootMoves = s.rootMoves := rfl
@[simp] theorem SS.setRows_firstMoveIdx (s : SS) (r) : (s.setRows r).firstMoveIdx = s.firstMoveIdx := rfl
@[simp] theorem SS.setRows_out (s : SS) (r) : (s.setRows r).out = s.out := rfl
@[simp] theorem SS.setRows_consult (s : SS) (r) : (s.setRows r).consult = s.consult.setRows r := rfl
theorem SS.setRows_setRows (s : SS) (r r') : (s.setRows r).setRows r' = s.setRows r' := rfl


theorem rowLen_sim {s : SS} {rw : Array (Array Move)} (h : SameShape s.rows rw) (d : Nat) :
    rowLen (s.setRows rw) d = rowLen s d := by
  rw [rowLen_eq, rowLen_eq, SS.setRows_rows, h.row d]

theorem qLog_sim {env : Env} {s s1 : SS} (h : qLog env s = .ok s1) (r : Array (Array Move)) :
    qLog env (s.setRows r) = .ok (s1.setRows r) := by
  obtain ⟨h0, h⟩ := qLog_ok.1 h
  refine qLog_ok.2 ⟨h0, ?_⟩
  rcases h with ⟨h1, rm, hrm, rfl⟩ | ⟨h1, rfl⟩
  · exact .inl ⟨h1, rm, hrm, rfl⟩
  · exact .inr ⟨h1, rfl⟩

theorem pollAfterMove_sim (env : Env) (s : SS) (r : Array (Array Move)) :
    pollAfterMove env (s.setRows r) = ((pollAfterMove env s).1, (pollAfterMove env s).2.setRows r) := by
  rw [pollAfterMove_upd, pollAfterMove_upd]
  rfl

theorem pollAfterMove_spec (env : Env) (s : SS) :
    (pollAfterMove env s).2.rows = s.rows ∧ (pollAfterMove env s).2.out = s.out := by
  rw [pollAfterMove_upd]
  exact ⟨rfl, rfl⟩

theorem rootStop_sim (env : Env) (s : SS) (r : Array (Array Move)) :
    rootStop env (s.setRows r) = (rootStop env s).setRows r := by
  rw [rootStop_upd, rootStop_upd]
  rfl

theorem rootStop_spec (env : Env) (s : SS) : (rootStop env s).rows = s.rows ∧ (rootStop env s).out = s.out := by
  rw [rootStop_upd]
  exact ⟨rfl, rfl⟩


variable {L L' : List Move → Prop}

/-- The notion the file is about: the first `len` entries of row `d` are the same in the table of `s` and in the
    second table `rw`, and form a line with `L` (`LegalLine p` at a node; at the root a parameter, `RootLine p` for
    C10). It holds of a prefix that was written in this search, whatever the tables held before. -/
def Good (L : List Move → Prop) (s : SS) (rw : Array (Array Move)) (d len : Nat) : Prop :=
  rowPrefix (s.setRows rw) d len = rowPrefix s d len ∧ L (rowPrefix s d len)

theorem Good.congr {s s' : SS} {rw rw' : Array (Array Move)} {d len : Nat}
    (g : Good L s rw d len) (h : s'.rows[d]? = s.rows[d]?) (h' : rw'[d]? = rw[d]?) : Good L s' rw' d len := by
  unfold Good
  rw [rowPrefix_congr h, rowPrefix_congr (s := s.setRows rw) (s' := s'.setRows rw') h']
  exact g

theorem Good.zero (h : L []) (s : SS) (rw : Array (Array Move)) (d : Nat) :
    Good L s rw d 0 := by
  unfold Good
  rw [rowPrefix_zero, rowPrefix_zero]
  exact ⟨rfl, h⟩

theorem updateBestLine_good {s1 : SS} {rw1 : Array (Array Move)} {d sl : Nat} {mv : Move}
    {s2 : SS} {cl : Nat} (hu : updateBestLine s1 d sl mv = .ok (s2, cl)) (hs : SameShape s1.rows rw1)
    (hsub : LenOk s1.rows (d + 1) sl) (hg : Good L' s1 rw1 (d + 1) sl) (hL : ∀ l, L' l → L (mv :: l)) :
    ∃ r2, updateBestLine (s1.setRows rw1) d sl mv = .ok (s2.setRows r2, cl) ∧ Frame d s1.rows s2.rows ∧
      Frame d rw1 r2 ∧ LenOk s2.rows d cl ∧ Good L s2 r2 d cl ∧ s2 = s1.setRows s2.rows := by
  have hu' : ∃ r2, updateBestLine (s1.setRows rw1) d sl mv = .ok (s2.setRows r2, cl) := by
    obtain ⟨row, sub, hrow, hsub', hsz, rfl, rfl⟩ := updateBestLine_ok.1 hu
    obtain ⟨row', hrow', hsz'⟩ := hs.some hrow
    obtain ⟨sub', hsub'', _⟩ := hs.some hsub'
    exact ⟨_, updateBestLine_ok.2 ⟨row', sub', hrow', hsub'', by omega, rfl, rfl⟩⟩
  obtain ⟨r2, hu'⟩ := hu'
  obtain ⟨_, f2, hlen2, hs2, hline⟩ := updateBestLine_spec hu
  obtain ⟨_, f2', _, _, hline'⟩ := updateBestLine_spec hu'
  refine ⟨r2, hu', f2, f2', hlen2, ⟨?_, ?_⟩, hs2⟩
  · rw [hline' (hsub.shape hs), hline hsub, hg.1]
  · rw [hline hsub]; exact hL _ hg.2

/-- What a piece of the search at depth `d` on `p` with window `(α, β)` guarantees, run from `s` and from
    `s.setRows rw`, ending with `(v, len)` in `s'` and `s'.setRows rw'`. For a node `pre` is `False` and `first` is
    `True`; for a move loop `pre` says that the incoming prefix of row `d` is good, and `first` that at least one
    move will be searched. -/
structure SimPost (p : Position) (d : Nat) (α β : Int) (pre first : Prop) (s : SS) (rw : Array (Array Move)) (v : Int)
    (len : Nat) (s' : SS) (rw' : Array (Array Move)) : Prop where
  fr : Frame d s.rows s'.rows
  fr' : Frame d rw rw'
  lenOk : LenOk s'.rows d len
  pvs : pvsOf s'.out = pvsOf s.out
  /-- a value strictly inside the window comes with a legal line, written in both tables during this call -/
  good : (pre ∨ α < v) → v < β → Good (LegalLine p) s' rw' d len
  lower : (-INF < α ∨ first) → -INF < β → -INF < v
  upper : α < INF → v < INF

/-- the loop returns `x` (its `α` or `β`) without having touched row `d` -/
theorem SimPost.ret {p : Position} {d : Nat} {α β x : Int} {first : Prop} {s s2 : SS} {rw rw2 : Array (Array Move)}
    {curLen : Nat} (hf : Frame (d + 1) s.rows s2.rows) (hf' : Frame (d + 1) rw rw2)
    (hp : pvsOf s2.out = pvsOf s.out) (hlen : LenOk s.rows d curLen) (hx : x ≤ α ∨ β ≤ x)
    (hlo : (-INF < α ∨ first) → -INF < β → -INF < x) (hup : α < INF → x < INF) :
    SimPost p d α β (Good (LegalLine p) s rw d curLen) first s rw x curLen s2 rw2 where
  fr := hf.mono (Nat.le_succ _)
  fr' := hf'.mono (Nat.le_succ _)
  lenOk := hlen.shape hf.toSameShape
  pvs := hp
  good := by
    rintro (h1 | h1) h2
    · exact h1.congr (hf.below d (Nat.lt_succ_self _)) (hf'.below d (Nat.lt_succ_self _))
    · omega
  lower := hlo
  upper := hup

/-- the loop continues from an intermediate state `s2` with `(α', curLen')` -/
theorem SimPost.chain {p : Position} {d : Nat} {α α' β v : Int} {pre pre' first first' : Prop} {s s2 s3 : SS}
    {rw rw2 rw3 : Array (Array Move)} {len : Nat} (hf : Frame d s.rows s2.rows) (hf' : Frame d rw rw2)
    (hp : pvsOf s2.out = pvsOf s.out) (hl : (pre ∨ α < v) → v < β → (pre' ∨ α' < v))
    (hlo : (-INF < α ∨ first) → -INF < β → (-INF < α' ∨ first')) (hup : α < INF → α' < INF)
    (post : SimPost p d α' β pre' first' s2 rw2 v len s3 rw3) : SimPost p d α β pre first s rw v len s3 rw3 where
  fr := hf.trans post.fr
  fr' := hf'.trans post.fr'
  lenOk := post.lenOk
  pvs := post.pvs.trans hp
  good := fun h1 h2 => post.good (hl h1 h2) h2
  lower := fun h1 h2 => post.lower (hlo h1 h2) h2
  upper := fun h => post.upper (hup h)

/-- the statement proved of a node function `f` (`quiescence`, `alphaBeta` at given fuel): an uninterrupted run at a
    `G d`-position on a table of at most `D` rows is repeated, with the same value and length, on every table
    `rw` of the same shape, and `SimPost` relates the four tables -/
def NodeSim (G : Nat → Position → Prop) (D : Nat) (f : NodeFn) : Prop :=
  ∀ p idx d α β curLen s v len s', f p idx d α β curLen s = .ok (v, len, s') → G d p → s.rows.size ≤ D →
    LenOk s.rows d curLen → s.interrupted = false → ∀ rw, SameShape s.rows rw →
    ∃ rw', f p idx d α β curLen (s.setRows rw) = .ok (v, len, s'.setRows rw') ∧
      SimPost p d α β False True s rw v len s' rw'

/-- the statement proved of a move loop `loop` (already applied to everything but `α curLen subLen s`); `ok s` is
    what the loop needs of the state it starts in -/
def LoopSim (D : Nat) (loop : Int → Nat → Nat → SS → M LoopOut) (p : Position) (d : Nat) (β : Int)
    (ok first : SS → Prop) : Prop :=
  ∀ α curLen subLen s r, loop α curLen subLen s = .ok r → s.rows.size ≤ D → LenOk s.rows d curLen →
    LenOk s.rows (d + 1) subLen → ok s → ∀ rw, SameShape s.rows rw →
    ∃ rw', loop α curLen subLen (s.setRows rw) = .ok ⟨r.score, r.curLen, r.st.setRows rw'⟩ ∧
      SimPost p d α β (Good (LegalLine p) s rw d curLen) (first s) s rw r.score r.curLen r.st rw'


theorem qLoop_sim (hcl : GenClosed G)
    (hc : NodeSim G D child) (p : Position) (idx d : Nat) (β : Int) (hp : G d p) :
    ∀ ms : List RMove, (∀ mv ∈ ms, GenFull p mv.mov ∨ GenTac p mv.mov) →
      LoopSim D (qLoop env child p idx d β ms) p d β (fun s => s.interrupted = false) (fun _ => False) := by
  intro ms
  induction ms with
  | nil =>
    intro _ α curLen subLen s r h _ hlen _ _ rw _
    cases pure_ok.1 h
    exact ⟨rw, rfl, SimPost.ret (Frame.refl _ _) (Frame.refl _ _) rfl hlen (.inl (Int.le_refl _))
      (fun h _ => h.elim id False.elim) id⟩
  | cons mv rest ih =>
    intro hgen α curLen subLen s r h hD hlen hsub hint rw hsh
    obtain ⟨hcap, q, b, hmk, hleg, v, sl, s1, hch, h⟩ := qLoop_cons_ok.1 h
    obtain rfl : b = true := by simpa using hleg
    have hgm := hgen mv List.mem_cons_self
    obtain ⟨rw1, hch', C⟩ := hc _ _ _ _ _ _ _ _ _ _ hch (hcl _ _ _ _ hp hgm hmk) hD hsub hint rw hsh
    have ih := ih (fun m hm => hgen m (List.mem_cons_of_mem _ hm))
    have hlow : α < INF → -INF < v := fun ha => C.lower (.inr trivial) (by omega)
    have hsh1 : SameShape s1.rows rw1 := hsh.after C.fr C.fr'
    have hD1 : s1.rows.size ≤ D := by rw [C.fr.size]; exact hD
    -- the second run goes through the same step up to the child's return; what is left to show of it is how it ends
    refine Exists.imp (fun rw' => And.imp_left fun e => qLoop_cons_ok.2
      ⟨hcap, q, true, hmk, hleg, v, sl, _, hch', e⟩) ?_
    rcases h with ⟨hi, rfl⟩ | ⟨hi, ⟨hto, rfl⟩ | ⟨hto, ⟨hcut, rfl⟩ | ⟨hcut, ⟨himp, s2, cl, hu, h⟩ | ⟨himp, h⟩⟩⟩⟩
    · exact ⟨rw1, .inl ⟨hi, rfl⟩, SimPost.ret C.fr C.fr' C.pvs hlen (.inl (Int.le_refl _))
        (fun h _ => h.elim id False.elim) id⟩
    · exact ⟨rw1, .inr ⟨hi, .inl ⟨hto, rfl⟩⟩, SimPost.ret (s2 := s1.consult) C.fr C.fr' C.pvs hlen
        (.inl (Int.le_refl _)) (fun h _ => h.elim id False.elim) id⟩
    · exact ⟨rw1, .inr ⟨hi, .inr ⟨hto, .inl ⟨hcut, rfl⟩⟩⟩, SimPost.ret (x := β) (s2 := s1.consult) C.fr C.fr' C.pvs
        hlen (.inr (Int.le_refl _)) (fun _ h => h) (fun ha => by have := hlow ha; omega)⟩
    · have hi' : s1.interrupted = false := by simpa using hi
      obtain ⟨r2, hu', f2, f2', hlen2, hg2, hs2⟩ := updateBestLine_good (L := LegalLine p) (s1 := s1.consult) hu hsh1
        C.lenOk (C.good (.inr (by omega)) (by omega)) (fun l hl => ⟨q, hgm, hmk, hl⟩)
      obtain ⟨rw', e, P⟩ := ih _ _ _ _ _ h (by rw [f2.size]; exact hD1) hlen2 (C.lenOk.shape f2.toSameShape)
        (by rw [hs2]; exact hi') r2 (hsh1.after f2 f2')
      refine ⟨rw', .inr ⟨hi, .inr ⟨hto, .inr ⟨hcut, .inl ⟨himp, _, cl, hu', e⟩⟩⟩⟩, ?_⟩
      refine SimPost.chain ((C.fr.mono (Nat.le_succ _)).trans f2) ((C.fr'.mono (Nat.le_succ _)).trans f2')
        (by rw [hs2]; exact C.pvs) (fun _ _ => .inl hg2) ?_ (fun ha => by have := hlow ha; omega) P
      intro h1 _
      exact .inl (h1.elim (fun h => by omega) False.elim)
    · have hi' : s1.interrupted = false := by simpa using hi
      obtain ⟨rw', e, P⟩ := ih _ _ _ _ _ h hD1 (hlen.shape C.fr.toSameShape) C.lenOk hi' rw1 hsh1
      refine ⟨rw', .inr ⟨hi, .inr ⟨hto, .inr ⟨hcut, .inr ⟨himp, e⟩⟩⟩⟩, SimPost.chain (s2 := s1.consult)
        (C.fr.mono (Nat.le_succ _)) (C.fr'.mono (Nat.le_succ _)) C.pvs ?_ (fun h _ => h) id P⟩
      rintro (h1 | h1) _
      · exact .inl (h1.congr (C.fr.below d (Nat.lt_succ_self _)) (C.fr'.below d (Nat.lt_succ_self _)))
      · exact .inr h1

theorem PvHyps.fin (H : PvHyps env G D) {d : Nat} {p : Position}
    (hd : d + 1 < D) (hp : G d p) {a b x : Int}
    (h : lazyEvaluate env.blend p d a b = .ok x ∨ evaluate env.blend p d = .ok x ∨ terminalNodeScore p d = .ok x) :
    -INF < x ∧ x < INF := by
  have := H.finite d p hd hp a b x h
  rw [minusInf_eq] at this
  exact this

theorem quiescence_sim (H : PvHyps env G D) (fuel : Nat) :
    NodeSim G D (quiescence env fuel) := by
  induction fuel with
  | zero => intro p idx d a b l s v l' s' h; simp only [quiescence, throw_ok] at h
  | succ fuel ih =>
    intro p idx d α β curLen s v len s' h hp hD hlen hint rw hsh
    obtain ⟨subLen, hsl, score, hsc, s1, hs1, h⟩ := quiescence_succ_ok.1 h
    obtain ⟨hsub, hdlt⟩ := rowLen_ok hsl
    have hfin : -INF < score ∧ score < INF := by
      unfold qEval at hsc
      split at hsc
      · exact H.fin (by omega) hp (.inl hsc)
      · exact H.fin (a := 0) (b := 0) (by omega) hp (.inr (.inl hsc))
    refine Exists.imp (fun rw' => And.imp_left fun e => quiescence_succ_ok.2
      ⟨subLen, (rowLen_sim hsh _).trans hsl, score, hsc, _, qLog_sim hs1 rw, e⟩) ?_
    obtain ⟨o, rfl, ho⟩ := qLog_out hs1
    have ho : pvsOf o = pvsOf s.out := by rcases ho with rfl | ⟨_, _, _, rfl⟩ <;> rfl
    rcases h with ⟨hcut, rfl, rfl, rfl⟩ | ⟨hcut, ms, hms, r, hr, rfl, rfl, rfl⟩
    · exact ⟨rw, .inl ⟨hcut, rfl, rfl, rfl⟩, Frame.refl _ _, Frame.refl _ _, hlen, ho,
        fun _ h2 => absurd h2 (Int.lt_irrefl _), fun _ h => h, fun _ => by omega⟩
    refine Exists.imp (fun rw' => And.imp_left fun e =>
      .inr ⟨hcut, ms, hms, ⟨r.score, r.curLen, r.st.setRows rw'⟩, e, rfl, rfl, rfl⟩) ?_
    have hgen : ∀ mv ∈ env.sortFn ms, GenFull p mv.mov ∨ GenTac p mv.mov := fun mv hmv =>
      .inr ⟨ms, hms, List.mem_map.2 ⟨mv, H.sort.mem _ _ hmv, rfl⟩⟩
    by_cases himp : score > α
    · simp only [if_pos himp] at hr ⊢
      obtain ⟨rw', e, P⟩ := qLoop_sim H.closed ih p idx d β hp _ hgen _ _ _ _ _ hr hD (fun _ _ => Nat.zero_le _)
        hsub hint rw hsh
      exact ⟨rw', e, P.fr, P.fr', P.lenOk, P.pvs.trans ho,
        fun _ h2 => P.good (.inl (Good.zero trivial _ _ _)) h2, fun _ h2 => P.lower (.inl (by omega)) h2,
        fun _ => P.upper (by omega)⟩
    · simp only [if_neg himp] at hr ⊢
      obtain ⟨rw', e, P⟩ := qLoop_sim H.closed ih p idx d β hp _ hgen _ _ _ _ _ hr hD hlen hsub hint rw hsh
      exact ⟨rw', e, P.fr, P.fr', P.lenOk, P.pvs.trans ho,
        fun h1 h2 => P.good (.inr (h1.elim False.elim id)) h2, fun _ h2 => P.lower (.inl (by omega)) h2, P.upper⟩


theorem improve_good {s1 : SS} {rw1 : Array (Array Move)} {d sl : Nat} {mv : Move}
    {sc α : Int} {curLen : Nat} {a2 : Int} {l2 : Nat} {s2 : SS}
    (h : improve s1 d sl mv sc α curLen = .ok (a2, l2, s2)) (hs : SameShape s1.rows rw1)
    (hsub : LenOk s1.rows (d + 1) sl) (hlen : LenOk s1.rows d curLen)
    (hg : sc > α → Good L' s1 rw1 (d + 1) sl) (hL : ∀ l, L' l → L (mv :: l)) :
    ∃ r2, improve (s1.setRows rw1) d sl mv sc α curLen = .ok (a2, l2, s2.setRows r2) ∧ Frame d s1.rows s2.rows ∧
      Frame d rw1 r2 ∧ LenOk s2.rows d l2 ∧ s2 = s1.setRows s2.rows ∧
      ((sc > α ∧ a2 = sc ∧ Good L s2 r2 d l2) ∨ (¬ sc > α ∧ a2 = α ∧ l2 = curLen ∧ s2 = s1 ∧ r2 = rw1)) := by
  rcases improve_ok.1 h with ⟨hgt, rfl, hu⟩ | ⟨hgt, rfl, rfl, rfl⟩
  · obtain ⟨r2, hu', f2, f2', hlen2, hg2, hs2⟩ := updateBestLine_good hu hs hsub (hg hgt) hL
    exact ⟨r2, improve_ok.2 (.inl ⟨hgt, rfl, hu'⟩), f2, f2', hlen2, hs2, .inl ⟨hgt, rfl, hg2⟩⟩
  · exact ⟨rw1, improve_ok.2 (.inr ⟨hgt, rfl, rfl, rfl⟩), Frame.refl _ _, Frame.refl _ _, hlen, rfl,
      .inr ⟨hgt, rfl, rfl, rfl, rfl⟩⟩

theorem abLoop_sim (hcl : GenClosed G)
    (hc : NodeSim G D child) (p : Position) (idx d : Nat) (β : Int) (hp : G d p) :
    ∀ ms : List RMove, (∀ mv ∈ ms, GenFull p mv.mov ∨ GenTac p mv.mov) →
      LoopSim D (abLoop env child p idx d β ms) p d β (fun _ => True) (fun s => ms ≠ [] ∧ s.interrupted = false) := by
  intro ms
  induction ms with
  | nil =>
    intro _ α curLen subLen s r h _ hlen _ _ rw _
    cases pure_ok.1 h
    exact ⟨rw, rfl, SimPost.ret (Frame.refl _ _) (Frame.refl _ _) rfl hlen (.inl (Int.le_refl _))
      (fun h _ => h.elim id (fun h => absurd rfl h.1)) id⟩
  | cons mv rest ih =>
    intro hgen α curLen subLen s r h hD hlen hsub _ rw hsh
    rcases abLoop_cons_ok.1 h with ⟨hi, rfl⟩ | ⟨hi, hcap, q, b, hmk, hleg, v, sl, s1, hch, h⟩
    · exact ⟨rw, abLoop_cons_ok.2 (.inl ⟨hi, rfl⟩), SimPost.ret (Frame.refl _ _) (Frame.refl _ _) rfl hlen
        (.inl (Int.le_refl _)) (fun h _ => h.elim id (fun h => by rw [h.2] at hi; cases hi)) id⟩
    have hint : s.interrupted = false := by simpa using hi
    obtain rfl : b = true := by simpa using hleg
    have hgm := hgen mv List.mem_cons_self
    obtain ⟨rw1, hch', C⟩ := hc _ _ _ _ _ _ _ _ _ _ hch (hcl _ _ _ _ hp hgm hmk) hD hsub hint rw hsh
    have ih := ih (fun m hm => hgen m (List.mem_cons_of_mem _ hm))
    have hlow : α < INF → -INF < v := fun ha => C.lower (.inr trivial) (by omega)
    have hupp : -INF < β → v < INF := fun hb => C.upper (by omega)
    have hsh1 : SameShape s1.rows rw1 := hsh.after C.fr C.fr'
    refine Exists.imp (fun rw' => And.imp_left fun e => abLoop_cons_ok.2
      (.inr ⟨hi, hcap, q, true, hmk, hleg, v, sl, _, hch', e⟩)) ?_
    rcases h with ⟨hcut, h⟩ | ⟨hcut, a2, l2, s2, himp, h⟩
    · have hret : ∀ s2 : SS, s2.rows = s1.rows → s2.out = s1.out →
          SimPost p d α β (Good (LegalLine p) s rw d curLen) (mv :: rest ≠ [] ∧ s.interrupted = false) s rw β curLen
            s2 rw1 := fun s2 h1 h2 =>
        SimPost.ret (by rw [h1]; exact C.fr) C.fr' (by rw [h2]; exact C.pvs) hlen (.inr (Int.le_refl _))
          (fun _ h => h) (fun ha => by have := hlow ha; omega)
      rcases h with ⟨htac, kt, hkt, rfl⟩ | ⟨htac, rfl⟩
      · exact ⟨rw1, .inl ⟨hcut, .inl ⟨htac, kt, hkt, rfl⟩⟩, hret _ rfl rfl⟩
      · exact ⟨rw1, .inl ⟨hcut, .inr ⟨htac, rfl⟩⟩, hret _ rfl rfl⟩
    obtain ⟨r2, himp', f2, f2', hlen2, hs2, hcase⟩ := improve_good (L := LegalLine p) himp hsh1 C.lenOk
      (hlen.shape C.fr.toSameShape) (fun hgt => C.good (.inr (by omega)) (by omega)) (fun l hl => ⟨q, hgm, hmk, hl⟩)
    refine Exists.imp (fun rw' => And.imp_left fun e => .inr ⟨hcut, a2, l2, _, himp', e⟩) ?_
    rw [pollAfterMove_sim]
    obtain ⟨hpr, hpo⟩ := pollAfterMove_spec env s2
    generalize pollAfterMove env s2 = x at h hpr hpo ⊢
    obtain ⟨brk, s3⟩ := x
    dsimp only at h hpr hpo ⊢
    -- what the rest of the loop, run from the polled state `s3`, guarantees serves for the whole step
    have wrap : ∀ {first' : Prop} {rw' : Array (Array Move)},
        SimPost p d a2 β (Good (LegalLine p) s3 r2 d l2) first' s3 r2 r.score r.curLen r.st rw' →
        SimPost p d α β (Good (LegalLine p) s rw d curLen) (mv :: rest ≠ [] ∧ s.interrupted = false) s rw r.score
          r.curLen r.st rw' := by
      intro first' rw' P
      refine SimPost.chain (by rw [hpr]; exact (C.fr.mono (Nat.le_succ _)).trans f2)
        ((C.fr'.mono (Nat.le_succ _)).trans f2') (by rw [hpo, hs2]; exact C.pvs) ?_ ?_ ?_ P
      · intro h1 _
        rcases hcase with ⟨_, _, hg2⟩ | ⟨_, rfl, rfl, rfl, rfl⟩
        · exact .inl (hg2.congr (by rw [hpr]) rfl)
        · rcases h1 with h1 | h1
          · exact .inl (h1.congr (by rw [hpr]; exact C.fr.below d (Nat.lt_succ_self _))
              (C.fr'.below d (Nat.lt_succ_self _)))
          · exact .inr h1
      · intro _ hb
        have := hupp hb
        rcases hcase with ⟨_, rfl, _⟩ | ⟨_, rfl, _⟩ <;> exact .inl (by omega)
      · intro ha
        have := hlow ha
        rcases hcase with ⟨_, rfl, _⟩ | ⟨_, rfl, _⟩ <;> omega
    rcases h with ⟨hbrk, rfl⟩ | ⟨hbrk, h⟩
    · exact ⟨r2, .inl ⟨hbrk, rfl⟩, wrap (SimPost.ret (first := False) (Frame.refl _ _) (Frame.refl _ _) rfl
        (by rw [hpr]; exact hlen2) (.inl (Int.le_refl _)) (fun h _ => h.elim id False.elim) id)⟩
    · obtain ⟨rw', e, P⟩ := ih _ _ _ _ _ h (by rw [hpr, f2.size, C.fr.size]; exact hD) (by rw [hpr]; exact hlen2)
        (by rw [hpr]; exact C.lenOk.shape f2.toSameShape) trivial r2 (by rw [hpr]; exact hsh1.after f2 f2')
      exact ⟨rw', .inr ⟨hbrk, e⟩, wrap P⟩

theorem alphaBeta_sim (H : PvHyps env G D) (qfuel rem : Nat) :
    NodeSim G D (alphaBeta env qfuel rem) := by
  induction rem with
  | zero =>
    intro p idx d α β curLen s v len s' h hp hD hlen hint rw hsh
    simp only [alphaBeta] at h ⊢
    obtain ⟨n, hn, h⟩ := bind_ok.1 h
    rw [rowLen_sim hsh, hn, ok_bind]
    exact quiescence_sim H qfuel _ _ _ _ _ _ _ _ _ _ h hp hD hlen hint rw hsh
  | succ rem ih =>
    intro p idx d α β curLen s v len s' h hp hD hlen hint rw hsh
    obtain ⟨subLen, hsl, ms, hms, h⟩ := alphaBeta_succ_ok.1 h
    obtain ⟨hsub, hdlt⟩ := rowLen_ok hsl
    have hsl' := (rowLen_sim hsh (d + 1)).trans hsl
    rcases h with ⟨hemp, tv, htv, rfl, rfl, rfl⟩ | ⟨hemp, r, hr, rfl, rfl, rfl⟩
    · have hfin := H.fin (a := 0) (b := 0) (by omega) hp (.inr (.inr htv))
      exact ⟨rw, alphaBeta_succ_ok.2 ⟨_, hsl', ms, hms, .inl ⟨hemp, _, htv, rfl, rfl, rfl⟩⟩, Frame.refl _ _,
        Frame.refl _ _, fun _ _ => Nat.zero_le _, rfl, fun _ _ => Good.zero trivial _ _ _, fun _ _ => hfin.1,
        fun _ => hfin.2⟩
    obtain ⟨rw', e, P⟩ := abLoop_sim H.closed ih p idx d β hp _
      (fun mv hmv => .inl ⟨s.killers, ms, hms, sortedBonus_mem H.sort hmv⟩) _ _ _ _ _ hr hD hlen hsub trivial rw hsh
    exact ⟨rw', alphaBeta_succ_ok.2 ⟨_, hsl', ms, hms, .inr ⟨hemp, _, e, rfl, rfl, rfl⟩⟩, P.fr, P.fr', P.lenOk, P.pvs,
      fun h1 h2 => P.good (.inr (h1.elim False.elim id)) h2,
      fun _ h2 => P.lower (.inr ⟨sortedBonus_ne_nil H.sort _ _ _ hemp, hint⟩) h2, P.upper⟩


def AllPv (L : List Move → Prop) (out : List Event) : Prop := ∀ pv ∈ pvsOf out, L pv

theorem AllPv.cons {out : List Event} {e : Event} (h : AllPv L out)
    (he : ∀ pv, e.pv? = some pv → L pv) : AllPv L (e :: out) := by
  intro pv hpv
  unfold pvsOf at hpv
  rw [List.filterMap_cons] at hpv
  cases hx : e.pv? with
  | none => rw [hx] at hpv; exact h pv hpv
  | some x =>
    rw [hx] at hpv
    rcases List.mem_cons.1 hpv with rfl | hpv
    · exact he _ hx
    · exact h pv hpv

theorem rootPrint_sim {target : Nat} {sc : Int} {cl : Nat} {s s3 : SS}
    {r : Array (Array Move)} (h : rootPrint env target sc cl s = .ok s3) (hg : Good L s r 0 cl) :
    rootPrint env target sc cl (s.setRows r) = .ok (s3.setRows r) ∧ s3.rows = s.rows ∧
      (AllPv L s.out → AllPv L s3.out) := by
  rcases rootPrint_ok.1 h with ⟨hgate, h0, rfl⟩ | ⟨hgate, rfl⟩
  · refine ⟨rootPrint_ok.2 (.inl ⟨hgate, h0, ?_⟩), rfl, fun hall => hall.cons (fun pv hpv => by cases hpv; exact hg.2)⟩
    rw [hg.1]; rfl
  · exact ⟨rootPrint_ok.2 (.inr ⟨hgate, rfl⟩), rfl, id⟩

/-- the second run may come with another header length `curLen'` of row 0 if the move improves -/
theorem rootImprove_good {target : Nat} {s1 : SS} {rw1 : Array (Array Move)}
    {sl : Nat} {mv : Move} {sc α : Int} {curLen curLen' : Nat} {a2 : Int} {l2 : Nat} {s2 : SS}
    (h : rootImprove env target s1 sl mv sc α curLen = .ok (a2, l2, s2))
    (hs : SameShape s1.rows rw1) (hsub : LenOk s1.rows 1 sl)
    (hg : sc > α → Good L' s1 rw1 1 sl) (hL : ∀ l, L' l → L (mv :: l))
    (hpre : (curLen' = curLen ∧ Good L s1 rw1 0 curLen) ∨ sc > α) :
    ∃ r2, rootImprove env target (s1.setRows rw1) sl mv sc α curLen' = .ok (a2, l2, s2.setRows r2) ∧
      SameShape s1.rows s2.rows ∧ SameShape s2.rows r2 ∧ Good L s2 r2 0 l2 ∧ (a2 = sc ∨ a2 = α) ∧
      (AllPv L s1.out → AllPv L s2.out) := by
  rcases rootImprove_ok.1 h with ⟨hgt, rfl, s2', hu, hpr⟩ | ⟨hgt, rfl, rfl, rfl⟩
  · obtain ⟨r2, hu', f2, f2', _, hg2, hs2⟩ := updateBestLine_good hu hs hsub (hg hgt) hL
    obtain ⟨hpr', hr3, hall3⟩ := rootPrint_sim (s := s2'.consult) (r := r2) hpr hg2
    refine ⟨r2, rootImprove_ok.2 (.inl ⟨hgt, rfl, _, hu', hpr'⟩), ?_, ?_, hg2.congr (by rw [hr3]; rfl) rfl, .inl rfl,
      fun hall => hall3 (by rw [hs2]; exact hall)⟩
    · rw [hr3]; exact f2.toSameShape
    · rw [hr3]; exact hs.after f2 f2'
  · rcases hpre with ⟨rfl, hg0⟩ | hgt'
    · exact ⟨rw1, rootImprove_ok.2 (.inr ⟨hgt, rfl, rfl, rfl⟩), SameShape.refl _, hs, hg0, .inr rfl, id⟩
    · exact absurd hgt' hgt

/-- the statement proved of the root loop. `L` is what is claimed of the lines in row 0; the two runs may start with
    different header lengths of row 0 if the first move is going to be searched with `α = −∞` -/
def RootSim (L : List Move → Prop) (env : Env) (child : NodeFn) (p : Position) (target : Nat) (D : Nat)
    (ms : List RMove) : Prop :=
  ∀ α curLen curLen' subLen s r, rootLoop env child p target ms α curLen subLen s = .ok r →
    s.rows.size ≤ D → LenOk s.rows 1 subLen → α < INF → ∀ rw, SameShape s.rows rw →
    ((curLen' = curLen ∧ Good L s rw 0 curLen) ∨ (ms ≠ [] ∧ s.interrupted = false ∧ α = -INF)) →
    ∃ rw', rootLoop env child p target ms α curLen' subLen (s.setRows rw) =
        .ok ⟨r.score, r.curLen, r.st.setRows rw'⟩ ∧
      SameShape s.rows r.st.rows ∧ SameShape r.st.rows rw' ∧ Good L r.st rw' 0 r.curLen ∧
      (AllPv L s.out → AllPv L r.st.out)

theorem rootLoop_sim (hcl : GenClosed G)
    (hc : NodeSim G D child) (p : Position) (target : Nat) (hp : G 0 p)
    (hL : ∀ m q l, GenFull p m → makeMove p m = .ok (q, true) → LegalLine q l → L (m :: l)) :
    ∀ ms : List RMove, (∀ mv ∈ ms, GenFull p mv.mov) → RootSim L env child p target D ms := by
  intro ms
  induction ms with
  | nil =>
    intro _ α curLen curLen' subLen s r h _ _ _ rw hsh hpre
    simp only [rootLoop, pure_ok] at h; subst h
    rcases hpre with ⟨rfl, hg⟩ | ⟨hne, _, _⟩
    · exact ⟨rw, rfl, SameShape.refl _, hsh, hg, id⟩
    · exact absurd rfl hne
  | cons mv rest ih =>
    intro hgen α curLen curLen' subLen s r h hD hsub hα rw hsh hpre
    rcases rootLoop_cons_ok.1 h with ⟨hi, rfl⟩ | ⟨hi, hcap, q, b, hmk, hleg, v, sl, s1, hch, a2, l2, s2, himp, h⟩
    · rcases hpre with ⟨rfl, hg⟩ | ⟨_, hi', _⟩
      · exact ⟨rw, rootLoop_cons_ok.2 (.inl ⟨hi, rfl⟩), SameShape.refl _, hsh, hg, id⟩
      · rw [hi'] at hi; cases hi
    have hint : s.interrupted = false := by simpa using hi
    have hgm := hgen mv List.mem_cons_self
    obtain rfl : b = true := by simpa using hleg
    obtain ⟨rw1, hch', C⟩ := hc _ _ _ _ _ _ _ _ _ _ hch (hcl _ _ _ _ hp (.inl hgm) hmk) hD hsub hint rw hsh
    have hlow : -INF < v := C.lower (.inr trivial) (by omega)
    have hupp : v < INF := C.upper (by have := inf_pos; omega)
    have hpre1 : (curLen' = curLen ∧ Good L s1 rw1 0 curLen) ∨ -v > α := by
      rcases hpre with ⟨rfl, hg⟩ | ⟨_, _, rfl⟩
      · exact .inl ⟨rfl, hg.congr (C.fr.below 0 Nat.zero_lt_one) (C.fr'.below 0 Nat.zero_lt_one)⟩
      · right; omega
    obtain ⟨r2, himp', sh2, sh2', hg2, ha2, hall2⟩ := rootImprove_good himp
      (hsh.after C.fr C.fr') C.lenOk (fun hgt => C.good (.inr hlow) (by omega))
      (fun l hl => hL _ _ _ hgm hmk hl) hpre1
    have ha2' : a2 < INF := by rcases ha2 with rfl | rfl <;> omega
    have sh02 : SameShape s.rows s2.rows := C.fr.toSameShape.trans sh2
    have hall02 : AllPv L s.out → AllPv L s2.out := fun hall => hall2 (fun pv hpv => hall pv (C.pvs ▸ hpv))
    refine Exists.imp (fun rw' => And.imp_left fun e => rootLoop_cons_ok.2
      (.inr ⟨hi, hcap, q, true, hmk, hleg, v, sl, _, hch', a2, l2, _, himp', e⟩)) ?_
    rcases h with ⟨hi2, rfl⟩ | ⟨hi2, ⟨hto, rfl⟩ | ⟨hto, ⟨hw, rfl⟩ | ⟨hw, h⟩⟩⟩
    · exact ⟨r2, .inl ⟨hi2, rfl⟩, sh02, sh2', hg2, hall02⟩
    · exact ⟨r2, .inr ⟨hi2, .inl ⟨hto, rfl⟩⟩, sh02, sh2', hg2, hall02⟩
    · exact ⟨r2, .inr ⟨hi2, .inr ⟨hto, .inl ⟨hw, rfl⟩⟩⟩, sh02, sh2', hg2, hall02⟩
    obtain ⟨hrr, hro⟩ := rootStop_spec env s2.consult
    obtain ⟨rw', e, sh3, sh3', hg3, hall3⟩ := ih (fun m hm => hgen m (List.mem_cons_of_mem _ hm)) _ _ l2 _ _ _ h
      (by rw [hrr]; show s2.rows.size ≤ D; rw [sh02.size]; exact hD)
      (by rw [hrr]; exact C.lenOk.shape sh2) ha2' r2 (by rw [hrr]; exact sh2')
      (.inl ⟨rfl, hg2.congr (by rw [hrr]; rfl) rfl⟩)
    exact ⟨rw', .inr ⟨hi2, .inr ⟨hto, .inr ⟨hw, (rootStop_sim env s2.consult r2).symm ▸ e⟩⟩⟩,
      sh02.trans (by rw [hrr] at sh3; exact sh3), sh3', hg3, fun hall => hall3 (by rw [hro]; exact hall02 hall)⟩

theorem startAlphaBeta_sim (H : PvHyps env G D)
    {qfuel : Nat} {p : Position} {target curLen curLen' : Nat} {s : SS} {v : Int} {one : Bool} {len : Nat} {s' : SS}
    (h : startAlphaBeta env qfuel p target curLen s = .ok (v, one, len, s')) (hp : G 0 p) (hD : s.rows.size ≤ D)
    {rw : Array (Array Move)} (hsh : SameShape s.rows rw)
    (hpre : (curLen' = curLen ∧ Good (RootLine p) s rw 0 curLen) ∨ s.interrupted = false) :
    ∃ rw', startAlphaBeta env qfuel p target curLen' (s.setRows rw) = .ok (v, one, len, s'.setRows rw') ∧
      SameShape s.rows s'.rows ∧ SameShape s'.rows rw' ∧ Good (RootLine p) s' rw' 0 len ∧
      (AllPv (RootLine p) s.out → AllPv (RootLine p) s'.out) := by
  obtain ⟨subLen, hsl, ms, hms, h⟩ := startAlphaBeta_ok.1 h
  obtain ⟨hsub, _⟩ := rowLen_ok hsl
  have hsl' := (rowLen_sim hsh 1).trans hsl
  rcases h with ⟨hemp, tv, htv, rfl, rfl, rfl, rfl⟩ | ⟨hemp, r, hr, rfl, rfl, rfl, rfl⟩
  · exact ⟨rw, startAlphaBeta_ok.2 ⟨_, hsl', ms, hms, .inl ⟨hemp, _, htv, rfl, rfl, rfl, rfl⟩⟩, SameShape.refl _, hsh,
      Good.zero trivial _ _ _, id⟩
  obtain ⟨rw', e, sh, sh', hg, hall⟩ := rootLoop_sim (L := RootLine p) H.closed (alphaBeta_sim H qfuel (target - 1))
    p target hp (fun m q l hg hm hl => ⟨q, hg, hm, hl⟩) _
    (fun mv hmv => ⟨s.killers, ms, hms, sortedBonus_mem H.sort hmv⟩) _ _ curLen' _ _ _ hr hD hsub
    (by rw [minusInf_eq]; have := inf_pos; omega) rw hsh
    (hpre.elim .inl (fun hi => .inr ⟨sortedBonus_ne_nil H.sort _ _ _ hemp, hi, minusInf_eq⟩))
  exact ⟨rw', startAlphaBeta_ok.2 ⟨_, hsl', ms, hms, .inr ⟨hemp, _, e, rfl, rfl, rfl, rfl⟩⟩, sh, sh', hg, hall⟩


theorem copyBestLine_sim {s : SS} {rw : Array (Array Move)} {len : Nat}
    (h : Good L s rw 0 len) : copyBestLine (s.setRows rw) len = (copyBestLine s len).setRows rw := by
  unfold copyBestLine
  rw [h.1]; rfl

theorem printInfoAfterDepth_sim {s s' : SS} {score : Int} {depth : Nat} (h : printInfoAfterDepth s score depth = .ok s')
    (rw : Array (Array Move)) : printInfoAfterDepth (s.setRows rw) score depth = .ok (s'.setRows rw) := by
  obtain ⟨hne, rfl⟩ := printInfoAfterDepth_ok h
  exact printInfoAfterDepth_eq (s := s.setRows rw) hne score depth

theorem printInfo_sim {s s' : SS} {score : Int} {depth : Nat} (h : printInfo s score depth = .ok s')
    (rw : Array (Array Move)) : printInfo (s.setRows rw) score depth = .ok (s'.setRows rw) := by
  obtain ⟨hne, rfl⟩ := printInfo_ok h
  exact if_neg (by rwa [List.isEmpty_iff])

theorem announce_sim {s s' : SS} {best : Int} {done : Nat} (h : announce s best done = .ok s')
    (rw : Array (Array Move)) : announce (s.setRows rw) best done = .ok (s'.setRows rw) := by
  obtain ⟨m, tl, hc, rfl⟩ := announce_ok h
  rw [announce_eq (s := s.setRows rw) (m := m) (tl := tl) hc]
  rfl

theorem deepenLoop_sim (H : PvHyps env G D)
    (qfuel : Nat) (p : Position) (hp : G 0 p) (maxDepth : Nat) :
    ∀ (n cur : Nat) (best : Int) (done len0 : Nat) (s : SS) (best' : Int) (done' : Nat) (s' : SS),
      deepenLoop env qfuel p maxDepth n cur best done len0 s = .ok (best', done', s') →
      s.rows.size ≤ D → ∀ rw, SameShape s.rows rw → Good (RootLine p) s rw 0 len0 →
      ∃ rw', deepenLoop env qfuel p maxDepth n cur best done len0 (s.setRows rw) = .ok (best', done', s'.setRows rw') ∧
        (AllPv (RootLine p) s.out → RootLine p s.cand → AllPv (RootLine p) s'.out ∧ RootLine p s'.cand) := by
  intro n
  induction n with
  | zero =>
    intro cur best done len0 s best' done' s' h _ rw _ _
    simp only [deepenLoop, pure_ok, Prod.mk.injEq] at h
    obtain ⟨rfl, rfl, rfl⟩ := h
    exact ⟨rw, rfl, fun a b => ⟨a, b⟩⟩
  | succ n ih =>
    intro cur best done len0 s best' done' s' h hD rw hsh hg
    rcases deepenLoop_succ_ok.1 h with ⟨hcur, rfl, rfl, rfl⟩ | ⟨hcur, score, one, l1, s1, hsab, h⟩
    · exact ⟨rw, deepenLoop_succ_ok.2 (.inl ⟨hcur, rfl, rfl, rfl⟩), fun a b => ⟨a, b⟩⟩
    obtain ⟨rw1, hsab', sh1, sh1', hg1, hall1⟩ := startAlphaBeta_sim (curLen' := len0) H hsab hp hD hsh (.inl ⟨rfl, hg⟩)
    have hc1 : s1.cand = s.cand := (startAlphaBeta_searchFrame hsab).cand
    have stopped : AllPv (RootLine p) s.out → RootLine p s.cand →
        AllPv (RootLine p) s1.consult.out ∧ RootLine p s1.consult.cand :=
      fun a b => ⟨hall1 a, by show RootLine p s1.cand; rw [hc1]; exact b⟩
    refine Exists.imp (fun rw' => And.imp_left fun e => deepenLoop_succ_ok.2
      (.inr ⟨hcur, score, one, l1, _, hsab', e⟩)) ?_
    rcases h with ⟨hto, rfl, rfl, rfl⟩ | ⟨hto, ⟨hi, rfl, rfl, rfl⟩ | ⟨hi, s3, hpi, h⟩⟩
    · exact ⟨rw1, .inl ⟨hto, rfl, rfl, rfl⟩, stopped⟩
    · exact ⟨rw1, .inr ⟨hto, .inl ⟨hi, rfl, rfl, rfl⟩⟩, stopped⟩
    have hpi' : printInfoAfterDepth (copyBestLine (s1.setRows rw1).consult l1) score cur = .ok (s3.setRows rw1) := by
      rw [show copyBestLine (s1.setRows rw1).consult l1 = (copyBestLine s1.consult l1).setRows rw1 from
        copyBestLine_sim (s := s1.consult) hg1]
      exact printInfoAfterDepth_sim hpi rw1
    obtain ⟨_, rfl⟩ := printInfoAfterDepth_ok hpi
    have accepted : AllPv (RootLine p) s.out →
        AllPv (RootLine p) (.infoDepth cur score s1.nodes (rowPrefix s1 0 l1) :: s1.out) :=
      fun a => (hall1 a).cons (fun pv hpv => by cases hpv; exact hg1.2)
    refine Exists.imp (fun rw' => And.imp_left fun e => .inr ⟨hto, .inr ⟨hi, _, hpi', e⟩⟩) ?_
    rcases h with ⟨hm, rfl, rfl, rfl⟩ | ⟨hm, ⟨ho, rfl, rfl, rfl⟩ | ⟨ho, h⟩⟩
    · exact ⟨rw1, .inl ⟨hm, rfl, rfl, rfl⟩, fun a _ => ⟨accepted a, hg1.2⟩⟩
    · exact ⟨rw1, .inr ⟨hm, .inl ⟨ho, rfl, rfl, rfl⟩⟩, fun a _ => ⟨accepted a, hg1.2⟩⟩
    obtain ⟨rw', e, k⟩ := ih _ _ _ _ _ _ _ _ h (by show s1.rows.size ≤ D; rw [sh1.size]; exact hD) rw1 sh1' hg1
    exact ⟨rw', .inr ⟨hm, .inr ⟨ho, e⟩⟩, fun a _ => k (accepted a) hg1.2⟩

theorem iterDeep_two {env : Env} {G : Nat → Position → Prop} {rows rows' : Array (Array Move)}
    (H : PvHyps env G rows.size) {qfuel : Nat} {p : Position} (hp : G 0 p) {maxDepth : Nat} {killers : Killers}
    {len0 len0' : Nat} {s : SS} (h : iterDeep env qfuel p maxDepth killers rows len0 = .ok s)
    (hsh : SameShape rows rows') :
    ∃ rw', iterDeep env qfuel p maxDepth killers rows' len0' = .ok (s.setRows rw') ∧
      AllPv (RootLine p) s.out ∧ RootLine p s.cand := by
  rw [iterDeep_eq] at h ⊢
  obtain ⟨⟨score, one, l, s1⟩, hsab, h⟩ := bind_ok.1 h
  obtain ⟨rw1, hsab', sh1, sh1', hg1, hall1⟩ := startAlphaBeta_sim (curLen' := len0') (s := initSS rows killers) H hsab hp
    (Nat.le_refl _) hsh (.inr rfl)
  have hall1 := hall1 (fun pv hpv => by cases hpv)
  rw [show initSS rows' killers = (initSS rows killers).setRows rows' from rfl, hsab', ok_bind]
  dsimp only at h ⊢
  rw [copyBestLine_sim hg1]
  refine ite_sim h (fun _ h => ?_) fun _ h => ?_
  · cases pure_ok.1 h
    exact ⟨rw1, rfl, (hall1.cons (fun _ hpv => by cases hpv)).cons (fun _ hpv => by cases hpv), hg1.2⟩
  obtain ⟨⟨best, done, s2⟩, hd, h⟩ := bind_ok.1 h
  have hd' : ∃ rw2, deepenFrom env qfuel p maxDepth score one l ((copyBestLine s1 l).setRows rw1).consult =
      .ok (best, done, s2.setRows rw2) ∧ AllPv (RootLine p) s2.out ∧ RootLine p s2.cand := by
    unfold deepenFrom at hd ⊢
    refine ite_sim hd (fun _ hd => ?_) fun _ hd => ?_
    · obtain ⟨rw2, e, k⟩ := deepenLoop_sim H qfuel p hp maxDepth _ _ _ _ _ _ _ _ _ hd
        (by show s1.rows.size ≤ _; rw [sh1.size]; exact Nat.le_refl _) rw1 sh1' hg1
      exact ⟨rw2, e, k hall1 hg1.2⟩
    · cases pure_ok.1 hd
      exact ⟨rw1, rfl, hall1, hg1.2⟩
  obtain ⟨rw2, hd', hall2, hcand2⟩ := hd'
  rw [hd', ok_bind]
  obtain ⟨m, tl, hc, rfl⟩ := announce_ok h
  refine ⟨rw2, announce_sim (announce_eq hc best done) rw2, ?_, hcand2⟩
  exact (hall2.cons (fun _ hpv => by cases hpv; exact hcand2)).cons (fun _ hpv => by cases hpv)

theorem iterDeep_sim {env : Env} {G : Nat → Position → Prop} {rows rows' : Array (Array Move)}
    (H : PvHyps env G rows.size) {qfuel : Nat} {p : Position} (hp : G 0 p) {maxDepth : Nat} {killers : Killers}
    {len0 len0' : Nat} {s : SS} (h : iterDeep env qfuel p maxDepth killers rows len0 = .ok s)
    (hsz : rows.size = rows'.size) (hrow : ∀ i : Nat, (rows[i]?).map (·.size) = (rows'[i]?).map (·.size)) :
    ∃ rw', iterDeep env qfuel p maxDepth killers rows' len0' = .ok (s.setRows rw') :=
  (iterDeep_two H hp h ⟨hsz.symm, fun i => (hrow i).symm⟩).imp fun _ h => h.1

theorem iterDeep_pv {env : Env} {G : Nat → Position → Prop} {rows : Array (Array Move)}
    (H : PvHyps env G rows.size)
    {qfuel : Nat} {p : Position} (hp : G 0 p) {maxDepth : Nat} {killers : Killers}
    {len0 : Nat} {s : SS} (h : iterDeep env qfuel p maxDepth killers rows len0 = .ok s) :
    AllPv (RootLine p) s.out ∧ RootLine p s.cand :=
  (iterDeep_two (len0' := len0) H hp h (SameShape.refl rows)).elim fun _ h => h.2

end Magog.Model
