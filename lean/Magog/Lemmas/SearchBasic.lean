import Magog.Model.Search
import Magog.Lemmas.MBasic

/-! Working with the search model without unfolding it: the pieces of the loop bodies under names of their own
    with one characterisation each, the recursive equations of `Search.lean` in a normal form in terms of those
    pieces (`…_eq`) and their inversions (`…_ok`: what it means that a loop or node returns `.ok`). `qLoop` and
    `alphaBeta` have the inversion only, `iterDeep` the equation only (it is inverted by `iterDeep_cases` in
    `SearchIter`). -/

namespace Magog.Model
open Magog

theorem minusInf_eq : Gen.MinusInfinityScore = -(Gen.InfinityScore : Int) := by decide

theorem applyPvBonus_movs (cand : List Move) (matched depth : Nat) (ms : List RMove) :
    (applyPvBonus cand matched depth ms).1.map (·.mov) = ms.map (·.mov) := by
  induction ms with
  | nil => rfl
  | cons m ms ih =>
    unfold applyPvBonus
    split
    · rfl
    · simp only [List.map_cons, ih]

@[simp] theorem SS.consult_tick (s : SS) : s.consult.tick = s.tick + 1 := rfl

theorem foldl_setIfInBounds_size {α} (f : Nat → Nat) (g : Nat → α) (l : List Nat) (row : Array α) :
    (l.foldl (fun (r : Array α) i => r.setIfInBounds (f i) (g i)) row).size = row.size := by
  induction l generalizing row with
  | nil => rfl
  | cons a l ih => simp only [List.foldl_cons, ih, Array.size_setIfInBounds]

/-- the row that `updateBestLine` stores -/
def writeLine (row sub : Array Move) (n : Nat) (mv : Move) : Array Move :=
  (List.range n).foldl (fun (r : Array Move) i => r.setIfInBounds (i + 1) (sub.getD i Move.zero))
    (row.setIfInBounds 0 mv)

theorem writeLine_size (row sub : Array Move) (n : Nat) (mv : Move) : (writeLine row sub n mv).size = row.size := by
  unfold writeLine
  rw [foldl_setIfInBounds_size (fun i => i + 1) (fun i => sub.getD i Move.zero), Array.size_setIfInBounds]

theorem updateBestLine_ok {s : SS} {d n : Nat} {mv : Move} {s' : SS} {k : Nat} :
    updateBestLine s d n mv = .ok (s', k) ↔ ∃ row sub, s.rows[d]? = some row ∧ s.rows[d + 1]? = some sub ∧
      n + 1 ≤ row.size ∧ k = n + 1 ∧ s' = { s with rows := s.rows.setIfInBounds d (writeLine row sub n mv) } := by
  unfold updateBestLine
  split
  · rename_i row sub hr hs
    simp only [hr, hs, ite_ok, throw_ok, pure_ok, and_false, false_or, Option.some.injEq, Prod.mk.injEq,
      writeLine, exists_and_left, exists_eq_left', Nat.not_lt]
    exact ⟨fun ⟨h1, h2, h3⟩ => ⟨h1, h3.symm, h2.symm⟩, fun ⟨h1, h2, h3⟩ => ⟨h1, h3.symm, h2.symm⟩⟩
  · rename_i hn
    simp only [throw_ok, false_iff]
    rintro ⟨row, sub, hr, hs, _⟩
    exact hn row sub hr hs

theorem updateBestLine_rows {s d subLen mv s' n} (h : updateBestLine s d subLen mv = .ok (s', n)) :
    ∃ rows', s' = { s with rows := rows' } := by
  obtain ⟨_, _, _, _, _, _, rfl⟩ := updateBestLine_ok.1 h
  exact ⟨_, rfl⟩

theorem updateBestLine_nonempty {s d subLen mv s' n} (h : updateBestLine s d subLen mv = .ok (s', n)) :
    n = subLen + 1 ∧ (rowPrefix s' d n).length = n := by
  obtain ⟨row, sub, hr, _, hsz, rfl, rfl⟩ := updateBestLine_ok.1 h
  refine ⟨rfl, ?_⟩
  have hd : d < s.rows.size := (Array.getElem?_eq_some_iff.1 hr).1
  simp only [rowPrefix, Array.getD_eq_getD_getElem?, Array.getElem?_setIfInBounds, hd, if_true,
    Option.getD_some, List.length_take, Array.length_toList, writeLine_size]
  omega

theorem pollAfterMove_eq (env : Env) (s : SS) : pollAfterMove env s =
    if s.interrupted then (true, s) else
    if env.timeUp s.tick then (true, s.consult) else
    if env.stopAt (s.tick + 1) then (false, { s.consult.consult with interrupted := true })
    else (false, s.consult.consult) := by
  unfold pollAfterMove
  simp only [SS.consult_tick, Nat.add_sub_cancel]

/-- the two polls as one record update: which fields they keep is `rfl` after this rewrite -/
theorem pollAfterMove_upd (env : Env) (s : SS) : pollAfterMove env s =
    (s.interrupted || env.timeUp s.tick,
     { s with tick := if s.interrupted then s.tick else if env.timeUp s.tick then s.tick + 1 else s.tick + 2,
              interrupted := s.interrupted || (!env.timeUp s.tick && env.stopAt (s.tick + 1)) }) := by
  rw [pollAfterMove_eq]
  cases hi : s.interrupted
  · cases env.timeUp s.tick
    · cases env.stopAt (s.tick + 1) <;>
        simp only [Bool.false_eq_true, if_false, if_true, Bool.or_false, Bool.false_or, Bool.not_false, Bool.and_true,
          Bool.true_and, SS.consult, hi]
    · simp only [Bool.false_eq_true, if_false, if_true, Bool.not_true, Bool.false_and, Bool.or_false, Bool.false_or,
        SS.consult, hi]
  · simp only [if_true, Bool.true_or]
    rw [← hi]

/-- the `currmove` logging step of `quiescence` -/
def qLog (env : Env) (s : SS) : M SS :=
  if env.logInterval == 0 then throw .divZero
  else if Int.tmod (s.nodes : Int) env.logInterval == 0 then
    match s.rootMoves[s.firstMoveIdx]? with
    | some rm => pure { s with out := .currmove rm.mov (s.firstMoveIdx + 1) s.nodes :: s.out }
    | none => throw (.index "movStack[0]" s.firstMoveIdx)
  else pure s

theorem qLog_ok {env : Env} {s s' : SS} : qLog env s = .ok s' ↔ env.logInterval ≠ 0 ∧
    (Int.tmod s.nodes env.logInterval = 0 ∧ (∃ rm, s.rootMoves[s.firstMoveIdx]? = some rm ∧
        s' = { s with out := .currmove rm.mov (s.firstMoveIdx + 1) s.nodes :: s.out }) ∨
      Int.tmod s.nodes env.logInterval ≠ 0 ∧ s' = s) := by
  unfold qLog
  simp only [ite_ok, throw_ok, pure_ok', and_false, false_or, beq_iff_eq, ne_eq]
  cases s.rootMoves[s.firstMoveIdx]? <;> simp [throw_ok, pure_ok']

theorem qLog_out {env : Env} {s s' : SS} (h : qLog env s = .ok s') :
    ∃ o, s' = { s with out := o } ∧ (o = s.out ∨ ∃ m k n, o = .currmove m k n :: s.out) := by
  rcases (qLog_ok.1 h).2 with ⟨_, _, _, rfl⟩ | ⟨_, rfl⟩
  · exact ⟨_, rfl, .inr ⟨_, _, _, rfl⟩⟩
  · exact ⟨_, rfl, .inl rfl⟩

/-- the stand-pat evaluation of `quiescence` -/
def qEval (env : Env) (p : Position) (depth : Nat) (alpha beta : Int) : M Int :=
  if env.lazy then lazyEvaluate env.blend p depth alpha beta else evaluate env.blend p depth

/-- `if score > alpha { updateBestLine … }` of the `alphaBeta` move loop -/
def improve (s : SS) (depth subLen : Nat) (mv : Move) (score alpha : Int) (curLen : Nat) : M (Int × Nat × SS) :=
  if score > alpha then do
    let (s, curLen) ← updateBestLine s depth subLen mv
    pure (score, curLen, s)
  else pure (alpha, curLen, s)

theorem improve_ok {s : SS} {depth subLen : Nat} {mv : Move} {score alpha : Int} {curLen : Nat} {a : Int} {l : Nat}
    {s' : SS} : improve s depth subLen mv score alpha curLen = .ok (a, l, s') ↔
      score > alpha ∧ a = score ∧ updateBestLine s depth subLen mv = .ok (s', l) ∨
      ¬score > alpha ∧ a = alpha ∧ l = curLen ∧ s' = s := by
  simp only [improve, ite_ok, bind_ok, pure_ok, Prod.exists, Prod.mk.injEq]
  constructor
  · rintro (⟨h, _, _, hu, rfl, rfl, rfl⟩ | ⟨h, rfl, rfl, rfl⟩)
    · exact .inl ⟨h, rfl, hu⟩
    · exact .inr ⟨h, rfl, rfl, rfl⟩
  · rintro (⟨h, rfl, hu⟩ | ⟨h, rfl, rfl, rfl⟩)
    · exact .inl ⟨h, _, _, hu, rfl, rfl, rfl⟩
    · exact .inr ⟨h, rfl, rfl, rfl⟩

theorem improve_rows {s depth subLen mv score alpha curLen a l s'}
    (h : improve s depth subLen mv score alpha curLen = .ok (a, l, s')) : ∃ rows', s' = { s with rows := rows' } := by
  rcases improve_ok.1 h with ⟨-, -, hu⟩ | ⟨-, -, -, rfl⟩
  · exact updateBestLine_rows hu
  · exact ⟨_, rfl⟩

/-- `maybePrintNewPvInfo`; its one caller (`rootImprove`) passes a state just `consult`ed, and `s.tick - 1` is the
    number of that consultation -/
def rootPrint (env : Env) (target : Nat) (score : Int) (curLen : Nat) (s : SS) : M SS :=
  if env.gateOpen (s.tick - 1) then
    if curLen == 0 then throw (.index "bestLine[0]" 0)
    else pure { s with out := .infoPv score target s.nodes (rowPrefix s 0 curLen) :: s.out }
  else pure s

theorem rootPrint_ok {env : Env} {target : Nat} {score : Int} {curLen : Nat} {s s' : SS} :
    rootPrint env target score curLen s = .ok s' ↔
      env.gateOpen (s.tick - 1) = true ∧ curLen ≠ 0 ∧
        s' = { s with out := .infoPv score target s.nodes (rowPrefix s 0 curLen) :: s.out } ∨
      ¬env.gateOpen (s.tick - 1) = true ∧ s' = s := by
  simp only [rootPrint, ite_ok, throw_ok, pure_ok', and_false, false_or, beq_iff_eq, ne_eq]

/-- `if score > alpha { … }` of the root move loop: store the line in row 0, consult the clock, `rootPrint` -/
def rootImprove (env : Env) (target : Nat) (s : SS) (subLen : Nat) (mv : Move) (score alpha : Int) (curLen : Nat) :
    M (Int × Nat × SS) :=
  if score > alpha then do
    let x ← updateBestLine s 0 subLen mv
    let s ← rootPrint env target score x.2 x.1.consult
    pure (score, x.2, s)
  else pure (alpha, curLen, s)

theorem rootImprove_ok {env : Env} {target : Nat} {s : SS} {subLen : Nat} {mv : Move} {score alpha : Int}
    {curLen : Nat} {a : Int} {l : Nat} {s' : SS} :
    rootImprove env target s subLen mv score alpha curLen = .ok (a, l, s') ↔
      score > alpha ∧ a = score ∧ (∃ s1, updateBestLine s 0 subLen mv = .ok (s1, l) ∧
        rootPrint env target score l s1.consult = .ok s') ∨
      ¬score > alpha ∧ a = alpha ∧ l = curLen ∧ s' = s := by
  simp only [rootImprove, ite_ok, bind_ok, pure_ok, Prod.exists, Prod.mk.injEq]
  constructor
  · rintro (⟨h, s1, _, hu, _, hp, rfl, rfl, rfl⟩ | ⟨h, rfl, rfl, rfl⟩)
    · exact .inl ⟨h, rfl, s1, hu, hp⟩
    · exact .inr ⟨h, rfl, rfl, rfl⟩
  · rintro (⟨h, rfl, s1, hu, hp⟩ | ⟨h, rfl, rfl, rfl⟩)
    · exact .inl ⟨h, s1, _, hu, _, hp, rfl, rfl, rfl⟩
    · exact .inr ⟨h, rfl, rfl, rfl⟩

/-- the `select { case <-stop }` poll at the end of a root move, and the move counter -/
def rootStop (env : Env) (s : SS) : SS :=
  let s := s.consult
  let s := if env.stopAt (s.tick - 1) then { s with interrupted := true } else s
  { s with firstMoveIdx := s.firstMoveIdx + 1 }

theorem rootStop_eq (env : Env) (s : SS) : rootStop env s =
    if env.stopAt s.tick then { s.consult with interrupted := true, firstMoveIdx := s.firstMoveIdx + 1 }
    else { s.consult with firstMoveIdx := s.firstMoveIdx + 1 } := by
  unfold rootStop
  simp only [SS.consult_tick, Nat.add_sub_cancel]
  split <;> rfl

theorem rootStop_upd (env : Env) (s : SS) : rootStop env s =
    { s with tick := s.tick + 1, interrupted := s.interrupted || env.stopAt s.tick,
             firstMoveIdx := s.firstMoveIdx + 1 } := by
  rw [rootStop_eq]
  cases env.stopAt s.tick
  · rw [if_neg Bool.false_ne_true, Bool.or_false]; rfl
  · rw [if_pos rfl, Bool.or_true]; rfl

theorem rootStop_tick (env : Env) (s : SS) : (rootStop env s).tick = s.tick + 1 := by
  rw [rootStop_upd]

theorem rootStop_root (env : Env) (s : SS) :
    (rootStop env s).rootMoves = s.rootMoves ∧ (rootStop env s).firstMoveIdx = s.firstMoveIdx + 1 := by
  rw [rootStop_upd]; exact ⟨rfl, rfl⟩

theorem printInfoAfterDepth_eq {s : SS} (h : s.cand ≠ []) (score : Int) (depth : Nat) :
    printInfoAfterDepth s score depth = .ok { s with out := .infoDepth depth score s.nodes s.cand :: s.out } :=
  if_neg (by rwa [List.isEmpty_iff])

theorem printInfoAfterDepth_ok {s score depth s'} (h : printInfoAfterDepth s score depth = .ok s') :
    s.cand ≠ [] ∧ s' = { s with out := .infoDepth depth score s.nodes s.cand :: s.out } := by
  simp only [printInfoAfterDepth, ite_ok, throw_ok, pure_ok, and_false, false_or, List.isEmpty_iff] at h
  exact ⟨h.1, h.2.symm⟩

theorem printInfo_ok {s score depth s'} (h : printInfo s score depth = .ok s') :
    s.cand ≠ [] ∧ s' = { s with out := .infoPv score depth s.nodes s.cand :: s.out } := by
  simp only [printInfo, ite_ok, throw_ok, pure_ok, and_false, false_or, List.isEmpty_iff] at h
  exact ⟨h.1, h.2.symm⟩

/-- the state in which `iterDeep` starts -/
def initSS (rows : Array (Array Move)) (killers : Killers) : SS :=
  { rows, killers, nodes := 0, interrupted := false, tick := 0, matched := 0, cand := [],
    rootMoves := [], firstMoveIdx := 0, out := [] }

/-- `iterDeep` between iteration 1 and the final lines: deepen from depth 2, unless the clock has run out, the search
    is interrupted or the root has a single move (`one`) -/
def deepenFrom (env : Env) (qfuel : Nat) (p : Position) (maxDepth : Nat) (score : Int) (one : Bool) (len0 : Nat)
    (s : SS) : M (Int × Nat × SS) :=
  if !env.timeUp (s.tick - 1) && !s.interrupted && !one then
    deepenLoop env qfuel p maxDepth maxDepth 2 score 1 len0 s
  else pure (score, 1, s)

/-- the end of `iterDeep`: the last `info` line, then `bestmove` with the head of the candidate line -/
def announce (s : SS) (best : Int) (done : Nat) : M SS := do
  let s ← printInfo s best done
  match s.cand with
  | m :: _ => pure { s with out := .bestmove m :: s.out }
  | [] => throw (.index "bestLine.moves[0]" 0)

theorem announce_eq {s : SS} {m : Move} {tl : List Move} (hc : s.cand = m :: tl) (best : Int) (done : Nat) :
    announce s best done = .ok { s with out := .bestmove m :: .infoPv best done s.nodes s.cand :: s.out } := by
  unfold announce printInfo
  rw [if_neg (by rw [hc]; simp)]
  show (match s.cand with | m :: _ => _ | [] => _) = _
  rw [hc]
  rfl

theorem announce_ok {s best done s'} (h : announce s best done = .ok s') :
    ∃ m tl, s.cand = m :: tl ∧ s' = { s with out := .bestmove m :: .infoPv best done s.nodes s.cand :: s.out } := by
  obtain ⟨_, hp, _⟩ := bind_ok.1 h
  obtain ⟨m, tl, hc⟩ := List.exists_cons_of_ne_nil (printInfo_ok hp).1
  rw [announce_eq hc] at h
  exact ⟨m, tl, hc, (Except.ok.inj h).symm⟩

/-! The recursive equations. Results are `(score, length, state)` (`startAlphaBeta`: `(score, oneMove, length, state)`).
A `do`-pattern-bind `let (a, b) ← …` elaborates to a `match` that `rw` cannot see through, so these equations project
(`x.2.2`, `(if … then (score, 0) else (alpha, curLen)).1`); the `_ok` inversions below name the components. -/

theorem quiescence_succ_eq (env : Env) (fuel : Nat) (p : Position) (idx depth : Nat) (alpha beta : Int)
    (curLen : Nat) (s : SS) :
    quiescence env (fuel + 1) p idx depth alpha beta curLen s = (do
      let subLen ← rowLen s (depth + 1)
      let score ← qEval env p depth alpha beta
      let s ← qLog env { s with nodes := s.nodes + 1 }
      if score ≥ beta then pure (beta, curLen, s) else do
      let ms ← generateTacticalMoves p
      let r ← qLoop env (quiescence env fuel) p idx depth beta (env.sortFn ms)
                (if score > alpha then (score, 0) else (alpha, curLen)).1
                (if score > alpha then (score, 0) else (alpha, curLen)).2 subLen s
      pure (r.score, r.curLen, r.st)) := by
  rw [quiescence]
  simp only [qEval, qLog, M.ite_bind]
  -- the bind over the `match` inside `qLog` reduces only once the scrutinee is a constructor
  cases s.rootMoves[s.firstMoveIdx]? <;> rfl

theorem abLoop_cons_eq (env : Env) (child : NodeFn) (p : Position) (idx depth : Nat) (beta : Int)
    (mv : RMove) (rest : List RMove) (alpha : Int) (curLen subLen : Nat) (s : SS) :
    abLoop env child p idx depth beta (mv :: rest) alpha curLen subLen s =
      (if s.interrupted then pure ⟨alpha, curLen, s⟩ else
       if idx + 1 ≥ env.stackCap then throw (.index "posStack" (idx + 1)) else do
       let r ← makeMove p mv.mov
       if !r.2 then throw (.explicit "Applying move resulted in illegal position") else do
       let x ← child r.1 (idx + 1) (depth + 1) (-beta) (-alpha) subLen s
       if -x.1 ≥ beta then
         (if !mv.tactical then do
            let kt ← updateKillers x.2.2.killers p.ply mv.mov
            pure ⟨beta, curLen, { x.2.2 with killers := kt }⟩
          else pure ⟨beta, curLen, x.2.2⟩)
       else do
         let y ← improve x.2.2 depth x.2.1 mv.mov (-x.1) alpha curLen
         if (pollAfterMove env y.2.2).1 then pure ⟨y.1, y.2.1, (pollAfterMove env y.2.2).2⟩
         else abLoop env child p idx depth beta rest y.1 y.2.1 x.2.1 (pollAfterMove env y.2.2).2) := by
  rw [abLoop]
  simp only [improve, M.ite_bind, bind_assoc, pure_bind]

theorem rootLoop_cons_eq (env : Env) (child : NodeFn) (p : Position) (target : Nat)
    (mv : RMove) (rest : List RMove) (alpha : Int) (curLen subLen : Nat) (s : SS) :
    rootLoop env child p target (mv :: rest) alpha curLen subLen s =
      (if s.interrupted then pure ⟨alpha, curLen, s⟩ else
       if 1 ≥ env.stackCap then throw (.index "posStack" 1) else do
       let r ← makeMove p mv.mov
       if !r.2 then throw (.explicit "Applying move resulted in illegal position") else do
       let x ← child r.1 1 1 (-(Gen.InfinityScore : Int)) (-alpha) subLen s
       let y ← rootImprove env target x.2.2 x.2.1 mv.mov (-x.1) alpha curLen
       if y.2.2.interrupted then pure ⟨y.1, y.2.1, y.2.2⟩ else
       if env.timeUp (y.2.2.consult.tick - 1) then pure ⟨y.1, y.2.1, y.2.2.consult⟩ else
       if nextMoveWins (-x.1) then pure ⟨y.1, y.2.1, y.2.2.consult⟩ else
       rootLoop env child p target rest y.1 y.2.1 x.2.1 (rootStop env y.2.2.consult)) := by
  rw [rootLoop]
  simp only [rootImprove, rootPrint, M.ite_bind, M.throw_bind, bind_assoc, pure_bind]
  rfl

theorem deepenLoop_succ_eq (env : Env) (qfuel : Nat) (p : Position) (maxDepth n cur : Nat) (best : Int)
    (done len0 : Nat) (s : SS) :
    deepenLoop env qfuel p maxDepth (n + 1) cur best done len0 s =
      (if cur > maxDepth then pure (best, done, s) else do
       let x ← startAlphaBeta env qfuel p cur len0 s
       if env.timeUp (x.2.2.2.consult.tick - 1) then pure (best, done, x.2.2.2.consult) else
       if x.2.2.2.consult.interrupted then pure (best, done, x.2.2.2.consult) else do
       let s3 ← printInfoAfterDepth (copyBestLine x.2.2.2.consult x.2.2.1) x.1 cur
       if pliesToMate x.1 == cur then pure (x.1, cur, s3) else
       if x.2.1 then pure (x.1, cur, s3) else
       deepenLoop env qfuel p maxDepth n (cur + 1) x.1 cur x.2.2.1 s3) := by
  rw [deepenLoop]

theorem iterDeep_eq (env : Env) (qfuel : Nat) (p : Position) (maxDepth : Nat) (killers : Killers)
    (rows : Array (Array Move)) (len0 : Nat) :
    iterDeep env qfuel p maxDepth killers rows len0 = (do
      let x ← startAlphaBeta env qfuel p 1 len0 (initSS rows killers)
      if (copyBestLine x.2.2.2 x.2.2.1).cand.isEmpty then
        pure { copyBestLine x.2.2.2 x.2.2.1 with out := .bestmoveNone :: .infoTerminal x.1 :: x.2.2.2.out }
      else do
        let y ← deepenFrom env qfuel p maxDepth x.1 x.2.1 x.2.2.1 (copyBestLine x.2.2.2 x.2.2.1).consult
        announce y.2.2 y.1 y.2.1) := by
  rw [iterDeep]
  simp only [deepenFrom, announce, M.ite_bind, pure_bind]
  rfl

theorem qLoop_cons_ok {env : Env} {child : NodeFn} {p : Position} {idx d : Nat} {β : Int} {mv : RMove}
    {rest : List RMove} {α : Int} {cl sl : Nat} {s : SS} {r : LoopOut} :
    qLoop env child p idx d β (mv :: rest) α cl sl s = .ok r ↔
      ¬idx + 1 ≥ env.stackCap ∧ ∃ q legal, makeMove p mv.mov = .ok (q, legal) ∧ legal = true ∧
        ∃ v sl' s1, child q (idx + 1) (d + 1) (-β) (-α) sl s = .ok (v, sl', s1) ∧
          (s1.interrupted = true ∧ r = ⟨α, cl, s1⟩ ∨
           ¬s1.interrupted = true ∧
            (env.timeUp s1.tick = true ∧ r = ⟨α, cl, s1.consult⟩ ∨
             ¬env.timeUp s1.tick = true ∧
              (-v ≥ β ∧ r = ⟨β, cl, s1.consult⟩ ∨
               ¬-v ≥ β ∧
                ((-v > α ∧ ∃ s2 cl', updateBestLine s1.consult d sl' mv.mov = .ok (s2, cl') ∧
                    qLoop env child p idx d β rest (-v) cl' sl' s2 = .ok r) ∨
                 ¬-v > α ∧ qLoop env child p idx d β rest α cl sl' s1.consult = .ok r)))) := by
  simp only [qLoop, ite_ok, bind_ok, pure_ok', throw_ok, Prod.exists, SS.consult_tick, Nat.add_sub_cancel, and_false,
    false_or, Bool.not_eq_true', Bool.not_eq_false]

theorem quiescence_succ_ok {env : Env} {fuel : Nat} {p : Position} {idx d : Nat} {α β : Int} {cl : Nat} {s : SS}
    {v : Int} {l : Nat} {r : SS} :
    quiescence env (fuel + 1) p idx d α β cl s = .ok (v, l, r) ↔
      ∃ sl, rowLen s (d + 1) = .ok sl ∧ ∃ score, qEval env p d α β = .ok score ∧
        ∃ s1, qLog env { s with nodes := s.nodes + 1 } = .ok s1 ∧
          (score ≥ β ∧ v = β ∧ l = cl ∧ r = s1 ∨
           ¬score ≥ β ∧ ∃ ms, generateTacticalMoves p = .ok ms ∧
             ∃ o, qLoop env (quiescence env fuel) p idx d β (env.sortFn ms)
                   (if score > α then (score, 0) else (α, cl)).1 (if score > α then (score, 0) else (α, cl)).2 sl s1
                   = .ok o ∧ v = o.score ∧ l = o.curLen ∧ r = o.st) := by
  simp only [quiescence_succ_eq, ite_ok, bind_ok, pure_ok', Prod.mk.injEq]

theorem abLoop_cons_ok {env : Env} {child : NodeFn} {p : Position} {idx d : Nat} {β : Int} {mv : RMove}
    {rest : List RMove} {α : Int} {cl sl : Nat} {s : SS} {r : LoopOut} :
    abLoop env child p idx d β (mv :: rest) α cl sl s = .ok r ↔
      s.interrupted = true ∧ r = ⟨α, cl, s⟩ ∨
      ¬s.interrupted = true ∧ ¬idx + 1 ≥ env.stackCap ∧
        ∃ q legal, makeMove p mv.mov = .ok (q, legal) ∧ legal = true ∧
          ∃ v sl' s1, child q (idx + 1) (d + 1) (-β) (-α) sl s = .ok (v, sl', s1) ∧
            (-v ≥ β ∧
              ((mv.tactical = false ∧ ∃ kt, updateKillers s1.killers p.ply mv.mov = .ok kt ∧
                  r = ⟨β, cl, { s1 with killers := kt }⟩) ∨
               mv.tactical = true ∧ r = ⟨β, cl, s1⟩) ∨
             ¬-v ≥ β ∧ ∃ a l s2, improve s1 d sl' mv.mov (-v) α cl = .ok (a, l, s2) ∧
               ((pollAfterMove env s2).1 = true ∧ r = ⟨a, l, (pollAfterMove env s2).2⟩ ∨
                ¬(pollAfterMove env s2).1 = true ∧
                  abLoop env child p idx d β rest a l sl' (pollAfterMove env s2).2 = .ok r)) := by
  simp only [abLoop_cons_eq, ite_ok, bind_ok, pure_ok', throw_ok, Prod.exists, and_false, false_or, Bool.not_eq_true',
    Bool.not_eq_false]

theorem alphaBeta_succ_ok {env : Env} {qfuel rem : Nat} {p : Position} {idx d : Nat} {α β : Int} {cl : Nat} {s : SS}
    {v : Int} {l : Nat} {r : SS} :
    alphaBeta env qfuel (rem + 1) p idx d α β cl s = .ok (v, l, r) ↔
      ∃ sl, rowLen s (d + 1) = .ok sl ∧ ∃ ms, generateMoves s.killers p = .ok ms ∧
        (ms.isEmpty = true ∧ (∃ w, terminalNodeScore p d = .ok w ∧ v = w ∧ l = 0 ∧
            r = { s with nodes := s.nodes + 1 }) ∨
         ¬ms.isEmpty = true ∧
           ∃ o, abLoop env (alphaBeta env qfuel rem) p idx d β (env.sortFn (applyPvBonus s.cand s.matched d ms).1) α cl
                 sl { s with matched := (applyPvBonus s.cand s.matched d ms).2 } = .ok o ∧
             v = o.score ∧ l = o.curLen ∧ r = o.st) := by
  simp only [alphaBeta, ite_ok, bind_ok, pure_ok', Prod.mk.injEq]

theorem rootLoop_cons_ok {env : Env} {child : NodeFn} {p : Position} {target : Nat} {mv : RMove}
    {rest : List RMove} {α : Int} {cl sl : Nat} {s : SS} {r : LoopOut} :
    rootLoop env child p target (mv :: rest) α cl sl s = .ok r ↔
      s.interrupted = true ∧ r = ⟨α, cl, s⟩ ∨
      ¬s.interrupted = true ∧ ¬1 ≥ env.stackCap ∧
        ∃ q legal, makeMove p mv.mov = .ok (q, legal) ∧ legal = true ∧
          ∃ v sl' s1, child q 1 1 (-(Gen.InfinityScore : Int)) (-α) sl s = .ok (v, sl', s1) ∧
            ∃ a l s2, rootImprove env target s1 sl' mv.mov (-v) α cl = .ok (a, l, s2) ∧
              (s2.interrupted = true ∧ r = ⟨a, l, s2⟩ ∨
               ¬s2.interrupted = true ∧
                (env.timeUp s2.tick = true ∧ r = ⟨a, l, s2.consult⟩ ∨
                 ¬env.timeUp s2.tick = true ∧
                  (nextMoveWins (-v) = true ∧ r = ⟨a, l, s2.consult⟩ ∨
                   ¬nextMoveWins (-v) = true ∧
                     rootLoop env child p target rest a l sl' (rootStop env s2.consult) = .ok r))) := by
  simp only [rootLoop_cons_eq, ite_ok, bind_ok, pure_ok', throw_ok, Prod.exists, and_false, false_or, SS.consult_tick,
    Nat.add_sub_cancel, Bool.not_eq_true', Bool.not_eq_false]

theorem startAlphaBeta_ok {env : Env} {qfuel : Nat} {p : Position} {target cl : Nat} {s : SS} {v : Int} {one : Bool}
    {l : Nat} {r : SS} :
    startAlphaBeta env qfuel p target cl s = .ok (v, one, l, r) ↔
      ∃ sl, rowLen s 1 = .ok sl ∧ ∃ ms, generateMoves s.killers p = .ok ms ∧
        (ms.isEmpty = true ∧ (∃ w, terminalNodeScore p 0 = .ok w ∧ v = w ∧ one = false ∧ l = 0 ∧
            r = { s with nodes := s.nodes + 1, rootMoves := [] }) ∨
         ¬ms.isEmpty = true ∧
           ∃ o, rootLoop env (alphaBeta env qfuel (target - 1)) p target
                 (env.sortFn (applyPvBonus s.cand s.matched 0 ms).1) Gen.MinusInfinityScore cl sl
                 { s with matched := (applyPvBonus s.cand s.matched 0 ms).2,
                          rootMoves := env.sortFn (applyPvBonus s.cand s.matched 0 ms).1, firstMoveIdx := 0 } = .ok o ∧
             v = o.score ∧ one = ((env.sortFn (applyPvBonus s.cand s.matched 0 ms).1).length == 1) ∧
               l = o.curLen ∧ r = o.st) := by
  simp only [startAlphaBeta, ite_ok, bind_ok, pure_ok', Prod.mk.injEq]

theorem deepenLoop_succ_ok {env : Env} {qfuel : Nat} {p : Position} {maxDepth n cur : Nat} {best : Int}
    {done len0 : Nat} {s : SS} {best' : Int} {done' : Nat} {s' : SS} :
    deepenLoop env qfuel p maxDepth (n + 1) cur best done len0 s = .ok (best', done', s') ↔
      cur > maxDepth ∧ best' = best ∧ done' = done ∧ s' = s ∨
      ¬cur > maxDepth ∧ ∃ score one l1 s1, startAlphaBeta env qfuel p cur len0 s = .ok (score, one, l1, s1) ∧
        (env.timeUp s1.tick = true ∧ best' = best ∧ done' = done ∧ s' = s1.consult ∨
         ¬env.timeUp s1.tick = true ∧
          (s1.consult.interrupted = true ∧ best' = best ∧ done' = done ∧ s' = s1.consult ∨
           ¬s1.consult.interrupted = true ∧
             ∃ s3, printInfoAfterDepth (copyBestLine s1.consult l1) score cur = .ok s3 ∧
               ((pliesToMate score == cur) = true ∧ best' = score ∧ done' = cur ∧ s' = s3 ∨
                ¬(pliesToMate score == cur) = true ∧
                 (one = true ∧ best' = score ∧ done' = cur ∧ s' = s3 ∨
                  ¬one = true ∧
                    deepenLoop env qfuel p maxDepth n (cur + 1) score cur l1 s3 = .ok (best', done', s'))))) := by
  simp only [deepenLoop_succ_eq, ite_ok, bind_ok, pure_ok', Prod.exists, Prod.mk.injEq, SS.consult_tick,
    Nat.add_sub_cancel]

end Magog.Model
