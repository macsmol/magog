import Magog.Lemmas.LogIndep
import Magog.Lemmas.DeadlineGhost
import Magog.Lemmas.PvWitness

/-! Concrete, kernel-evaluated runs of the search model on two tiny positions; used as non-vacuity
    witnesses for the theorems about `iterDeep` / `deepenLoop`. The PV-table runs `pvRun`, `hugeRun` and the facts
    read off them (`pvRun_ok`, `kk_evalFinite`, …) are declared here too, in the namespace `Model.PvWitness`. -/

namespace Magog.Model.SearchExamples
open Magog Magog.Model

/-- an environment with the given clock / stop-channel oracles, identity sort, trivial blend -/
def exEnv (timeUp stopAt : Nat → Bool) : Env :=
  { blend := fun _ a _ => a, sortFn := id, timeUp, stopAt,
    gateOpen := fun _ => true, logInterval := 7, pvRows := 6 }

def quietEnv : Env := exEnv (fun _ => false) (fun _ => false)

theorem quietEnv_quiet : quietEnv.Quiet := fun _ => ⟨rfl, rfl⟩

/-- the clock runs out at consultation 40 (in the middle of iteration 3 on `kkPos`) -/
def timedEnv : Env := exEnv (fun n => decide (n ≥ 40)) (fun _ => false)

/-- white Ka1, black Kh8, white to move -/
def kkPos : Position :=
  { board := (Array.replicate 128 0 |>.setIfInBounds 0 (WhiteBit ||| King)).setIfInBounds 0x77 (BlackBit ||| King),
    blackPieces := [], whitePieces := [], blackPawns := [], whitePawns := [],
    blackKing := 0x77, whiteKing := 0, flags := FWhiteTurn, ep := InvalidSq, ply := 0 }

/-- white Ka1, black Kh8, Qc2, white to move: stalemate -/
def stalePos : Position :=
  { board := ((Array.replicate 128 0 |>.setIfInBounds 0 (WhiteBit ||| King)).setIfInBounds 0x77
      (BlackBit ||| King)).setIfInBounds 0x12 (BlackBit ||| Queen),
    blackPieces := [0x12], whitePieces := [], blackPawns := [], whitePawns := [],
    blackKing := 0x77, whiteKing := 0, flags := FWhiteTurn, ep := InvalidSq, ply := 0 }

def run (env : Env) (p : Position) (maxDepth : Nat) : M SS :=
  iterDeep env 3 p maxDepth Killers.empty (newRows 6) 6

def endsWithBest (done bound : Nat) : M SS → Bool
  | .ok s => match s.out with
    | .bestmove _ :: .infoPv _ d _ _ :: _ => d == done && decide (s.tick ≤ bound)
    | _ => false
  | .error _ => false

def endsWithNone : M SS → Bool
  | .ok s => match s.out with
    | .bestmoveNone :: _ => true
    | _ => false
  | .error _ => false

theorem endsWithBest_elim {done bound : Nat} {r : M SS} (h : endsWithBest done bound r = true) :
    ∃ s m best nodes pv rest, r = .ok s ∧ s.out = .bestmove m :: .infoPv best done nodes pv :: rest ∧
      s.tick ≤ bound := by
  unfold endsWithBest at h
  split at h
  · rename_i s
    split at h
    · rename_i m best d nodes pv rest heq
      have : d = done ∧ s.tick ≤ bound := by simpa using h
      obtain ⟨rfl, hb⟩ := this
      exact ⟨s, m, best, nodes, pv, rest, rfl, heq, hb⟩
    · exact absurd h (by simp)
  · exact absurd h (by simp)

theorem endsWithNone_elim {r : M SS} (h : endsWithNone r = true) :
    ∃ s rest, r = .ok s ∧ s.out = .bestmoveNone :: rest := by
  unfold endsWithNone at h
  split at h
  · rename_i s
    split at h
    · rename_i rest heq
      exact ⟨s, rest, rfl, heq⟩
    · exact absurd h (by simp)
  · exact absurd h (by simp)

/-- like `timedEnv`, but the oracles answer differently from consultation 100 on -/
def timedEnv' : Env := exEnv (fun n => decide (n ≥ 40) && decide (n < 100)) (fun n => decide (n ≥ 100))

/-- the state before iteration 2 in the example of `deepenLoop_discard` (`Props/C11.lean`): a fresh state -/
def freshSS : SS := initSS (newRows 6) Killers.empty

def earlyEnv : Env := exEnv (fun n => decide (n ≥ 5)) (fun _ => false)

end Magog.Model.SearchExamples

namespace Magog.Model.PvWitness
open Magog Magog.Model SearchExamples

/-! ### The runs for the PV theorems: Ka1 vs Kh8, a table of 4 rows, one ply of quiescence -/

/-- `go depth 2`; the table has 4 rows, so nodes exist at depths `0 … 2` -/
def pvRun : M SS := iterDeep quietEnv 1 kkPos 2 Killers.empty (newRows 4) 4

def junkRows : Array (Array Move) := (newRows 4).map fun r => r.map fun _ => (⟨1, 2, 3, 4⟩ : Move)

def pvRunJunk : M SS := iterDeep quietEnv 1 kkPos 2 Killers.empty junkRows 3

theorem quietEnv_perm : Magog.Lemmas.AlphaBeta.PermSort quietEnv := fun l => List.Perm.refl l

theorem newRows4_size : (newRows 4).size = 4 := by simp [newRows]

theorem junkRows_shape : (newRows 4).size = junkRows.size ∧
    ∀ i : Nat, ((newRows 4)[i]?).map (·.size) = (junkRows[i]?).map (·.size) := by
  unfold junkRows
  refine ⟨by simp, fun i => ?_⟩
  rw [Array.getElem?_map, Option.map_map]
  congr 1
  funext r
  simp

/-! Sharpness: a run with an infinite static evaluation prints a stale line. With `hugeEnv` the static evaluation of
the position after `Ka1-a2` is `≤ −∞` from the mover's point of view: the depth-1 node returns `α = −∞` without writing
row 1, the root sees `+∞ > −∞` and copies the whole stale row. -/

def hugeEnv : Env := { quietEnv with blend := fun _ _ e => e * 100000000 }

def hugeRun : M SS := iterDeep hugeEnv 1 kkPos 1 Killers.empty (newRows 4) 4

def hugeRunJunk : M SS := iterDeep hugeEnv 1 kkPos 1 Killers.empty junkRows 3

end Magog.Model.PvWitness

namespace Magog.Model.SearchExamples
open Magog Magog.Model PvWitness

/-- All runs on `kkPos` and `stalePos`, evaluated in one go: they visit the same few positions, and within one
    evaluation the kernel generates and scores each of them once. Four groups, taken apart by position. The first
    is how whole searches end (`endsWithBest done bound`: a best move after an `infoPv` of depth `done`, within
    `bound` consultations; the stalemate `stalePos` ends with `bestmoveNone`): `quiet_run2`, `timed_run3`,
    `timed_run2`, `stale_run` name its conjuncts. The second group is the same `go depth 2` under
    three logging intervals (`runStats`: `currmove` lines, all lines, nodes); with interval 0 the run panics. The third
    group is what `Props/C10.lean` and `Props/C14.lean` ask about the PV table: a depth-2 line is printed, the static
    evaluation is small on everything within two plies, and under `hugeEnv` a stale line is printed that depends on
    the table's old content. The fourth group is what `Props/C13Deadline.lean` asks about the deadline: the
    instrumented search under `timedEnv` (13 nodes when the clock ran out, 14 at the end) and under the quiet oracle
    (the ghost is never set), iteration 2 cut short by `earlyEnv`, and the deepening loop and a whole search under a
    clock that is up from the start. -/
theorem runs :
    (endsWithBest 2 40 (run quietEnv kkPos 2) = true ∧ endsWithBest 2 100 (run timedEnv kkPos 3) = true ∧
      endsWithBest 2 40 (run timedEnv kkPos 2) = true ∧ endsWithNone (run quietEnv stalePos 3) = true) ∧
    (runStats (run quietEnv kkPos 2) = some (1, 10, 12) ∧
      runStats (run { quietEnv with logInterval := 1 } kkPos 2) = some (12, 21, 12) ∧
      runStats (run { quietEnv with logInterval := 0 } kkPos 2) = none) ∧
    (hasPv2 pvRun = true ∧ levelsBoundedB quietEnv.blend kkPos 2 = true ∧ printsIllegal kkPos hugeRun = true ∧
      outsDiffer hugeRun hugeRunJunk = true) ∧
    (okAnd' (fun r => r.1.nodes == 14 && r.2 == some 13)
        (iterDeepG timedEnv 3 kkPos 3 Killers.empty (newRows 6) 6) = true ∧
      okAnd' (fun r => r.2 == none) (iterDeepG quietEnv 3 kkPos 2 Killers.empty (newRows 6) 6) = true ∧
      okAnd' (fun x => earlyEnv.timeUp x.2.2.2.tick) (startAlphaBeta earlyEnv 3 kkPos 2 6 freshSS) = true ∧
      okAnd' (fun _ => true) (deepenLoop (exEnv (fun _ => true) (fun _ => false)) 3 kkPos 3 3 2 17 1 6 freshSS) = true ∧
      okAnd' (fun s => s.nodes == 1) (run (exEnv (fun _ => true) (fun _ => false)) kkPos 3) = true) := by
  decide +kernel

/-- `go depth 2` on `kkPos` under the quiet oracle completes iterations 1 and 2 -/
theorem quiet_run2 : endsWithBest 2 40 (run quietEnv kkPos 2) = true := runs.1.1

/-- `go depth 3` on `kkPos` with the clock running out during iteration 3 plays the depth-2 move -/
theorem timed_run3 : endsWithBest 2 100 (run timedEnv kkPos 3) = true := runs.1.2.1

/-- `go depth 2` on `kkPos` under `timedEnv` needs at most 40 consultations (all answered "no") -/
theorem timed_run2 : endsWithBest 2 40 (run timedEnv kkPos 2) = true := let ⟨⟨_, _, h, _⟩, _⟩ := runs; h

theorem stale_run : endsWithNone (run quietEnv stalePos 3) = true := let ⟨⟨_, _, _, h⟩, _⟩ := runs; h

theorem stoppedIteration_elim :
    ∃ score one len1 s1, startAlphaBeta earlyEnv 3 kkPos 2 6 freshSS = .ok (score, one, len1, s1) ∧
      (earlyEnv.timeUp s1.tick = true ∨ s1.interrupted = true) := by
  obtain ⟨-, -, -, -, -, h, -⟩ := runs
  obtain ⟨⟨score, one, len1, s1⟩, hx, ht⟩ := okAnd'_elim h
  exact ⟨score, one, len1, s1, hx, .inl ht⟩

end Magog.Model.SearchExamples

namespace Magog.Model.PvWitness
open Magog Magog.Model SearchExamples

theorem pvRun_ok : hasPv2 pvRun = true := let ⟨_, _, ⟨h, _⟩, _⟩ := runs; h

theorem kk_levels : levelsBoundedB quietEnv.blend kkPos 2 = true := let ⟨_, _, ⟨_, h, _⟩, _⟩ := runs; h

theorem kk_evalFinite : EvalFinite quietEnv (Reach kkPos 2) (newRows 4).size := by
  rw [newRows4_size]
  exact evalFinite_of_levels (Nat.le_refl _) (by decide) kk_levels

theorem hugeRun_illegal : printsIllegal kkPos hugeRun = true := let ⟨_, _, ⟨_, _, h, _⟩, _⟩ := runs; h

theorem hugeRun_differ : outsDiffer hugeRun hugeRunJunk = true := let ⟨_, _, ⟨_, _, _, h⟩, _⟩ := runs; h

end Magog.Model.PvWitness
