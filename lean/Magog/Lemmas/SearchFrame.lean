import Magog.Lemmas.SearchSim

/-! Frame lemmas for the search model: what a call of `quiescence` / `alphaBeta` / `startAlphaBeta`
    can and cannot do to the search state. -/

namespace Magog.Model
open Magog

/-- events that may be printed *inside* an iteration -/
def Event.isSearchInfo : Event → Bool
  | .infoPv .. => true
  | .currmove .. => true
  | _ => false

/-- A relation between the state before and after a piece of search code that is reflexive,
    transitive and preserved by every primitive state update of `Search.lean` below the iterative-deepening
    driver. -/
structure FrameRel (env : Env) (R : SS → SS → Prop) : Prop where
  refl : ∀ s, R s s
  trans : ∀ {a b c}, R a b → R b c → R a c
  consult : ∀ s, R s s.consult
  nodes : ∀ s, R s { s with nodes := s.nodes + 1 }
  killers : ∀ s k, R s { s with killers := k }
  rows : ∀ s r, R s { s with rows := r }
  matched : ∀ s m, R s { s with matched := m }
  rootMoves : ∀ s m, R s { s with rootMoves := m }
  firstMoveIdx : ∀ s i, R s { s with firstMoveIdx := i }
  /-- `interrupted = true` is only ever set right after the stop channel answered "yes" -/
  interrupt : ∀ s, env.stopAt (s.tick - 1) = true → R s { s with interrupted := true }
  /-- root pv lines are only printed when non-empty -/
  infoPv : ∀ s score d n pv, pv ≠ [] → R s { s with out := .infoPv score d n pv :: s.out }
  currmove : ∀ s m k n, R s { s with out := .currmove m k n :: s.out }

def NodeFrame (R : SS → SS → Prop) (f : NodeFn) : Prop :=
  ∀ p idx d a b l s v l' s', f p idx d a b l s = .ok (v, l', s') → R s s'

/-- A frame relation, followed from a start state `s0`, as a relation between two runs of the same code under
    the same environment: the second run is the first. -/
theorem FrameRel.simRel {env R} (F : FrameRel env R) (s0 : SS) (hi : Nat) :
    SimRel env env hi (fun _ => True) (fun s t => t = s ∧ R s0 s) where
  blend := rfl
  sortFn := rfl
  lazy := rfl
  stackCap := rfl
  oracle _ _ := ⟨rfl, rfl, rfl⟩
  same h := ⟨_, h.1⟩
  consult h := ⟨by rw [h.1], F.trans h.2 (F.consult _)⟩
  nodes h := ⟨by rw [h.1], F.trans h.2 (F.nodes _)⟩
  killers k h := ⟨by rw [h.1], F.trans h.2 (F.killers _ k)⟩
  rows r h := ⟨by rw [h.1], F.trans h.2 (F.rows _ r)⟩
  matched m h := ⟨by rw [h.1], F.trans h.2 (F.matched _ m)⟩
  rootMoves m h := ⟨by rw [h.1], F.trans h.2 (F.rootMoves _ m)⟩
  firstMoveIdx i h := ⟨by rw [h.1], F.trans h.2 (F.firstMoveIdx _ i)⟩
  interrupt hs h := ⟨by rw [h.1], F.trans h.2 (F.interrupt _ hs)⟩
  infoPv score d n pv hpv h := ⟨by rw [h.1], F.trans h.2 (F.infoPv _ score d n pv hpv)⟩
  log := by
    rintro s _ r ⟨rfl, h⟩ _ hl
    refine ⟨r, hl, rfl, F.trans h ?_⟩
    obtain ⟨_, rfl, rfl | ⟨_, _, _, rfl⟩⟩ := qLog_out hl
    · exact F.refl _
    · exact F.currmove _ _ _ _
  keep _ _ := trivial
  inRange _ := trivial

theorem quiescence_frame {env R} (F : FrameRel env R) (fuel : Nat) : NodeFrame R (quiescence env fuel) := by
  intro p idx d a b l s v l' s' h
  obtain ⟨_, _, _, hr⟩ := ((F.simRel s s'.tick).sim_quiescence fuel h).2 ⟨rfl, F.refl s⟩ trivial (Nat.le_refl _)
  exact hr

theorem alphaBeta_frame {env R} (F : FrameRel env R) (qfuel rem : Nat) : NodeFrame R (alphaBeta env qfuel rem) := by
  intro p idx d a b l s v l' s' h
  obtain ⟨_, _, _, hr⟩ := ((F.simRel s s'.tick).sim_alphaBeta qfuel rem h).2 ⟨rfl, F.refl s⟩ trivial (Nat.le_refl _)
  exact hr

theorem startAlphaBeta_frame {env R} (F : FrameRel env R) {qfuel p target curLen s v one l s'}
    (h : startAlphaBeta env qfuel p target curLen s = .ok (v, one, l, s')) : R s s' := by
  obtain ⟨_, _, _, hr⟩ := ((F.simRel s s'.tick).sim_startAlphaBeta h).2 ⟨rfl, F.refl s⟩ (Nat.le_refl _)
  exact hr

def Event.pvOk : Event → Bool
  | .infoPv _ _ _ pv => !pv.isEmpty
  | .infoDepth _ _ _ pv => !pv.isEmpty
  | _ => true

structure SearchFrame (s s' : SS) : Prop where
  out : ∃ added, s'.out = added ++ s.out ∧ ∀ e ∈ added, e.isSearchInfo = true ∧ e.pvOk = true
  cand : s'.cand = s.cand
  tick : s.tick ≤ s'.tick
  interrupted : s.interrupted = true → s'.interrupted = true

theorem SearchFrame.quiet {s s' : SS} (ho : s'.out = s.out) (hc : s'.cand = s.cand) (ht : s.tick ≤ s'.tick)
    (hi : s.interrupted = true → s'.interrupted = true) : SearchFrame s s' :=
  ⟨⟨[], ho, by simp⟩, hc, ht, hi⟩

theorem SearchFrame.trans {a b c : SS} (h1 : SearchFrame a b) (h2 : SearchFrame b c) : SearchFrame a c := by
  obtain ⟨⟨l1, e1, p1⟩, c1, t1, i1⟩ := h1
  obtain ⟨⟨l2, e2, p2⟩, c2, t2, i2⟩ := h2
  refine ⟨⟨l2 ++ l1, by rw [e2, e1, List.append_assoc], ?_⟩, c2.trans c1, Nat.le_trans t1 t2, fun h => i2 (i1 h)⟩
  intro e he
  rcases List.mem_append.1 he with he | he
  · exact p2 e he
  · exact p1 e he

theorem SearchFrame.push (s : SS) (e : Event) (h1 : e.isSearchInfo = true) (h2 : e.pvOk = true) :
    SearchFrame s { s with out := e :: s.out } :=
  ⟨⟨[e], rfl, by intro e' he'; simp only [List.mem_singleton] at he'; subst he'; exact ⟨h1, h2⟩⟩, rfl, Nat.le_refl _, id⟩

theorem searchFrame_rel (env : Env) : FrameRel env SearchFrame where
  refl s := .quiet rfl rfl (Nat.le_refl _) id
  trans := SearchFrame.trans
  consult s := .quiet rfl rfl (Nat.le_succ _) id
  nodes s := .quiet rfl rfl (Nat.le_refl _) id
  killers s k := .quiet rfl rfl (Nat.le_refl _) id
  rows s r := .quiet rfl rfl (Nat.le_refl _) id
  matched s m := .quiet rfl rfl (Nat.le_refl _) id
  rootMoves s m := .quiet rfl rfl (Nat.le_refl _) id
  firstMoveIdx s i := .quiet rfl rfl (Nat.le_refl _) id
  interrupt s _ := .quiet rfl rfl (Nat.le_refl _) fun _ => rfl
  infoPv s score d n pv hpv := SearchFrame.push s _ rfl (by cases pv <;> simp_all [Event.pvOk])
  currmove s m k n := SearchFrame.push s _ rfl rfl

theorem quiescence_searchFrame {env fuel p idx d a b l s v l' s'}
    (h : quiescence env fuel p idx d a b l s = .ok (v, l', s')) : SearchFrame s s' :=
  quiescence_frame (searchFrame_rel env) fuel _ _ _ _ _ _ _ _ _ _ h

theorem alphaBeta_searchFrame {env qfuel rem p idx d a b l s v l' s'}
    (h : alphaBeta env qfuel rem p idx d a b l s = .ok (v, l', s')) : SearchFrame s s' :=
  alphaBeta_frame (searchFrame_rel env) qfuel rem _ _ _ _ _ _ _ _ _ _ h

theorem startAlphaBeta_searchFrame {env qfuel p target curLen s v one l s'}
    (h : startAlphaBeta env qfuel p target curLen s = .ok (v, one, l, s')) : SearchFrame s s' :=
  startAlphaBeta_frame (searchFrame_rel env) h

def Env.Quiet (env : Env) : Prop := ∀ n, env.timeUp n = false ∧ env.stopAt n = false

def StaysUninterrupted (s s' : SS) : Prop := s.interrupted = false → s'.interrupted = false

theorem staysUninterrupted_rel (env : Env) (hq : ∀ n, env.stopAt n = false) : FrameRel env StaysUninterrupted where
  refl _ := id
  trans h1 h2 := fun h => h2 (h1 h)
  consult _ := id
  nodes _ := id
  killers _ _ := id
  rows _ _ := id
  matched _ _ := id
  rootMoves _ _ := id
  firstMoveIdx _ _ := id
  interrupt s h := by rw [hq] at h; exact absurd h (by simp)
  infoPv _ _ _ _ _ _ := id
  currmove _ _ _ _ := id

theorem startAlphaBeta_quiet {env qfuel p target curLen s v one l s'} (hq : ∀ n, env.stopAt n = false)
    (h : startAlphaBeta env qfuel p target curLen s = .ok (v, one, l, s')) (hs : s.interrupted = false) :
    s'.interrupted = false :=
  startAlphaBeta_frame (staysUninterrupted_rel env hq) h hs

theorem alphaBeta_quiet {env qfuel rem p idx d a b l s v l' s'} (hq : ∀ n, env.stopAt n = false)
    (h : alphaBeta env qfuel rem p idx d a b l s = .ok (v, l', s')) (hs : s.interrupted = false) :
    s'.interrupted = false :=
  alphaBeta_frame (staysUninterrupted_rel env hq) qfuel rem _ _ _ _ _ _ _ _ _ _ h hs

theorem quiescence_quiet {env fuel p idx d a b l s v l' s'} (hq : ∀ n, env.stopAt n = false)
    (h : quiescence env fuel p idx d a b l s = .ok (v, l', s')) (hs : s.interrupted = false) :
    s'.interrupted = false :=
  quiescence_frame (staysUninterrupted_rel env hq) fuel _ _ _ _ _ _ _ _ _ _ h hs

end Magog.Model
