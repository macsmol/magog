import Magog.Lemmas.SearchFrame

/-! Analysis of the iterative-deepening driver (`deepenLoop`, `iterDeep`) on top of the frame lemmas: what a run
    of `deepenLoop` prints and returns (`DeepenSpec`, `deepenLoop_spec`); a successful `iterDeep` taken apart into
    iteration 1, `deepenFrom` and `announce` (`iterDeep_cases`) and the same read off the output alone
    (`iterDeep_shape`, what C10 and C11 match on); an iteration that ends past the deadline or interrupted is
    dropped (`deepenLoop_discard`); under a quiet oracle deepening ends below `maxDepth` only for a `StopReason`
    (`deepenLoop_quiet`, `iterDeep_quiet_stop`). -/

namespace Magog.Model
open Magog

def Event.isBest : Event → Bool
  | .bestmove _ => true
  | .bestmoveNone => true
  | _ => false

/-- events that `deepenLoop` may print -/
def Event.isIterEvent : Event → Bool
  | .infoPv .. => true
  | .currmove .. => true
  | .infoDepth .. => true
  | _ => false

def Event.depth? : Event → Option Nat
  | .infoDepth d _ _ _ => some d
  | _ => none

def depthsOf (l : List Event) : List Nat := l.filterMap Event.depth?

theorem depthsOf_append (a b : List Event) : depthsOf (a ++ b) = depthsOf a ++ depthsOf b :=
  List.filterMap_append ..

theorem mem_depthsOf {l : List Event} {d : Nat} :
    d ∈ depthsOf l ↔ ∃ sc n pv, Event.infoDepth d sc n pv ∈ l := by
  simp only [depthsOf, List.mem_filterMap]
  constructor
  · rintro ⟨e, he, hd⟩
    cases e <;> simp only [Event.depth?, Option.some.injEq, reduceCtorEq] at hd
    subst hd; exact ⟨_, _, _, he⟩
  · rintro ⟨sc, n, pv, he⟩; exact ⟨_, he, rfl⟩

theorem depthsOf_searchInfo {l : List Event} (h : ∀ e ∈ l, e.isSearchInfo = true) : depthsOf l = [] := by
  simp only [depthsOf, List.filterMap_eq_nil_iff]
  intro e he
  have := h e he
  cases e <;> simp only [Event.isSearchInfo, Event.depth?, Bool.false_eq_true] at this ⊢

theorem isSearchInfo_isIterEvent {e : Event} (h : e.isSearchInfo = true) : e.isIterEvent = true := by
  cases e <;> simp only [Event.isSearchInfo, Event.isIterEvent, Bool.false_eq_true] at h ⊢

theorem isIterEvent_not_isBest {e : Event} (h : e.isIterEvent = true) : e.isBest = false := by
  cases e <;> simp only [Event.isBest, Event.isIterEvent, Bool.false_eq_true] at h ⊢

/-- What a run of `deepenLoop` starting at iteration `cur` with the accepted result `(best, done)` does:
    it appends `added` (search info and `infoDepth` lines, all with non-empty pv), and
    either no iteration was accepted and nothing else changes; or iterations `cur … done'` were accepted, each
    announced by its `infoDepth` event, the last one carrying the returned score and the stored line. -/
def DeepenSpec (maxDepth cur : Nat) (best : Int) (done : Nat) (s : SS) (best' : Int) (done' : Nat) (s' : SS) :
    Prop :=
  ∃ added, s'.out = added ++ s.out ∧ (∀ e ∈ added, e.isIterEvent = true ∧ e.pvOk = true) ∧
    ((depthsOf added = [] ∧ best' = best ∧ done' = done ∧ s'.cand = s.cand) ∨
     (cur ≤ done' ∧ done' ≤ maxDepth ∧ (depthsOf added).reverse = List.range' cur (done' + 1 - cur) ∧
       ∃ nodes', Event.infoDepth done' best' nodes' s'.cand ∈ added))

theorem searchFrame_iter {s s' : SS} (h : SearchFrame s s') :
    ∃ added, s'.out = added ++ s.out ∧ (∀ e ∈ added, e.isIterEvent = true ∧ e.pvOk = true) ∧ depthsOf added = [] := by
  obtain ⟨added, e, hp⟩ := h.out
  exact ⟨added, e, fun e he => ⟨isSearchInfo_isIterEvent (hp e he).1, (hp e he).2⟩,
    depthsOf_searchInfo fun e he => (hp e he).1⟩

theorem DeepenSpec.nil {maxDepth cur best done s} : DeepenSpec maxDepth cur best done s best done s :=
  ⟨[], rfl, by simp, .inl ⟨rfl, rfl, rfl, rfl⟩⟩

theorem DeepenSpec.reject {maxDepth cur best done s s1} (hf : SearchFrame s s1) :
    DeepenSpec maxDepth cur best done s best done s1.consult := by
  obtain ⟨added1, e1, p1, d1⟩ := searchFrame_iter hf
  exact ⟨added1, e1, p1, .inl ⟨d1, rfl, rfl, hf.cand⟩⟩

theorem DeepenSpec.accept {maxDepth cur best done s s1 score l1 best' done' s'} (hf : SearchFrame s s1)
    (hne : rowPrefix s1 0 l1 ≠ []) (hcur : cur ≤ maxDepth)
    (h : DeepenSpec maxDepth (cur + 1) score cur
      { copyBestLine s1.consult l1 with out := .infoDepth cur score s1.nodes (rowPrefix s1 0 l1) :: s1.out }
      best' done' s') :
    DeepenSpec maxDepth cur best done s best' done' s' := by
  obtain ⟨added1, e1, p1, d1⟩ := searchFrame_iter hf
  obtain ⟨added2, e2, p2, r2⟩ := h
  refine ⟨added2 ++ .infoDepth cur score s1.nodes (rowPrefix s1 0 l1) :: added1, ?_, ?_, .inr ?_⟩
  · rw [e2]
    show _ ++ _ :: s1.out = _
    rw [e1, List.append_assoc]; rfl
  · intro e he
    rcases List.mem_append.1 he with he | he
    · exact p2 e he
    rcases List.mem_cons.1 he with rfl | he
    · refine ⟨rfl, ?_⟩
      cases hr : rowPrefix s1 0 l1 with
      | nil => exact absurd hr hne
      | cons a t => rfl
    · exact p1 e he
  have hd0 : depthsOf (Event.infoDepth cur score s1.nodes (rowPrefix s1 0 l1) :: added1) = [cur] := by
    show depthsOf ([_] ++ added1) = _
    rw [depthsOf_append, d1]; rfl
  rw [depthsOf_append, hd0]
  rcases r2 with ⟨hd2, rfl, rfl, hc2⟩ | ⟨hle, hmax, hd2, nodes', hmem⟩
  · refine ⟨Nat.le_refl _, hcur, ?_, s1.nodes, List.mem_append_right _ (by rw [hc2]; exact List.mem_cons_self)⟩
    rw [hd2, Nat.add_sub_cancel_left]; rfl
  · refine ⟨by omega, hmax, ?_, nodes', List.mem_append_left _ hmem⟩
    rw [List.reverse_append, hd2]
    have : done' + 1 - cur = (done' + 1 - (cur + 1)) + 1 := by omega
    rw [this, List.range'_succ]; rfl

theorem deepenLoop_spec (env : Env) (qfuel : Nat) (p : Position) (maxDepth : Nat) :
    ∀ (n cur : Nat) (best : Int) (done len0 : Nat) (s : SS) (best' : Int) (done' : Nat) (s' : SS),
      deepenLoop env qfuel p maxDepth n cur best done len0 s = .ok (best', done', s') →
      DeepenSpec maxDepth cur best done s best' done' s' := by
  intro n
  induction n with
  | zero =>
    intro cur best done len0 s best' done' s' h
    cases pure_ok.1 h
    exact .nil
  | succ n ih =>
    intro cur best done len0 s best' done' s' h
    rcases deepenLoop_succ_ok.1 h with ⟨_, rfl, rfl, rfl⟩ | ⟨hcur, score, one, l1, s1, hsab, h⟩
    · exact .nil
    have hf := startAlphaBeta_searchFrame hsab
    rcases h with ⟨_, rfl, rfl, rfl⟩ | ⟨_, ⟨_, rfl, rfl, rfl⟩ | ⟨_, s3, hp, h⟩⟩
    · exact .reject hf
    · exact .reject hf
    obtain ⟨hne, rfl⟩ := printInfoAfterDepth_ok hp
    rcases h with ⟨_, rfl, rfl, rfl⟩ | ⟨_, ⟨_, rfl, rfl, rfl⟩ | ⟨_, h⟩⟩
    · exact .accept hf hne (by omega) .nil
    · exact .accept hf hne (by omega) .nil
    · exact .accept hf hne (by omega) (ih _ _ _ _ _ _ _ _ h)

theorem deepenFrom_spec {env qfuel p maxDepth score one len0 s best done s'}
    (h : deepenFrom env qfuel p maxDepth score one len0 s = .ok (best, done, s')) :
    DeepenSpec maxDepth 2 score 1 s best done s' := by
  rcases ite_ok.1 h with ⟨_, h⟩ | ⟨_, h⟩
  · exact deepenLoop_spec _ _ _ _ _ _ _ _ _ _ _ _ _ h
  · cases pure_ok.1 h
    exact .nil

theorem iterDeep_cases {env qfuel p maxDepth killers rows len0 s}
    (h : iterDeep env qfuel p maxDepth killers rows len0 = .ok s) :
    ∃ score one l s1, startAlphaBeta env qfuel p 1 len0 (initSS rows killers) = .ok (score, one, l, s1) ∧
      ((rowPrefix s1 0 l = [] ∧
          s = { copyBestLine s1 l with out := .bestmoveNone :: .infoTerminal score :: s1.out }) ∨
       (rowPrefix s1 0 l ≠ [] ∧ ∃ best done s2 m tl,
          deepenFrom env qfuel p maxDepth score one l (copyBestLine s1 l).consult = .ok (best, done, s2) ∧
          s2.cand = m :: tl ∧
          s = { s2 with out := .bestmove m :: .infoPv best done s2.nodes s2.cand :: s2.out })) := by
  rw [iterDeep_eq] at h
  obtain ⟨⟨score, one, l, s1⟩, hsab, h⟩ := bind_ok.1 h
  refine ⟨score, one, l, s1, hsab, ?_⟩
  rcases ite_ok.1 h with ⟨hemp, h⟩ | ⟨hne, h⟩
  · exact .inl ⟨List.isEmpty_iff.1 hemp, pure_ok'.1 h⟩
  · obtain ⟨⟨best, done, s2⟩, hd, h⟩ := bind_ok.1 h
    obtain ⟨m, tl, hc, rfl⟩ := announce_ok h
    exact .inr ⟨fun h0 => hne (List.isEmpty_iff.2 h0), best, done, s2, m, tl, hd, hc, rfl⟩

/-- Matched by position. `score one l s1 added1`: result and end state of iteration 1, whose output `added1` is
    search info with well-formed PVs. Then no root move (`bestmoveNone` after `infoTerminal`, empty line), or
    `best done nodes added m tl`: the line `m :: tl` left in `cand`, the output `bestmove m`, `infoPv best done`,
    then `added` (what the deepening printed, iteration events) before `added1`; and either nothing beyond
    iteration 1 was accepted (`done = 1`, `best = score`, the line is iteration 1's) or `2 ≤ done ≤ maxDepth`, the
    depths in `added` are 2 … `done` in order and its `infoDepth done` line carries `best` and `m :: tl`. -/
theorem iterDeep_shape {env qfuel p maxDepth killers rows len0 s}
    (h : iterDeep env qfuel p maxDepth killers rows len0 = .ok s) :
    ∃ score one l s1 added1,
      startAlphaBeta env qfuel p 1 len0 (initSS rows killers) = .ok (score, one, l, s1) ∧
      s1.out = added1 ∧ (∀ e ∈ added1, e.isSearchInfo = true ∧ e.pvOk = true) ∧
      ((rowPrefix s1 0 l = [] ∧ s.out = .bestmoveNone :: .infoTerminal score :: added1 ∧ s.cand = []) ∨
       (rowPrefix s1 0 l ≠ [] ∧ ∃ best done nodes added m tl,
          s.cand = m :: tl ∧
          s.out = .bestmove m :: .infoPv best done nodes (m :: tl) :: (added ++ added1) ∧
          (∀ e ∈ added, e.isIterEvent = true ∧ e.pvOk = true) ∧
          ((depthsOf added = [] ∧ done = 1 ∧ best = score ∧ m :: tl = rowPrefix s1 0 l) ∨
           (2 ≤ done ∧ done ≤ maxDepth ∧ (depthsOf added).reverse = List.range' 2 (done - 1) ∧
              ∃ nodes', Event.infoDepth done best nodes' (m :: tl) ∈ added)))) := by
  obtain ⟨score, one, l, s1, hsab, hc⟩ := iterDeep_cases h
  have hf := startAlphaBeta_searchFrame hsab
  obtain ⟨added1, e1, p1⟩ := hf.out
  have e1' : s1.out = added1 := by rw [e1]; exact List.append_nil _
  refine ⟨score, one, l, s1, added1, hsab, e1', p1, ?_⟩
  rcases hc with ⟨hemp, rfl⟩ | ⟨hne, best, done, s2, m, tl, hd, hcand, rfl⟩
  · refine .inl ⟨hemp, ?_, hemp⟩
    show _ :: _ :: s1.out = _
    rw [e1']
  · obtain ⟨added, e2, p2, r2⟩ := deepenFrom_spec hd
    refine .inr ⟨hne, best, done, s2.nodes, added, m, tl, hcand, ?_, p2, ?_⟩
    · show _ :: _ :: s2.out = _
      rw [e2, hcand]
      show _ :: _ :: (added ++ s1.out) = _
      rw [e1']
    · rcases r2 with ⟨hd0, rfl, rfl, hc2⟩ | ⟨h2, hmax, hdep, nodes', hmem⟩
      · refine .inl ⟨hd0, rfl, rfl, ?_⟩
        rw [← hcand, hc2]; rfl
      · refine .inr ⟨h2, hmax, ?_, nodes', by rw [← hcand]; exact hmem⟩
        have : done + 1 - 2 = done - 1 := by omega
        rw [hdep, this]

/-- why deepening may end below `maxDepth` although nothing interrupted it: the accepted iteration `done` reported a
    forced mate in exactly `done` plies, or found a single legal root move (`one = true`; recorded as: SOME
    `startAlphaBeta` run at depth `done`, from a state and length left open, returned `(best, true)`) -/
def StopReason (env : Env) (qfuel : Nat) (p : Position) (best : Int) (done : Nat) : Prop :=
  pliesToMate best = done ∨
  ∃ len sb len' sa, startAlphaBeta env qfuel p done len sb = .ok (best, true, len', sa)

theorem deepenLoop_quiet {env : Env} (hq : env.Quiet) (qfuel : Nat) (p : Position) (maxDepth : Nat) :
    ∀ (n cur : Nat) (best : Int) (done len0 : Nat) (s : SS) (best' : Int) (done' : Nat) (s' : SS),
      s.interrupted = false → maxDepth + 1 - cur ≤ n →
      deepenLoop env qfuel p maxDepth n cur best done len0 s = .ok (best', done', s') →
      s'.interrupted = false ∧
      ((maxDepth < cur ∧ best' = best ∧ done' = done) ∨
       (cur ≤ done' ∧ (done' = maxDepth ∨ StopReason env qfuel p best' done'))) := by
  intro n
  induction n with
  | zero =>
    intro cur best done len0 s best' done' s' hi hn h
    cases pure_ok.1 h
    exact ⟨hi, .inl ⟨by omega, rfl, rfl⟩⟩
  | succ n ih =>
    intro cur best done len0 s best' done' s' hi hn h
    rcases deepenLoop_succ_ok.1 h with ⟨hcur, rfl, rfl, rfl⟩ | ⟨hcur, score, one, l1, s1, hsab, h⟩
    · exact ⟨hi, .inl ⟨hcur, rfl, rfl⟩⟩
    have hi1 : s1.interrupted = false := startAlphaBeta_quiet (fun n => (hq n).2) hsab hi
    rcases h with ⟨hto, _⟩ | ⟨_, ⟨hi1', _⟩ | ⟨_, s3, hp, h⟩⟩
    · rw [(hq _).1] at hto; cases hto
    · exact absurd (hi1'.symm.trans hi1) (by simp)
    obtain ⟨_, rfl⟩ := printInfoAfterDepth_ok hp
    rcases h with ⟨hm, rfl, rfl, rfl⟩ | ⟨_, ⟨rfl, rfl, rfl, rfl⟩ | ⟨_, h⟩⟩
    · exact ⟨hi1, .inr ⟨Nat.le_refl _, .inr (.inl (by simpa using hm))⟩⟩
    · exact ⟨hi1, .inr ⟨Nat.le_refl _, .inr (.inr ⟨_, _, _, _, hsab⟩)⟩⟩
    · obtain ⟨hi', r⟩ := (fun a b => ih (cur + 1) _ _ _ _ _ _ _ a b h) hi1 (by omega)
      refine ⟨hi', .inr ?_⟩
      rcases r with ⟨hlt, rfl, rfl⟩ | ⟨hle, hr⟩
      · exact ⟨Nat.le_refl _, .inl (by omega)⟩
      · exact ⟨by omega, hr⟩

theorem deepenLoop_discard {env qfuel p maxDepth n cur best done len0 s score one len1 s1}
    (hcur : cur ≤ maxDepth)
    (hsab : startAlphaBeta env qfuel p cur len0 s = .ok (score, one, len1, s1))
    (hstop : env.timeUp s1.tick = true ∨ s1.interrupted = true) :
    deepenLoop env qfuel p maxDepth (n + 1) cur best done len0 s = .ok (best, done, s1.consult) := by
  refine deepenLoop_succ_ok.2 (.inr ⟨by omega, _, _, _, _, hsab, ?_⟩)
  by_cases ht : env.timeUp s1.tick = true
  · exact .inl ⟨ht, rfl, rfl, rfl⟩
  · exact .inr ⟨ht, .inl ⟨hstop.resolve_left ht, rfl, rfl, rfl⟩⟩

theorem iterDeep_quiet_stop {env qfuel p maxDepth killers rows len0 s} (hq : env.Quiet)
    (h : iterDeep env qfuel p maxDepth killers rows len0 = .ok s)
    {m best done nodes pv rest} (hout : s.out = .bestmove m :: .infoPv best done nodes pv :: rest)
    (hlt : done < maxDepth) :
    (2 ≤ done ∧ pliesToMate best = done) ∨
    ∃ len sb len' sa, startAlphaBeta env qfuel p done len sb = .ok (best, true, len', sa) := by
  obtain ⟨score, one, l, s1, hsab, hc⟩ := iterDeep_cases h
  rcases hc with ⟨_, rfl⟩ | ⟨_, best', done', s2, m', tl, hd, _, rfl⟩
  · cases hout
  simp only [List.cons.injEq, Event.bestmove.injEq, Event.infoPv.injEq] at hout
  obtain ⟨rfl, ⟨rfl, rfl, rfl, rfl⟩, rfl⟩ := hout
  have hi1 : s1.interrupted = false := startAlphaBeta_quiet (fun n => (hq n).2) hsab rfl
  have hi1' : (copyBestLine s1 l).consult.interrupted = false := hi1
  rcases ite_ok.1 hd with ⟨_, hd⟩ | ⟨hc, hd⟩
  · obtain ⟨_, r⟩ := deepenLoop_quiet hq qfuel p maxDepth _ _ _ _ _ _ _ _ _ hi1' (by omega) hd
    rcases r with ⟨h2, _, rfl⟩ | ⟨h2, rfl | hm | hone⟩
    · omega
    · omega
    · exact .inl ⟨h2, hm⟩
    · exact .inr hone
  · cases pure_ok.1 hd
    rw [(hq _).1, hi1'] at hc
    cases one with
    | true => exact .inr ⟨_, _, _, _, hsab⟩
    | false => exact absurd rfl hc

end Magog.Model
