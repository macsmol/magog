import Magog.Lemmas.SearchIter

/-! Oracle locality: a run of the search only depends on the oracle answers at the consultation numbers
    it actually reached (`< s.tick`). Depth truncation: a run that reports the depth `D` is repeated, no later, by the
    run with limit `D` (`iterDeep_truncate`). In that run the clock had not run out at the last consultation
    (`iterDeep_last_check`); if the oracle said "no" at every consultation of it, it is also the run under
    `env.quieted`, the oracle that never says stop (`envAgree_quieted`): this is how C11 passes from an interrupted
    search to an uninterrupted one. `EnvAgree env env' lo hi`: same functions, same oracle answers at the
    consultations `lo ≤ t < hi` (every use has `lo = 0`). -/

namespace Magog.Model
open Magog

structure EnvAgree (env env' : Env) (lo hi : Nat) : Prop where
  blend : env'.blend = env.blend
  sortFn : env'.sortFn = env.sortFn
  logInterval : env'.logInterval = env.logInterval
  lazy : env'.lazy = env.lazy
  stackCap : env'.stackCap = env.stackCap
  timeUp : ∀ t, lo ≤ t → t < hi → env'.timeUp t = env.timeUp t
  stopAt : ∀ t, lo ≤ t → t < hi → env'.stopAt t = env.stopAt t
  gateOpen : ∀ t, lo ≤ t → t < hi → env'.gateOpen t = env.gateOpen t

theorem EnvAgree.simRel {env env' : Env} {hi : Nat} (ag : EnvAgree env env' 0 hi) :
    SimRelD env env' hi (fun _ => True) Eq where
  blend := ag.blend
  sortFn := ag.sortFn
  lazy := ag.lazy
  stackCap := ag.stackCap
  oracle n h := ⟨ag.timeUp n (Nat.zero_le _) h, ag.stopAt n (Nat.zero_le _) h, ag.gateOpen n (Nat.zero_le _) h⟩
  same := by rintro s _ rfl; exact ⟨_, rfl⟩
  consult h := h ▸ rfl
  nodes h := h ▸ rfl
  killers _ h := h ▸ rfl
  rows _ h := h ▸ rfl
  matched _ h := h ▸ rfl
  rootMoves _ h := h ▸ rfl
  firstMoveIdx _ h := h ▸ rfl
  interrupt _ h := h ▸ rfl
  infoPv _ _ _ _ _ h := h ▸ rfl
  log := by
    rintro s _ r rfl _ hl
    unfold qLog at hl ⊢
    rw [ag.logInterval]
    exact ⟨r, hl, rfl⟩
  keep _ _ := trivial
  inRange _ := trivial
  cand _ h := h ▸ rfl
  push _ _ h := h ▸ rfl

theorem iterDeep_local {env env' : Env} {qfuel p maxDepth killers rows len0 s}
    (h : iterDeep env qfuel p maxDepth killers rows len0 = .ok s) (ag : EnvAgree env env' 0 s.tick) :
    iterDeep env' qfuel p maxDepth killers rows len0 = .ok s := by
  obtain ⟨_, h', rfl⟩ := ag.simRel.sim_iterDeep rfl h (Nat.le_refl _)
  exact h'

theorem deepenLoop_past {env : Env} {qfuel : Nat} {p : Position} {maxDepth n cur : Nat} {best : Int}
    {done len0 : Nat} {s : SS} (h : maxDepth < cur) :
    deepenLoop env qfuel p maxDepth n cur best done len0 s = pure (best, done, s) := by
  cases n with
  | zero => simp only [deepenLoop]
  | succ n => rw [deepenLoop_succ_eq, if_pos h]

theorem deepenLoop_truncate {env : Env} {qfuel : Nat} {p : Position} {maxDepth : Nat} :
    ∀ (n cur : Nat) (best0 : Int) (done0 len0 : Nat) (st : SS) (best : Int) (D : Nat) (s2 : SS),
      deepenLoop env qfuel p maxDepth n cur best0 done0 len0 st = .ok (best, D, s2) → done0 < cur →
      ∀ n', D + 1 - cur ≤ n' →
        ∃ sD, deepenLoop env qfuel p D n' cur best0 done0 len0 st = .ok (best, D, sD) ∧
          sD.cand = s2.cand ∧ sD.tick ≤ s2.tick := by
  intro n
  induction n with
  | zero =>
    intro cur best0 done0 len0 st best D s2 h hlt n' _
    cases pure_ok.1 h
    exact ⟨st, deepenLoop_past hlt, rfl, Nat.le_refl _⟩
  | succ n ih =>
    intro cur best0 done0 len0 st best D s2 h hlt n' hn'
    rcases deepenLoop_succ_ok.1 h with ⟨_, rfl, rfl, rfl⟩ | ⟨hcur, score, one, l1, s1, hsab, h⟩
    · exact ⟨_, deepenLoop_past hlt, rfl, Nat.le_refl _⟩
    have hf := startAlphaBeta_searchFrame hsab
    -- an iteration that is not accepted leaves score, depth and line as they were: the truncated loop stops at once
    rcases h with ⟨_, rfl, rfl, rfl⟩ | ⟨hto, ⟨_, rfl, rfl, rfl⟩ | ⟨hi1, s3, hp, h⟩⟩
    · exact ⟨st, deepenLoop_past hlt, hf.cand.symm, Nat.le_succ_of_le hf.tick⟩
    · exact ⟨st, deepenLoop_past hlt, hf.cand.symm, Nat.le_succ_of_le hf.tick⟩
    -- iteration `cur` is accepted, hence `cur ≤ D`
    have hD : cur ≤ D := by
      rcases h with ⟨_, _, rfl, _⟩ | ⟨_, ⟨_, _, rfl, _⟩ | ⟨_, h⟩⟩
      · exact Nat.le_refl _
      · exact Nat.le_refl _
      · obtain ⟨_, _, _, r⟩ := deepenLoop_spec _ _ _ _ _ _ _ _ _ _ _ _ _ h
        rcases r with ⟨_, _, hd, _⟩ | ⟨hd, _⟩ <;> omega
    obtain ⟨n'', rfl⟩ : ∃ n'', n' = n'' + 1 := ⟨n' - 1, by omega⟩
    have again := fun sD tail => (deepenLoop_succ_ok (maxDepth := D) (n := n'') (best := best0) (done := done0)
      (best' := best) (done' := D) (s' := sD)).2 (.inr ⟨by omega, score, one, l1, s1, hsab, .inr ⟨hto, .inr ⟨hi1, s3, hp, tail⟩⟩⟩)
    rcases h with ⟨hm, rfl, rfl, rfl⟩ | ⟨hm, ⟨ho, rfl, rfl, rfl⟩ | ⟨ho, h⟩⟩
    · exact ⟨s2, again s2 (.inl ⟨hm, rfl, rfl, rfl⟩), rfl, Nat.le_refl _⟩
    · exact ⟨s2, again s2 (.inr ⟨hm, .inl ⟨ho, rfl, rfl, rfl⟩⟩), rfl, Nat.le_refl _⟩
    · obtain ⟨sD, hrun, hc, ht⟩ := ih (cur + 1) score cur l1 s3 best D s2 h (Nat.lt_succ_self _) n'' (by omega)
      exact ⟨sD, again sD (.inr ⟨hm, .inr ⟨ho, hrun⟩⟩), hc, ht⟩

theorem iterDeep_truncate {env qfuel p maxDepth killers rows len0 s m best D nodes pv rest}
    (h : iterDeep env qfuel p maxDepth killers rows len0 = .ok s)
    (hout : s.out = .bestmove m :: .infoPv best D nodes pv :: rest) :
    ∃ sD nodesD restD, iterDeep env qfuel p D killers rows len0 = .ok sD ∧
      sD.out = .bestmove m :: .infoPv best D nodesD pv :: restD ∧ sD.tick ≤ s.tick := by
  obtain ⟨score, one, l, s1, hsab, hc⟩ := iterDeep_cases h
  rcases hc with ⟨_, rfl⟩ | ⟨hne, best', D', s2, m', tl, hd, hcand, rfl⟩
  · cases hout
  simp only [List.cons.injEq, Event.bestmove.injEq, Event.infoPv.injEq] at hout
  obtain ⟨rfl, ⟨rfl, rfl, rfl, rfl⟩, rfl⟩ := hout
  have hD : ∃ sD, deepenFrom env qfuel p D' score one l (copyBestLine s1 l).consult = .ok (best', D', sD) ∧
      sD.cand = s2.cand ∧ sD.tick ≤ s2.tick := by
    rcases ite_ok.1 hd with ⟨hcnd, hd⟩ | ⟨hcnd, hd⟩
    · obtain ⟨sD, h1, h2, h3⟩ := deepenLoop_truncate _ _ _ _ _ _ _ _ _ hd (by omega) D' (by omega)
      exact ⟨sD, (if_pos hcnd).trans h1, h2, h3⟩
    · cases pure_ok.1 hd
      exact ⟨_, if_neg hcnd, rfl, Nat.le_refl _⟩
  obtain ⟨sD, hdD, hcD, htD⟩ := hD
  have hcD' : sD.cand = m' :: tl := hcD.trans hcand
  refine ⟨{ sD with out := .bestmove m' :: .infoPv best' D' sD.nodes sD.cand :: sD.out }, sD.nodes, sD.out, ?_, ?_, htD⟩
  · rw [iterDeep_eq, hsab]
    exact (if_neg fun he => hne (List.isEmpty_iff.1 he)).trans (bind_ok.2 ⟨_, hdD, announce_eq hcD' _ _⟩)
  · show _ :: _ :: sD.out = _
    rw [hcD, hcand]

/-- in a run of `deepenLoop` with limit `D` that accepted iteration `D`, the last consultation is the acceptance
    check of iteration `D`, and the clock had not run out there -/
theorem deepenLoop_last_check {env : Env} {qfuel : Nat} {p : Position} {D : Nat} :
    ∀ (n cur : Nat) (best0 : Int) (done0 len0 : Nat) (st : SS) (best : Int) (sD : SS),
      deepenLoop env qfuel p D n cur best0 done0 len0 st = .ok (best, D, sD) → done0 < cur → cur ≤ D →
      st.tick < sD.tick ∧ env.timeUp (sD.tick - 1) = false := by
  intro n
  induction n with
  | zero =>
    intro cur best0 done0 len0 st best sD h hlt hle
    cases pure_ok.1 h
    omega
  | succ n ih =>
    intro cur best0 done0 len0 st best sD h hlt hle
    rcases deepenLoop_succ_ok.1 h with ⟨_, _, rfl, _⟩ | ⟨_, score, one, l1, s1, hsab, h⟩
    · omega
    have t1 : st.tick ≤ s1.tick := (startAlphaBeta_searchFrame hsab).tick
    rcases h with ⟨_, _, rfl, _⟩ | ⟨hto, ⟨_, _, rfl, _⟩ | ⟨_, s3, hp, h⟩⟩
    · omega
    · omega
    obtain ⟨_, rfl⟩ := printInfoAfterDepth_ok hp
    -- the acceptance check of iteration `cur` was consultation `s1.tick`
    have here : ∀ sD : SS, sD.tick = s1.tick + 1 → st.tick < sD.tick ∧ env.timeUp (sD.tick - 1) = false := by
      intro sD hs
      rw [hs, Nat.add_sub_cancel]
      exact ⟨by omega, by simpa using hto⟩
    rcases h with ⟨_, _, _, rfl⟩ | ⟨_, ⟨_, _, _, rfl⟩ | ⟨_, h⟩⟩
    · exact here _ rfl
    · exact here _ rfl
    by_cases hc : cur + 1 ≤ D
    · obtain ⟨a, b⟩ := ih _ _ _ _ _ _ _ h (Nat.lt_succ_self _) hc
      exact ⟨Nat.lt_of_le_of_lt (Nat.le_succ_of_le t1) a, b⟩
    · rw [deepenLoop_past (by omega)] at h
      cases pure_ok.1 h
      exact here _ rfl

theorem iterDeep_last_check {env qfuel p D killers rows len0 sD m best nodes pv rest}
    (h : iterDeep env qfuel p D killers rows len0 = .ok sD)
    (hout : sD.out = .bestmove m :: .infoPv best D nodes pv :: rest) (hD : 2 ≤ D) :
    env.timeUp (sD.tick - 1) = false := by
  obtain ⟨score, one, l, s1, hsab, hc⟩ := iterDeep_cases h
  rcases hc with ⟨_, rfl⟩ | ⟨hne, best', D', s2, m', tl, hd, hcand, rfl⟩
  · cases hout
  simp only [List.cons.injEq, Event.bestmove.injEq, Event.infoPv.injEq] at hout
  obtain ⟨rfl, ⟨rfl, rfl, rfl, rfl⟩, rfl⟩ := hout
  rcases ite_ok.1 hd with ⟨_, hd⟩ | ⟨_, hd⟩
  · exact (deepenLoop_last_check _ _ _ _ _ _ _ _ hd (by omega) hD).2
  · cases pure_ok.1 hd
    omega

def Env.quieted (env : Env) : Env := { env with timeUp := fun _ => false, stopAt := fun _ => false }

theorem Env.quieted_quiet (env : Env) : env.quieted.Quiet := fun _ => ⟨rfl, rfl⟩

theorem envAgree_quieted {env : Env} {hi : Nat} (h : ∀ t, t < hi → env.timeUp t = false ∧ env.stopAt t = false) :
    EnvAgree env env.quieted 0 hi where
  blend := rfl
  sortFn := rfl
  logInterval := rfl
  lazy := rfl
  stackCap := rfl
  timeUp t _ ht := (h t ht).1.symm
  stopAt t _ ht := (h t ht).2.symm
  gateOpen _ _ _ := rfl

end Magog.Model
