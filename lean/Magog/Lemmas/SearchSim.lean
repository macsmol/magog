import Magog.Lemmas.SearchBasic

/-! One induction over the search for every property of the kind "a second run can follow the first":
    two runs, under `env` from `s` and under `env'` from `t`, whose states are related by a relation `R` that
    every primitive state update preserves, go through related states and return the same values, as long as
    the first run stays within the ticks `< hi` on which the oracles of the two environments agree
    (`SimRel.sim_quiescence`, `SimRel.sim_alphaBeta`, `SimRel.sim_startAlphaBeta`, `SimRelD.sim_iterDeep`).
    The same environment twice and `R` on the diagonal give the frame properties of a single run
    (`FrameRel.simRel`); `R := Eq` gives oracle locality (`EnvAgree.simRel`); `R := Sim` independence of
    `logInterval` (`LogAgree.simRel`). -/

namespace Magog.Model
open Magog

def Event.isCurrmove : Event → Bool
  | .currmove .. => true
  | _ => false

/-- the fields that the `currmove` line reads besides `nodes` -/
def Keep (s r : SS) : Prop := r.rootMoves = s.rootMoves ∧ r.firstMoveIdx = s.firstMoveIdx

theorem Keep.refl (s : SS) : Keep s s := ⟨rfl, rfl⟩
theorem Keep.trans {a b c : SS} (h1 : Keep a b) (h2 : Keep b c) : Keep a c :=
  ⟨h2.1.trans h1.1, h2.2.trans h1.2⟩

/-- `movStack[0][firstMoveIdx]` exists: the `currmove` line cannot hit an index panic -/
def InRange (s : SS) : Prop := s.firstMoveIdx < s.rootMoves.length

/-- what every piece of the search guarantees between its start and end state, so that the first run stays below
    the tick bound `hi` of `SimRel` throughout once its end state does -/
def Mono (s r : SS) : Prop := s.tick ≤ r.tick ∧ Keep s r

theorem Mono.refl (s : SS) : Mono s s := ⟨Nat.le_refl _, Keep.refl _⟩
theorem Mono.trans {a b c : SS} (h1 : Mono a b) (h2 : Mono b c) : Mono a c :=
  ⟨Nat.le_trans h1.1 h2.1, h1.2.trans h2.2⟩
theorem Mono.consult {s r : SS} (h : Mono s r) : Mono s r.consult := ⟨Nat.le_succ_of_le h.1, h.2⟩

theorem qLog_mono {env : Env} {s r : SS} (h : qLog env s = .ok r) : Mono s r := by
  obtain ⟨_, rfl, _⟩ := qLog_out h
  exact Mono.refl _

/-- `R` relates the state of a run under `env` to that of a run under `env'`: the environments agree in what
    the search reads of them except `logInterval`, the oracles for the ticks `< hi` only; related states differ
    at most in `out`; every state update of `Search.lean` below the iterative-deepening driver preserves `R`.
    The logging step, the one place where `logInterval` is read, is an obligation of its own, under a
    precondition `P` on the first run's state that `Keep` preserves and `InRange` implies. -/
structure SimRel (env env' : Env) (hi : Nat) (P : SS → Prop) (R : SS → SS → Prop) : Prop where
  blend : env'.blend = env.blend
  sortFn : env'.sortFn = env.sortFn
  lazy : env'.lazy = env.lazy
  stackCap : env'.stackCap = env.stackCap
  oracle : ∀ n, n < hi →
    env'.timeUp n = env.timeUp n ∧ env'.stopAt n = env.stopAt n ∧ env'.gateOpen n = env.gateOpen n
  same : ∀ {s t}, R s t → ∃ o, t = { s with out := o }
  consult : ∀ {s t}, R s t → R s.consult t.consult
  nodes : ∀ {s t}, R s t → R { s with nodes := s.nodes + 1 } { t with nodes := t.nodes + 1 }
  killers : ∀ {s t} k, R s t → R { s with killers := k } { t with killers := k }
  rows : ∀ {s t} r, R s t → R { s with rows := r } { t with rows := r }
  matched : ∀ {s t} m, R s t → R { s with matched := m } { t with matched := m }
  rootMoves : ∀ {s t} m, R s t → R { s with rootMoves := m } { t with rootMoves := m }
  firstMoveIdx : ∀ {s t} i, R s t → R { s with firstMoveIdx := i } { t with firstMoveIdx := i }
  /-- `interrupted = true` is only ever set right after the stop channel answered "yes" -/
  interrupt : ∀ {s t}, env.stopAt (s.tick - 1) = true → R s t →
    R { s with interrupted := true } { t with interrupted := true }
  /-- root pv lines are only printed when non-empty -/
  infoPv : ∀ {s t} score d n pv, pv ≠ [] → R s t →
    R { s with out := .infoPv score d n pv :: s.out } { t with out := .infoPv score d n pv :: t.out }
  log : ∀ {s t r}, R s t → P s → qLog env s = .ok r → ∃ r', qLog env' t = .ok r' ∧ R r r'
  keep : ∀ {s r}, P s → Keep s r → P r
  inRange : ∀ {s}, InRange s → P s

/-- the updates of the driver: `copyBestLine`, and the lines announcing an iteration or the move -/
structure SimRelD (env env' : Env) (hi : Nat) (P : SS → Prop) (R : SS → SS → Prop) : Prop
    extends SimRel env env' hi P R where
  cand : ∀ {s t} c, R s t → R { s with cand := c, matched := 0 } { t with cand := c, matched := 0 }
  push : ∀ {s t} e, e.isCurrmove = false → R s t → R { s with out := e :: s.out } { t with out := e :: t.out }

/-- Between `s` and `r` the first run is `Mono`, and if `r` is within `hi` the second run, started in a related
    state `t` (and with `P s`), gets through the same piece of code, `C t r'`, into a related state `r'`. -/
def Follows (hi : Nat) (P : SS → Prop) (R : SS → SS → Prop) (s r : SS) (C : SS → SS → Prop) : Prop :=
  Mono s r ∧ ∀ {t}, R s t → P s → r.tick ≤ hi → ∃ r', C t r' ∧ R r r'

def NodeFollows (hi : Nat) (P : SS → Prop) (R : SS → SS → Prop) (f f' : NodeFn) : Prop :=
  ∀ ⦃p idx d a b l s v l' r⦄, f p idx d a b l s = .ok (v, l', r) →
    Follows hi P R s r fun t r' => f' p idx d a b l t = .ok (v, l', r')

variable {env env' : Env} {hi : Nat} {P : SS → Prop} {R : SS → SS → Prop}

theorem Follows.refl (s : SS) : Follows hi P R s s fun t r' => r' = t :=
  ⟨Mono.refl s, fun {t} hR _ _ => ⟨t, rfl, hR⟩⟩

theorem Follows.imp {s r : SS} {C C' : SS → SS → Prop} (h : Follows hi P R s r C)
    (hC : ∀ {t r'}, R s t → R r r' → C t r' → C' t r') : Follows hi P R s r C' :=
  ⟨h.1, fun hR hP hB => let ⟨r', c, hr⟩ := h.2 hR hP hB; ⟨r', hC hR hr c, hr⟩⟩

/-- Pieces compose: the budget `hi` reaches the first piece through the `Mono` of the second, `P` the second through
    the `Keep` of the first. -/
theorem Follows.trans {s s1 r : SS} {C1 C2 : SS → SS → Prop} (h1 : Follows hi P R s s1 C1)
    (H : SimRel env env' hi P R) (h2 : Follows hi P R s1 r C2) :
    Follows hi P R s r fun t r' => ∃ t1, R s1 t1 ∧ C1 t t1 ∧ C2 t1 r' := by
  refine ⟨h1.1.trans h2.1, fun hR hP hB => ?_⟩
  obtain ⟨t1, c1, r1⟩ := h1.2 hR hP (Nat.le_trans h2.1.1 hB)
  obtain ⟨r', c2, r2⟩ := h2.2 r1 (H.keep hP h1.1.2) hB
  exact ⟨r', ⟨t1, r1, c1, c2⟩, r2⟩

section
variable (H : SimRel env env' hi P R)
include H

theorem SimRel.sim_consult (s : SS) : Follows hi P R s s.consult fun t r' => r' = t.consult ∧
    env'.timeUp s.tick = env.timeUp s.tick ∧ env'.stopAt s.tick = env.stopAt s.tick ∧
      env'.gateOpen s.tick = env.gateOpen s.tick :=
  ⟨(Mono.refl s).consult, fun hR _ hB => ⟨_, ⟨rfl, H.oracle _ hB⟩, H.consult hR⟩⟩

theorem SimRel.sim_line {s d n mv r k} (h : updateBestLine s d n mv = .ok (r, k)) :
    Follows hi P R s r fun t r' => updateBestLine t d n mv = .ok (r', k) := by
  obtain ⟨row, sub, h1, h2, h3, rfl, rfl⟩ := updateBestLine_ok.1 h
  refine ⟨Mono.refl _, fun hR _ _ => ?_⟩
  obtain ⟨o, rfl⟩ := H.same hR
  exact ⟨_, updateBestLine_ok.2 ⟨row, sub, h1, h2, h3, rfl, rfl⟩, H.rows _ hR⟩

theorem SimRel.sim_improve {s d n mv sc α cl a l r} (h : improve s d n mv sc α cl = .ok (a, l, r)) :
    Follows hi P R s r fun t r' => improve t d n mv sc α cl = .ok (a, l, r') := by
  rcases improve_ok.1 h with ⟨hc, rfl, hu⟩ | ⟨hc, rfl, rfl, rfl⟩
  · exact (H.sim_line hu).imp fun _ _ hu' => improve_ok.2 (.inl ⟨hc, rfl, hu'⟩)
  · exact (Follows.refl _).imp fun _ _ e => improve_ok.2 (.inr ⟨hc, rfl, rfl, e⟩)

theorem SimRel.sim_poll (s : SS) : Follows hi P R s (pollAfterMove env s).2 fun t r' =>
    pollAfterMove env' t = ((pollAfterMove env s).1, r') := by
  rw [pollAfterMove_eq]
  by_cases h1 : s.interrupted = true
  · rw [if_pos h1]
    refine (Follows.refl s).imp fun hR _ e => ?_
    obtain ⟨o, rfl⟩ := H.same hR
    rw [pollAfterMove_eq, if_pos h1, e]
  rw [if_neg h1]
  by_cases h2 : env.timeUp s.tick = true
  · rw [if_pos h2]
    refine (H.sim_consult s).imp fun hR _ ⟨e, ag⟩ => ?_
    obtain ⟨o, rfl⟩ := H.same hR
    rw [pollAfterMove_eq, if_neg h1, if_pos (ag.1.trans h2), e]
  rw [if_neg h2]
  obtain ⟨m, c⟩ := (H.sim_consult s).trans H (H.sim_consult s.consult)
  refine ⟨by split <;> exact m, fun hR hP hB => ?_⟩
  obtain ⟨_, ⟨_, _, ⟨rfl, ag⟩, rfl, ag2⟩, hr⟩ := c hR hP (by split at hB <;> exact hB)
  obtain ⟨o, rfl⟩ := H.same hR
  simp only [SS.consult_tick] at ag2
  show ∃ r', pollAfterMove env' _ = _ ∧ _
  rw [pollAfterMove_eq, if_neg h1, if_neg (by rw [ag.1]; exact h2), ag2.2.1]
  split
  · rename_i h3
    exact ⟨_, rfl, H.interrupt h3 hr⟩
  · exact ⟨_, rfl, hr⟩

theorem SimRel.sim_rootImprove {target s n mv sc α cl a l r}
    (h : rootImprove env target s n mv sc α cl = .ok (a, l, r)) :
    Follows hi P R s r fun t r' => rootImprove env' target t n mv sc α cl = .ok (a, l, r') := by
  rcases rootImprove_ok.1 h with ⟨hc, rfl, s1, hu, hp⟩ | ⟨hc, rfl, rfl, rfl⟩
  · have hne : rowPrefix s1 0 l ≠ [] := by
      intro h0
      have := updateBestLine_nonempty hu
      rw [h0, List.length_nil] at this
      omega
    have two := (H.sim_line hu).trans H (H.sim_consult s1)
    rcases rootPrint_ok.1 hp with ⟨hg, hl, rfl⟩ | ⟨hg, rfl⟩
    · refine ⟨two.1, fun hR hP hB => ?_⟩
      obtain ⟨_, ⟨s1', r1, hu', rfl, ag⟩, hr⟩ := two.2 hR hP hB
      obtain ⟨o, rfl⟩ := H.same r1
      exact ⟨_, rootImprove_ok.2 (.inl ⟨hc, rfl, _, hu', rootPrint_ok.2 (.inl ⟨ag.2.2.trans hg, hl, rfl⟩)⟩),
        H.infoPv _ _ _ _ hne hr⟩
    · refine two.imp fun _ _ ⟨s1', r1, hu', e, ag⟩ => ?_
      obtain ⟨o, rfl⟩ := H.same r1
      exact rootImprove_ok.2 (.inl ⟨hc, rfl, _, hu', rootPrint_ok.2 (.inr ⟨fun h' => hg (ag.2.2.symm.trans h'), e⟩)⟩)
  · exact (Follows.refl _).imp fun _ _ e => rootImprove_ok.2 (.inr ⟨hc, rfl, rfl, e⟩)

theorem SimRel.sim_rootStop {s t} (hR : R s t) (hB : s.tick < hi) : R (rootStop env s) (rootStop env' t) := by
  obtain ⟨o, rfl⟩ := H.same hR
  rw [rootStop_eq, rootStop_eq, (H.oracle _ hB).2.1]
  split
  · rename_i h
    exact H.firstMoveIdx _ (H.interrupt (s := s.consult) h (H.consult hR))
  · exact H.firstMoveIdx _ (H.consult hR)

theorem SimRel.sim_qEval (p : Position) (d : Nat) (a b : Int) : qEval env' p d a b = qEval env p d a b := by
  unfold qEval; rw [H.lazy, H.blend]

theorem SimRel.sim_qLoop {child child' : NodeFn} (hc : NodeFollows hi P R child child') (p : Position) (idx d : Nat)
    (β : Int) : ∀ (ms : List RMove) (α : Int) (cl sl : Nat) (s : SS) (r : LoopOut),
      qLoop env child p idx d β ms α cl sl s = .ok r →
      Follows hi P R s r.st fun t r' => qLoop env' child' p idx d β ms α cl sl t = .ok ⟨r.score, r.curLen, r'⟩ := by
  intro ms
  induction ms with
  | nil =>
    intro α cl sl s r h
    cases pure_ok.1 h
    exact (Follows.refl s).imp fun _ _ e => by rw [e]; rfl
  | cons mv rest ih =>
    intro α cl sl s r h
    obtain ⟨hcap, q, lg, hmk, hlg, v, sl', s1, hch, h⟩ := qLoop_cons_ok.1 h
    rw [← H.stackCap] at hcap
    -- up to the return of the child; up to the clock check after it
    have f1 := hc hch
    have f2 := f1.trans H (H.sim_consult s1)
    rcases h with ⟨hi1, rfl⟩ | ⟨hi1, ⟨hto, rfl⟩ | ⟨hto, ⟨hb, rfl⟩ | ⟨hb, ⟨ha, s2, cl', hu, h⟩ | ⟨ha, h⟩⟩⟩⟩
    · refine f1.imp fun _ r1 hch' => ?_
      obtain ⟨o, rfl⟩ := H.same r1
      exact qLoop_cons_ok.2 ⟨hcap, q, lg, hmk, hlg, v, sl', _, hch', .inl ⟨hi1, rfl⟩⟩
    · refine f2.imp fun _ _ ⟨s1', r1, hch', e, ag⟩ => ?_
      obtain ⟨o, rfl⟩ := H.same r1
      rw [← ag.1] at hto
      exact qLoop_cons_ok.2 ⟨hcap, q, lg, hmk, hlg, v, sl', _, hch', .inr ⟨hi1, .inl ⟨hto, by rw [e]⟩⟩⟩
    · refine f2.imp fun _ _ ⟨s1', r1, hch', e, ag⟩ => ?_
      obtain ⟨o, rfl⟩ := H.same r1
      rw [← ag.1] at hto
      exact qLoop_cons_ok.2 ⟨hcap, q, lg, hmk, hlg, v, sl', _, hch', .inr ⟨hi1, .inr ⟨hto, .inl ⟨hb, by rw [e]⟩⟩⟩⟩
    · refine (f2.trans H ((H.sim_line hu).trans H (ih _ _ _ _ _ h))).imp
        fun _ _ ⟨_, _, ⟨s1', r1, hch', rfl, ag⟩, s2', _, hu', hq⟩ => ?_
      obtain ⟨o, rfl⟩ := H.same r1
      rw [← ag.1] at hto
      exact qLoop_cons_ok.2 ⟨hcap, q, lg, hmk, hlg, v, sl', _, hch',
        .inr ⟨hi1, .inr ⟨hto, .inr ⟨hb, .inl ⟨ha, s2', cl', hu', hq⟩⟩⟩⟩⟩
    · refine (f2.trans H (ih _ _ _ _ _ h)).imp fun _ _ ⟨_, _, ⟨s1', r1, hch', rfl, ag⟩, hq⟩ => ?_
      obtain ⟨o, rfl⟩ := H.same r1
      rw [← ag.1] at hto
      exact qLoop_cons_ok.2 ⟨hcap, q, lg, hmk, hlg, v, sl', _, hch', .inr ⟨hi1, .inr ⟨hto, .inr ⟨hb, .inr ⟨ha, hq⟩⟩⟩⟩⟩

theorem SimRel.sim_quiescence (fuel : Nat) : NodeFollows hi P R (quiescence env fuel) (quiescence env' fuel) := by
  induction fuel with
  | zero => intro p idx d a b l s v l' r h; exact absurd h (by simp only [quiescence, throw_ok, not_false_eq_true])
  | succ fuel ih =>
    intro p idx d a b l s v l' r h
    obtain ⟨sl, hsl, sc, hsc, s1, hlog, h⟩ := quiescence_succ_ok.1 h
    rw [← H.sim_qEval] at hsc
    have f1 : Follows hi P R s s1 fun t r' => qLog env' { t with nodes := t.nodes + 1 } = .ok r' :=
      ⟨qLog_mono (s := { s with nodes := s.nodes + 1 }) hlog,
        fun hR hP _ => H.log (H.nodes hR) (H.keep hP ⟨rfl, rfl⟩) hlog⟩
    rcases h with ⟨hb, rfl, rfl, rfl⟩ | ⟨hb, ms, hms, o, hq, rfl, rfl, rfl⟩
    · refine f1.imp fun hR _ hlog' => ?_
      obtain ⟨o, rfl⟩ := H.same hR
      exact quiescence_succ_ok.2 ⟨sl, hsl, sc, hsc, _, hlog', .inl ⟨hb, rfl, rfl, rfl⟩⟩
    · refine (f1.trans H (H.sim_qLoop ih _ _ _ _ _ _ _ _ _ _ hq)).imp fun hR _ ⟨s1', _, hlog', hq'⟩ => ?_
      obtain ⟨o0, rfl⟩ := H.same hR
      rw [← H.sortFn] at hq'
      exact quiescence_succ_ok.2 ⟨sl, hsl, sc, hsc, s1', hlog', .inr ⟨hb, ms, hms, _, hq', rfl, rfl, rfl⟩⟩

theorem SimRel.sim_abLoop {child child' : NodeFn} (hc : NodeFollows hi P R child child') (p : Position) (idx d : Nat)
    (β : Int) : ∀ (ms : List RMove) (α : Int) (cl sl : Nat) (s : SS) (r : LoopOut),
      abLoop env child p idx d β ms α cl sl s = .ok r →
      Follows hi P R s r.st fun t r' => abLoop env' child' p idx d β ms α cl sl t = .ok ⟨r.score, r.curLen, r'⟩ := by
  intro ms
  induction ms with
  | nil =>
    intro α cl sl s r h
    cases pure_ok.1 h
    exact (Follows.refl s).imp fun _ _ e => by rw [e]; rfl
  | cons mv rest ih =>
    intro α cl sl s r h
    rcases abLoop_cons_ok.1 h with ⟨hi0, rfl⟩ | ⟨hi0, hcap, q, lg, hmk, hlg, v, sl', s1, hch, h⟩
    · refine (Follows.refl s).imp fun hR _ e => ?_
      obtain ⟨o, rfl⟩ := H.same hR
      exact abLoop_cons_ok.2 (.inl ⟨hi0, by rw [e]⟩)
    rw [← H.stackCap] at hcap
    have f1 := hc hch
    rcases h with ⟨hb, ⟨htac, kt, hkt, rfl⟩ | ⟨htac, rfl⟩⟩ | ⟨hb, a, l, s2, himp, h⟩
    · refine ⟨f1.1, fun hR hP hB => ?_⟩
      obtain ⟨s1', hch', r1⟩ := f1.2 hR hP hB
      obtain ⟨o0, rfl⟩ := H.same hR
      obtain ⟨o, rfl⟩ := H.same r1
      exact ⟨_, abLoop_cons_ok.2 (.inr ⟨hi0, hcap, q, lg, hmk, hlg, v, sl', _, hch',
        .inl ⟨hb, .inl ⟨htac, kt, hkt, rfl⟩⟩⟩), H.killers kt r1⟩
    · refine f1.imp fun hR _ hch' => ?_
      obtain ⟨o0, rfl⟩ := H.same hR
      exact abLoop_cons_ok.2 (.inr ⟨hi0, hcap, q, lg, hmk, hlg, v, sl', _, hch', .inl ⟨hb, .inr ⟨htac, rfl⟩⟩⟩)
    -- no cut-off: the line is improved or not, then the polls
    have f3 := f1.trans H ((H.sim_improve himp).trans H (H.sim_poll s2))
    rcases h with ⟨hbrk, rfl⟩ | ⟨hbrk, h⟩
    · refine f3.imp fun hR _ ⟨_, _, hch', _, _, himp', hp⟩ => ?_
      obtain ⟨o0, rfl⟩ := H.same hR
      refine abLoop_cons_ok.2 (.inr ⟨hi0, hcap, q, lg, hmk, hlg, v, sl', _, hch', .inr ⟨hb, a, l, _, himp', ?_⟩⟩)
      rw [hp]
      exact .inl ⟨hbrk, rfl⟩
    · refine (f3.trans H (ih _ _ _ _ _ h)).imp fun hR _ ⟨_, _, ⟨_, _, hch', _, _, himp', hp⟩, hrec⟩ => ?_
      obtain ⟨o0, rfl⟩ := H.same hR
      refine abLoop_cons_ok.2 (.inr ⟨hi0, hcap, q, lg, hmk, hlg, v, sl', _, hch', .inr ⟨hb, a, l, _, himp', ?_⟩⟩)
      rw [hp]
      exact .inr ⟨hbrk, hrec⟩

theorem SimRel.sim_alphaBeta (qfuel rem : Nat) : NodeFollows hi P R (alphaBeta env qfuel rem) (alphaBeta env' qfuel rem) := by
  induction rem with
  | zero =>
    intro p idx d a b l s v l' r h
    simp only [alphaBeta] at h
    obtain ⟨x, hx, h⟩ := bind_ok.1 h
    refine (H.sim_quiescence qfuel h).imp fun hR _ h' => ?_
    obtain ⟨o, rfl⟩ := H.same hR
    simp only [alphaBeta]
    exact bind_ok.2 ⟨x, hx, h'⟩
  | succ rem ih =>
    intro p idx d a b l s v l' r h
    obtain ⟨sl, hsl, ms, hms, h⟩ := alphaBeta_succ_ok.1 h
    rcases h with ⟨he, w, hw, rfl, rfl, rfl⟩ | ⟨he, o, hq, rfl, rfl, rfl⟩
    · refine ⟨Mono.refl _, fun hR _ _ => ?_⟩
      obtain ⟨o0, rfl⟩ := H.same hR
      exact ⟨_, alphaBeta_succ_ok.2 ⟨sl, hsl, ms, hms, .inl ⟨he, _, hw, rfl, rfl, rfl⟩⟩, H.nodes hR⟩
    · obtain ⟨m2, c2⟩ := H.sim_abLoop ih _ _ _ _ _ _ _ _ _ _ hq
      refine ⟨m2, fun hR hP hB => ?_⟩
      obtain ⟨r', hq', r2⟩ := c2 (H.matched _ hR) (H.keep hP ⟨rfl, rfl⟩) hB
      obtain ⟨o0, rfl⟩ := H.same hR
      rw [← H.sortFn] at hq'
      exact ⟨r', alphaBeta_succ_ok.2 ⟨sl, hsl, ms, hms, .inr ⟨he, _, hq', rfl, rfl, rfl⟩⟩, r2⟩

/-! From the root loop upwards `Keep` fails (the root sets `rootMoves`, `rootStop` bumps `firstMoveIdx`), so the
statements spell out what `Follows` packs and leave out `P`. `P` is re-derived per root move from the prefix invariant
`rootMoves = pre ++ ms ∧ firstMoveIdx = pre.length`: the index points at the head of the moves still to search. -/

theorem SimRel.sim_rootLoop {child child' : NodeFn} (hc : NodeFollows hi P R child child') (p : Position) (target : Nat) :
    ∀ (ms : List RMove) (α : Int) (cl sl : Nat) (s : SS) (r : LoopOut),
      rootLoop env child p target ms α cl sl s = .ok r →
      s.tick ≤ r.st.tick ∧ ∀ {t}, R s t → (∃ pre, s.rootMoves = pre ++ ms ∧ s.firstMoveIdx = pre.length) →
        r.st.tick ≤ hi →
        ∃ r', rootLoop env' child' p target ms α cl sl t = .ok ⟨r.score, r.curLen, r'⟩ ∧ R r.st r' := by
  intro ms
  induction ms with
  | nil =>
    intro α cl sl s r h
    cases pure_ok.1 h
    exact ⟨Nat.le_refl _, fun {t} hR _ _ => ⟨t, rfl, hR⟩⟩
  | cons mv rest ih =>
    intro α cl sl s r h
    rcases rootLoop_cons_ok.1 h with ⟨hi0, rfl⟩ | ⟨hi0, hcap, q, lg, hmk, hlg, v, sl', s1, hch, a, l, s2, himp, h⟩
    · refine ⟨Nat.le_refl _, fun hR _ _ => ?_⟩
      obtain ⟨o, rfl⟩ := H.same hR
      exact ⟨_, rootLoop_cons_ok.2 (.inl ⟨hi0, rfl⟩), hR⟩
    rw [← H.stackCap] at hcap
    obtain ⟨m12, c12⟩ := (hc hch).trans H (H.sim_rootImprove himp)
    -- the second run up to the end of `rootImprove`, given that the first stays below `hi` that far
    have upto : ∀ {t}, R s t → (∃ pre, s.rootMoves = pre ++ mv :: rest ∧ s.firstMoveIdx = pre.length) → s2.tick ≤ hi →
        ∃ s1' o, ¬t.interrupted = true ∧ child' q 1 1 (-(Gen.InfinityScore : Int)) (-α) sl t = .ok (v, sl', s1') ∧
          rootImprove env' target s1' sl' mv.mov (-v) α cl = .ok (a, l, { s2 with out := o }) ∧
          R s2 { s2 with out := o } := by
      rintro t hR ⟨pre, e1, e2⟩ hB
      have hP : P s := H.inRange (by unfold InRange; rw [e1, e2, List.length_append, List.length_cons]; omega)
      obtain ⟨s2', ⟨s1', _, hch', himp'⟩, r2⟩ := c12 hR hP hB
      obtain ⟨o0, rfl⟩ := H.same hR
      obtain ⟨o, rfl⟩ := H.same r2
      exact ⟨s1', o, hi0, hch', himp', r2⟩
    have again := fun {t r2} (s1' : SS) (o : List Event) hi0' hch' himp' tail =>
      (rootLoop_cons_ok (env := env') (child := child') (p := p) (target := target) (mv := mv) (rest := rest) (α := α)
        (cl := cl) (sl := sl) (s := t) (r := r2)).2
        (.inr ⟨hi0', hcap, q, lg, hmk, hlg, v, sl', s1', hch', a, l, { s2 with out := o }, himp', tail⟩)
    rcases h with ⟨hi2, rfl⟩ | ⟨hi2, ⟨hto, rfl⟩ | ⟨hto, ⟨hw, rfl⟩ | ⟨hw, h⟩⟩⟩
    · refine ⟨m12.1, fun hR hpre hB => ?_⟩
      obtain ⟨s1', o, hi0', hch', himp', r2⟩ := upto hR hpre hB
      exact ⟨_, again s1' o hi0' hch' himp' (.inl ⟨hi2, rfl⟩), r2⟩
    · refine ⟨m12.consult.1, fun hR hpre hB => ?_⟩
      obtain ⟨s1', o, hi0', hch', himp', r2⟩ := upto hR hpre (Nat.le_of_succ_le hB)
      rw [← (H.oracle _ hB).1] at hto
      exact ⟨_, again s1' o hi0' hch' himp' (.inr ⟨hi2, .inl ⟨hto, rfl⟩⟩), H.consult r2⟩
    · refine ⟨m12.consult.1, fun hR hpre hB => ?_⟩
      obtain ⟨s1', o, hi0', hch', himp', r2⟩ := upto hR hpre (Nat.le_of_succ_le hB)
      rw [← (H.oracle _ hB).1] at hto
      exact ⟨_, again s1' o hi0' hch' himp' (.inr ⟨hi2, .inr ⟨hto, .inl ⟨hw, rfl⟩⟩⟩), H.consult r2⟩
    · obtain ⟨m3, c3⟩ := ih _ _ _ _ _ h
      rw [rootStop_tick, SS.consult_tick] at m3
      refine ⟨by have := m12.1; omega, fun hR hpre hB => ?_⟩
      have hB2 : s2.tick + 2 ≤ hi := Nat.le_trans m3 hB
      obtain ⟨s1', o, hi0', hch', himp', r2⟩ := upto hR hpre (by omega)
      obtain ⟨pre, e1, e2⟩ := hpre
      obtain ⟨k1, k2⟩ := rootStop_root env s2.consult
      obtain ⟨r', hrec, r3⟩ := c3 (H.sim_rootStop (H.consult r2) (by rw [SS.consult_tick]; omega))
        ⟨pre ++ [mv], by rw [k1, List.append_assoc]; exact m12.2.1.trans e1,
          by rw [k2, List.length_append]; exact congrArg (· + 1) (m12.2.2.trans e2)⟩ hB
      rw [← (H.oracle _ (by omega : s2.tick < hi)).1] at hto
      exact ⟨r', again s1' o hi0' hch' himp' (.inr ⟨hi2, .inr ⟨hto, .inr ⟨hw, hrec⟩⟩⟩), r3⟩

theorem SimRel.sim_startAlphaBeta {qfuel : Nat} {p : Position} {target cl : Nat} {s : SS} {v : Int} {one : Bool} {l : Nat}
    {r : SS} (h : startAlphaBeta env qfuel p target cl s = .ok (v, one, l, r)) :
    s.tick ≤ r.tick ∧ ∀ {t}, R s t → r.tick ≤ hi →
      ∃ r', startAlphaBeta env' qfuel p target cl t = .ok (v, one, l, r') ∧ R r r' := by
  obtain ⟨sl, hsl, ms, hms, h⟩ := startAlphaBeta_ok.1 h
  rcases h with ⟨he, w, hw, rfl, rfl, rfl, rfl⟩ | ⟨he, o, hq, rfl, rfl, rfl, rfl⟩
  · refine ⟨Nat.le_refl _, fun hR _ => ?_⟩
    obtain ⟨o0, rfl⟩ := H.same hR
    exact ⟨_, startAlphaBeta_ok.2 ⟨sl, hsl, ms, hms, .inl ⟨he, _, hw, rfl, rfl, rfl, rfl⟩⟩,
      H.rootMoves _ (H.nodes hR)⟩
  · obtain ⟨m2, c2⟩ := H.sim_rootLoop (H.sim_alphaBeta qfuel (target - 1)) _ _ _ _ _ _ _ _ hq
    refine ⟨m2, fun hR hB => ?_⟩
    obtain ⟨r', hq', r2⟩ := c2 (H.firstMoveIdx 0 (H.rootMoves (env.sortFn (applyPvBonus s.cand s.matched 0 ms).1)
      (H.matched (applyPvBonus s.cand s.matched 0 ms).2 hR))) ⟨[], rfl, rfl⟩ hB
    obtain ⟨o0, rfl⟩ := H.same hR
    rw [← H.sortFn] at hq' ⊢
    exact ⟨r', startAlphaBeta_ok.2 ⟨sl, hsl, ms, hms, .inr ⟨he, _, hq', rfl, rfl, rfl, rfl⟩⟩, r2⟩

end

section
variable (H : SimRelD env env' hi P R)
include H

theorem SimRelD.sim_deepenLoop {qfuel : Nat} {p : Position} {maxDepth : Nat} :
    ∀ (n cur : Nat) (best : Int) (done len0 : Nat) (s : SS) (best' : Int) (done' : Nat) (r : SS),
      deepenLoop env qfuel p maxDepth n cur best done len0 s = .ok (best', done', r) →
      s.tick ≤ r.tick ∧ ∀ {t}, R s t → r.tick ≤ hi →
        ∃ r', deepenLoop env' qfuel p maxDepth n cur best done len0 t = .ok (best', done', r') ∧ R r r' := by
  intro n
  induction n with
  | zero =>
    intro cur best done len0 s best' done' r h
    cases pure_ok.1 h
    exact ⟨Nat.le_refl _, fun {t} hR _ => ⟨t, rfl, hR⟩⟩
  | succ n ih =>
    intro cur best done len0 s best' done' r h
    rcases deepenLoop_succ_ok.1 h with ⟨hc, rfl, rfl, rfl⟩ | ⟨hc, sc, one, l1, s1, hsab, h⟩
    · exact ⟨Nat.le_refl _, fun {t} hR _ => ⟨t, deepenLoop_succ_ok.2 (.inl ⟨hc, rfl, rfl, rfl⟩), hR⟩⟩
    obtain ⟨m1, c1⟩ := H.toSimRel.sim_startAlphaBeta hsab
    have m1' : s.tick ≤ s1.tick + 1 := Nat.le_succ_of_le m1
    -- the second run up to the clock check after iteration `cur`
    have upto : ∀ {t}, R s t → s1.tick + 1 ≤ hi → ∃ o, startAlphaBeta env' qfuel p cur len0 t =
        .ok (sc, one, l1, { s1 with out := o }) ∧ R s1 { s1 with out := o } ∧
        env'.timeUp s1.tick = env.timeUp s1.tick := by
      intro t hR hB
      obtain ⟨s1', hsab', r1⟩ := c1 hR (Nat.le_of_succ_le hB)
      obtain ⟨o, rfl⟩ := H.same r1
      exact ⟨o, hsab', r1, (H.oracle _ hB).1⟩
    have again := fun {t r'} (o : List Event) hsab' tail =>
      (deepenLoop_succ_ok (env := env') (qfuel := qfuel) (p := p) (maxDepth := maxDepth) (n := n) (cur := cur)
        (best := best) (done := done) (len0 := len0) (s := t) (best' := best') (done' := done') (s' := r')).2
        (.inr ⟨hc, sc, one, l1, { s1 with out := o }, hsab', tail⟩)
    rcases h with ⟨hto, rfl, rfl, rfl⟩ | ⟨hto, ⟨hi1, rfl, rfl, rfl⟩ | ⟨hi1, s3, hp, h⟩⟩
    · refine ⟨m1', fun hR hB => ?_⟩
      obtain ⟨o, hsab', r1, eto⟩ := upto hR hB
      exact ⟨_, again o hsab' (.inl ⟨eto.trans hto, rfl, rfl, rfl⟩), H.consult r1⟩
    · refine ⟨m1', fun hR hB => ?_⟩
      obtain ⟨o, hsab', r1, eto⟩ := upto hR hB
      rw [← eto] at hto
      exact ⟨_, again o hsab' (.inr ⟨hto, .inl ⟨hi1, rfl, rfl, rfl⟩⟩), H.consult r1⟩
    obtain ⟨hne, rfl⟩ := printInfoAfterDepth_ok hp
    -- iteration `cur` is accepted in the second run as well
    have accept := fun {t r'} (o : List Event) hsab' (eto : env'.timeUp s1.tick = env.timeUp s1.tick) tail =>
      again (t := t) (r' := r') o hsab' (.inr ⟨eto ▸ hto, .inr ⟨hi1, _,
        printInfoAfterDepth_eq (s := copyBestLine (SS.consult { s1 with out := o }) l1) hne _ _, tail⟩⟩)
    rcases h with ⟨hm, rfl, rfl, rfl⟩ | ⟨hm, ⟨ho, rfl, rfl, rfl⟩ | ⟨ho, h⟩⟩
    · refine ⟨m1', fun hR hB => ?_⟩
      obtain ⟨o, hsab', r1, eto⟩ := upto hR hB
      exact ⟨_, accept o hsab' eto (.inl ⟨hm, rfl, rfl, rfl⟩), H.push _ rfl (H.cand _ (H.consult r1))⟩
    · refine ⟨m1', fun hR hB => ?_⟩
      obtain ⟨o, hsab', r1, eto⟩ := upto hR hB
      exact ⟨_, accept o hsab' eto (.inr ⟨hm, .inl ⟨ho, rfl, rfl, rfl⟩⟩), H.push _ rfl (H.cand _ (H.consult r1))⟩
    · obtain ⟨m4, c4⟩ := ih _ _ _ _ _ _ _ _ h
      refine ⟨Nat.le_trans m1' m4, fun hR hB => ?_⟩
      obtain ⟨o, hsab', r1, eto⟩ := upto hR (Nat.le_trans m4 hB)
      obtain ⟨r', hrec, r4⟩ := c4 (H.push _ rfl (H.cand _ (H.consult r1))) hB
      exact ⟨r', accept o hsab' eto (.inr ⟨hm, .inr ⟨ho, hrec⟩⟩), r4⟩

theorem SimRelD.sim_iterDeep {qfuel : Nat} {p : Position} {maxDepth : Nat} {killers : Killers} {rows : Array (Array Move)}
    {len0 : Nat} {s : SS} (h0 : R (initSS rows killers) (initSS rows killers))
    (h : iterDeep env qfuel p maxDepth killers rows len0 = .ok s) (hB : s.tick ≤ hi) :
    ∃ s', iterDeep env' qfuel p maxDepth killers rows len0 = .ok s' ∧ R s s' := by
  rw [iterDeep_eq] at h ⊢
  obtain ⟨⟨sc, one, l, s1⟩, hsab, h⟩ := bind_ok.1 h
  obtain ⟨_, c1⟩ := H.toSimRel.sim_startAlphaBeta hsab
  dsimp only at h
  rcases ite_ok.1 h with ⟨he, h⟩ | ⟨he, h⟩
  · cases pure_ok.1 h
    obtain ⟨s1', hsab', r1⟩ := c1 h0 hB
    obtain ⟨o, rfl⟩ := H.same r1
    exact ⟨_, by rw [hsab', ok_bind]; exact if_pos he, H.push _ rfl (H.push _ rfl (H.cand _ r1))⟩
  · obtain ⟨⟨best, done, s2⟩, hd, h⟩ := bind_ok.1 h
    obtain ⟨m, tl, hcand, rfl⟩ := announce_ok h
    have hd2 : (copyBestLine s1 l).consult.tick ≤ s2.tick ∧ ∀ {t}, R (copyBestLine s1 l).consult t → s2.tick ≤ hi →
        ∃ s2', deepenFrom env' qfuel p maxDepth sc one l t = .ok (best, done, s2') ∧ R s2 s2' := by
      unfold deepenFrom at hd ⊢
      rcases ite_ok.1 hd with ⟨hc, hd⟩ | ⟨hc, hd⟩
      · obtain ⟨md, cd⟩ := H.sim_deepenLoop _ _ _ _ _ _ _ _ _ hd
        refine ⟨md, fun hR hB2 => ?_⟩
        obtain ⟨s2', hd', r2⟩ := cd hR hB2
        obtain ⟨o, rfl⟩ := H.same hR
        rw [SS.consult_tick, Nat.add_sub_cancel] at hc ⊢
        rw [(H.oracle _ (Nat.le_trans md hB2)).1, if_pos hc]
        exact ⟨s2', hd', r2⟩
      · cases pure_ok.1 hd
        refine ⟨Nat.le_refl _, fun {t} hR hB2 => ?_⟩
        obtain ⟨o, rfl⟩ := H.same hR
        rw [SS.consult_tick, Nat.add_sub_cancel] at hc ⊢
        rw [(H.oracle _ hB2).1, if_neg hc]
        exact ⟨_, rfl, hR⟩
    obtain ⟨s1', hsab', r1⟩ := c1 h0 (Nat.le_of_succ_le (Nat.le_trans hd2.1 hB))
    obtain ⟨s2', hd', r2⟩ := hd2.2 (H.consult (H.cand _ r1)) hB
    obtain ⟨o, rfl⟩ := H.same r1
    obtain ⟨o2, rfl⟩ := H.same r2
    refine ⟨_, ?_, H.push _ rfl (H.push _ rfl r2)⟩
    rw [hsab', ok_bind]
    exact (if_neg he).trans (bind_ok.2 ⟨_, hd', announce_eq (s := { s2 with out := o2 }) hcand _ _⟩)

end

end Magog.Model
