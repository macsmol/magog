import Magog.Lemmas.PvLegal
import Magog.Lemmas.LogIndep
import Magog.Props.C18

/-! Totality of the search model (property C18, search part): given abstract totality facts about the per-node
    engine operations (`SearchOps`), a PV table of the triangular shape `newRows D` allocates, a killer table of
    the allocated size and depth / stack budgets that fit, `quiescence`, `alphaBeta`, `startAlphaBeta` never
    return `Except.error` - for every oracle (`env.timeUp`, `env.stopAt`, `env.gateOpen` are arbitrary).
    The iterative-deepening driver is treated in `SearchTotalIter.lean`.
    The run is constructed forward here, whereas `SearchSim` and `SearchFrame` take a successful run apart; so what
    they give about `rootMoves`, `firstMoveIdx` (`Keep`) and `cand` is carried along in `Stay` / `Post`. -/

namespace Magog.SearchTotal
open Magog Magog.Model

/-- what the search needs from the per-node engine operations on the positions it can reach -/
structure SearchOps (env : Env) (G : Position → Prop) (μ : Position → Nat) : Prop where
  gen : ∀ p kt, G p → kt.size = Gen.killerMovesMaxPly →
    ∃ ms, generateMoves kt p = .ok ms ∧ ∀ rm ∈ ms, ∃ q, makeMove p rm.mov = .ok (q, true) ∧ G q
  tac : ∀ p, G p → ∃ ts, generateTacticalMoves p = .ok ts ∧
    ∀ rm ∈ ts, ∃ q, makeMove p rm.mov = .ok (q, true) ∧ G q ∧ μ q < μ p
  bound : ∀ p, G p → μ p ≤ Gen.maxQuiescenceDepth
  lazy : ∀ p (d a b : Int), G p → ∃ x, lazyEvaluate env.blend p d a b = .ok x
  eval : ∀ p (d : Int), G p → ∃ x, evaluate env.blend p d = .ok x
  term : ∀ p (d : Int), G p → ∃ x, terminalNodeScore p d = .ok x

/-- the shape that `newRows D` allocates: `D` rows, row `i` with room for the `D - i` moves of a line from depth `i` -/
def RowsTri (rows : Array (Array Move)) (D : Nat) : Prop :=
  rows.size = D ∧ ∀ i r, rows[i]? = some r → r.size = D - i

theorem rowsTri_newRows (D : Nat) : RowsTri (newRows D) D := by
  refine ⟨by simp [newRows], ?_⟩
  intro i r h
  obtain ⟨hi, hr⟩ := Array.getElem?_eq_some_iff.1 h
  subst hr
  simp [newRows]


/-- What a piece of search code below the root keeps: the table shape, the killer-table size, and the fields
    `rootMoves`, `firstMoveIdx` (read by the `currmove` line) and `cand` (the line of the previous iteration). -/
structure Stay (D : Nat) (s s' : SS) : Prop where
  rows : RowsTri s'.rows D
  killers : s'.killers.size = Gen.killerMovesMaxPly
  rootMoves : s'.rootMoves = s.rootMoves
  firstMoveIdx : s'.firstMoveIdx = s.firstMoveIdx
  cand : s'.cand = s.cand

/-- `Stay` for a node at depth `d`, with the length `len` of the line it returns fitting into row `d` -/
structure Post (D d : Nat) (s : SS) (len : Nat) (s' : SS) : Prop where
  rows : RowsTri s'.rows D
  killers : s'.killers.size = Gen.killerMovesMaxPly
  rootMoves : s'.rootMoves = s.rootMoves
  firstMoveIdx : s'.firstMoveIdx = s.firstMoveIdx
  cand : s'.cand = s.cand
  len : len ≤ D - d

theorem Post.stay {D d s len s'} (h : Post D d s len s') : Stay D s s' :=
  ⟨h.rows, h.killers, h.rootMoves, h.firstMoveIdx, h.cand⟩

theorem Stay.post {D d s len s'} (h : Stay D s s') (hl : len ≤ D - d) : Post D d s len s' :=
  ⟨h.rows, h.killers, h.rootMoves, h.firstMoveIdx, h.cand, hl⟩

theorem Stay.refl {D s} (hr : RowsTri s.rows D) (hk : s.killers.size = Gen.killerMovesMaxPly) : Stay D s s :=
  ⟨hr, hk, rfl, rfl, rfl⟩

theorem Stay.trans {D a b c} (h1 : Stay D a b) (h2 : Stay D b c) : Stay D a c :=
  ⟨h2.rows, h2.killers, h2.rootMoves.trans h1.rootMoves, h2.firstMoveIdx.trans h1.firstMoveIdx,
   h2.cand.trans h1.cand⟩

theorem Stay.inRange {D s s'} (h : Stay D s s') (hin : InRange s) : InRange s' := by
  unfold InRange at *
  rw [h.rootMoves, h.firstMoveIdx]; exact hin

theorem Stay.consult {D s s'} (h : Stay D s s') : Stay D s s'.consult :=
  ⟨h.rows, h.killers, h.rootMoves, h.firstMoveIdx, h.cand⟩


theorem RowsTri.shape {r r' : Array (Array Move)} {D : Nat} (h : RowsTri r D) (hs : SameShape r r') : RowsTri r' D :=
  ⟨hs.size.trans h.1, fun i row hi => by
    obtain ⟨row0, h0, hsz⟩ := hs.symm.some hi
    rw [← hsz]; exact h.2 i row0 h0⟩

theorem rowLen_tri {s : SS} {D d : Nat} (hr : RowsTri s.rows D) (hd : d < D) : rowLen s d = .ok (D - d) := by
  have hd' : d < s.rows.size := by rw [hr.1]; exact hd
  have e : s.rows[d]? = some s.rows[d] := Array.getElem?_eq_getElem hd'
  rw [rowLen_eq, e, Option.map_some, hr.2 d _ e]
  rfl

theorem updateBestLine_tri {s : SS} {D d subLen : Nat} (mv : Move) (hr : RowsTri s.rows D) (hd : d + 1 < D)
    (hs : subLen ≤ D - (d + 1)) :
    ∃ rows', updateBestLine s d subLen mv = .ok ({ s with rows := rows' }, subLen + 1) ∧ RowsTri rows' D := by
  have hd0 : d < s.rows.size := by rw [hr.1]; omega
  have hd1 : d + 1 < s.rows.size := by rw [hr.1]; exact hd
  have e0 : s.rows[d]? = some s.rows[d] := Array.getElem?_eq_getElem hd0
  have hu := (updateBestLine_ok (mv := mv)).2 ⟨_, _, e0, Array.getElem?_eq_getElem hd1,
    (by rw [hr.2 d _ e0]; omega : subLen + 1 ≤ _), rfl, rfl⟩
  exact ⟨_, hu, hr.shape (updateBestLine_spec hu).2.1.toSameShape⟩

theorem pollAfterMove_stay (env : Env) {D : Nat} {s0 s : SS} (h : Stay D s0 s) :
    Stay D s0 (pollAfterMove env s).2 := by
  rw [pollAfterMove_upd]
  exact ⟨h.rows, h.killers, h.rootMoves, h.firstMoveIdx, h.cand⟩

theorem qEval_total {env : Env} {G : Position → Prop} {μ : Position → Nat} (H : SearchOps env G μ) {p : Position}
    (hp : G p) (d : Nat) (a b : Int) : ∃ x, qEval env p d a b = .ok x := by
  unfold qEval
  split
  · exact H.lazy p d a b hp
  · exact H.eval p d hp

/-- the child of a node is total and keeps the invariant (`idx`, `d` are the child's stack index and depth) -/
def ChildOk (D : Nat) (G' : Position → Prop) (idx d : Nat) (child : NodeFn) : Prop :=
  ∀ (q : Position) (a b : Int) (curLen : Nat) (s : SS), G' q → RowsTri s.rows D →
    s.killers.size = Gen.killerMovesMaxPly → InRange s → curLen ≤ D - d →
    ∃ v len s', child q idx d a b curLen s = .ok (v, len, s') ∧ Post D d s len s'


variable {env : Env} {G : Position → Prop} {μ : Position → Nat}

theorem qLoop_total {D : Nat} {G' : Position → Prop} {child : NodeFn} (p : Position) (idx d : Nat) (beta : Int)
    (hd : d + 1 < D) (hc : ChildOk D G' (idx + 1) (d + 1) child) :
    ∀ (ms : List RMove) (alpha : Int) (curLen subLen : Nat) (s : SS),
      (∀ rm ∈ ms, ∃ q, makeMove p rm.mov = .ok (q, true) ∧ G' q) → (ms ≠ [] → idx + 1 < env.stackCap) →
      RowsTri s.rows D → s.killers.size = Gen.killerMovesMaxPly → InRange s → curLen ≤ D - d →
      subLen ≤ D - (d + 1) →
      ∃ r, qLoop env child p idx d beta ms alpha curLen subLen s = .ok r ∧ Stay D s r.st ∧ r.curLen ≤ D - d := by
  intro ms
  induction ms with
  | nil =>
    intro alpha curLen subLen s _ _ hr hk _ hcl _
    exact ⟨⟨alpha, curLen, s⟩, rfl, Stay.refl hr hk, hcl⟩
  | cons mv rest ih =>
    intro alpha curLen subLen s hmv hst hr hk hin hcl hsl
    have hst' := hst (List.cons_ne_nil _ _)
    obtain ⟨q, hmk, hq⟩ := hmv mv List.mem_cons_self
    obtain ⟨v, sl, s1, hch, post⟩ := hc q (-beta) (-alpha) subLen s hq hr hk hin hsl
    have st1 : Stay D s s1 := post.stay
    have st2 : Stay D s s1.consult := st1.consult
    have hmv' : ∀ rm ∈ rest, ∃ q, makeMove p rm.mov = .ok (q, true) ∧ G' q :=
      fun rm h => hmv rm (List.mem_cons_of_mem _ h)
    refine Exists.imp (fun r => And.imp_left fun e => qLoop_cons_ok.2
      ⟨by omega, q, true, hmk, by simp, v, sl, s1, hch, e⟩) ?_
    by_cases hi : s1.interrupted = true
    · exact ⟨_, .inl ⟨hi, rfl⟩, st1, hcl⟩
    by_cases hto : env.timeUp s1.tick = true
    · exact ⟨_, .inr ⟨hi, .inl ⟨hto, rfl⟩⟩, st2, hcl⟩
    by_cases hcut : -v ≥ beta
    · exact ⟨_, .inr ⟨hi, .inr ⟨hto, .inl ⟨hcut, rfl⟩⟩⟩, st2, hcl⟩
    by_cases himp : -v > alpha
    · obtain ⟨rows', hu, hr'⟩ := updateBestLine_tri (s := s1.consult) mv.mov st2.rows hd post.len
      have st3 : Stay D s { s1.consult with rows := rows' } :=
        ⟨hr', st2.killers, st2.rootMoves, st2.firstMoveIdx, st2.cand⟩
      obtain ⟨r, hq', str, hl⟩ := ih (-v) (sl + 1) sl _ hmv' (fun _ => hst') hr' st3.killers (st3.inRange hin)
        (by have := post.len; omega) post.len
      exact ⟨r, .inr ⟨hi, .inr ⟨hto, .inr ⟨hcut, .inl ⟨himp, _, _, hu, hq'⟩⟩⟩⟩, st3.trans str, hl⟩
    · obtain ⟨r, hq', str, hl⟩ := ih alpha curLen sl _ hmv' (fun _ => hst') st2.rows st2.killers (st2.inRange hin)
        hcl post.len
      exact ⟨r, .inr ⟨hi, .inr ⟨hto, .inr ⟨hcut, .inr ⟨himp, hq'⟩⟩⟩⟩, st2.trans str, hl⟩

/-- quiescence terminates within `μ p` plies and never panics -/
theorem quiescence_total (H : SearchOps env G μ) (hsort : SortSound env) (hlog : env.logInterval ≠ 0) {D : Nat} :
    ∀ (fuel : Nat) (p : Position) (idx d : Nat) (α β : Int) (curLen : Nat) (s : SS),
      G p → μ p < fuel → d + μ p + 1 < D → idx + μ p < env.stackCap → RowsTri s.rows D →
      s.killers.size = Gen.killerMovesMaxPly → InRange s → curLen ≤ D - d →
      ∃ v len s', quiescence env fuel p idx d α β curLen s = .ok (v, len, s') ∧ Post D d s len s' := by
  intro fuel
  induction fuel with
  | zero => intro p idx d α β curLen s _ hf; omega
  | succ fuel ih =>
    intro p idx d α β curLen s hp hf hD hS hr hk hin hcl
    obtain ⟨score, hsc⟩ := qEval_total H hp d α β
    obtain ⟨s1, hs1⟩ := qLog_total hlog (s := { s with nodes := s.nodes + 1 }) hin
    have hsl := rowLen_tri hr (by omega : d + 1 < D)
    obtain ⟨o, rfl, _⟩ := qLog_out hs1
    have st1 : Stay D s { s with nodes := s.nodes + 1, out := o } := ⟨hr, hk, rfl, rfl, rfl⟩
    by_cases hcut : score ≥ β
    · exact ⟨_, _, _, quiescence_succ_ok.2 ⟨_, hsl, _, hsc, _, hs1, .inl ⟨hcut, rfl, rfl, rfl⟩⟩, st1.post hcl⟩
    obtain ⟨ts, hts, hmv⟩ := H.tac p hp
    have hc : ChildOk D (fun q => G q ∧ μ q < μ p) (idx + 1) (d + 1) (quiescence env fuel) := by
      intro q a b cl s2 hq hr2 hk2 hin2 hcl2
      exact ih q (idx + 1) (d + 1) a b cl s2 hq.1 (by omega) (by omega) (by omega) hr2 hk2 hin2 hcl2
    have hmv' : ∀ rm ∈ env.sortFn ts, ∃ q, makeMove p rm.mov = .ok (q, true) ∧ G q ∧ μ q < μ p :=
      fun rm h => hmv rm (hsort.mem _ _ h)
    have hst : env.sortFn ts ≠ [] → idx + 1 < env.stackCap := by
      intro hne
      obtain ⟨rm, hrm⟩ := List.exists_mem_of_ne_nil _ hne
      obtain ⟨q, _, _, hlt⟩ := hmv' rm hrm
      omega
    have hcl' : (if score > α then (score, 0) else (α, curLen)).2 ≤ D - d := by
      split
      · exact Nat.zero_le _
      · exact hcl
    obtain ⟨r, hq, str, hl⟩ := qLoop_total (env := env) p idx d β (by omega) hc (env.sortFn ts)
      (if score > α then (score, 0) else (α, curLen)).1 _ (D - (d + 1)) _ hmv' hst st1.rows st1.killers
      (st1.inRange hin) hcl' (Nat.le_refl _)
    exact ⟨_, _, _, quiescence_succ_ok.2 ⟨_, hsl, _, hsc, _, hs1, .inr ⟨hcut, ts, hts, r, hq, rfl, rfl, rfl⟩⟩,
      (st1.trans str).post hl⟩


theorem improve_total {D d subLen : Nat} (s : SS) (mv : Move) (score alpha : Int) (curLen : Nat)
    (hr : RowsTri s.rows D) (hk : s.killers.size = Gen.killerMovesMaxPly) (hd : d + 1 < D)
    (hs : subLen ≤ D - (d + 1)) (hcl : curLen ≤ D - d) :
    ∃ y, improve s d subLen mv score alpha curLen = .ok y ∧ Stay D s y.2.2 ∧ y.2.1 ≤ D - d := by
  unfold improve
  refine ite_total (fun _ => ?_) fun _ => ⟨_, rfl, Stay.refl hr hk, hcl⟩
  obtain ⟨rows', hu, hr'⟩ := updateBestLine_tri (s := s) mv hr hd hs
  rw [hu, ok_bind]
  exact ⟨_, rfl, ⟨hr', hk, rfl, rfl, rfl⟩, by dsimp only; omega⟩

theorem abLoop_total {D : Nat} {G' : Position → Prop} {child : NodeFn} (p : Position) (idx d : Nat) (beta : Int)
    (hd : d + 1 < D) (hc : ChildOk D G' (idx + 1) (d + 1) child) :
    ∀ (ms : List RMove) (alpha : Int) (curLen subLen : Nat) (s : SS),
      (∀ rm ∈ ms, ∃ q, makeMove p rm.mov = .ok (q, true) ∧ G' q) → (ms ≠ [] → idx + 1 < env.stackCap) →
      RowsTri s.rows D → s.killers.size = Gen.killerMovesMaxPly → InRange s → curLen ≤ D - d →
      subLen ≤ D - (d + 1) →
      ∃ r, abLoop env child p idx d beta ms alpha curLen subLen s = .ok r ∧ Stay D s r.st ∧ r.curLen ≤ D - d := by
  intro ms
  induction ms with
  | nil =>
    intro alpha curLen subLen s _ _ hr hk _ hcl _
    exact ⟨⟨alpha, curLen, s⟩, rfl, Stay.refl hr hk, hcl⟩
  | cons mv rest ih =>
    intro alpha curLen subLen s hmv hst hr hk hin hcl hsl
    have hst' := hst (List.cons_ne_nil _ _)
    obtain ⟨q, hmk, hq⟩ := hmv mv List.mem_cons_self
    obtain ⟨v, sl, s1, hch, post⟩ := hc q (-beta) (-alpha) subLen s hq hr hk hin hsl
    have st1 : Stay D s s1 := post.stay
    by_cases hi : s.interrupted = true
    · exact ⟨_, abLoop_cons_ok.2 (.inl ⟨hi, rfl⟩), Stay.refl hr hk, hcl⟩
    refine Exists.imp (fun r => And.imp_left fun e => abLoop_cons_ok.2
      (.inr ⟨hi, by omega, q, true, hmk, by simp, v, sl, s1, hch, e⟩)) ?_
    by_cases hcut : -v ≥ beta
    · cases mv.tactical
      · obtain ⟨kt, hkt, hsz⟩ := Props.C18.updateKillers_total s1.killers st1.killers p.ply mv.mov
        exact ⟨_, .inl ⟨hcut, .inl ⟨rfl, kt, hkt, rfl⟩⟩, ⟨st1.rows, hsz, st1.rootMoves, st1.firstMoveIdx, st1.cand⟩,
          hcl⟩
      · exact ⟨_, .inl ⟨hcut, .inr ⟨rfl, rfl⟩⟩, st1, hcl⟩
    obtain ⟨⟨a, l, s2⟩, hy, sty, hyl⟩ := improve_total s1 mv.mov (-v) alpha curLen st1.rows st1.killers hd post.len hcl
    have st2 : Stay D s (pollAfterMove env s2).2 := pollAfterMove_stay env (st1.trans sty)
    refine Exists.imp (fun r => And.imp_left fun e => .inr ⟨hcut, a, l, s2, hy, e⟩) ?_
    by_cases hbrk : (pollAfterMove env s2).1 = true
    · exact ⟨_, .inl ⟨hbrk, rfl⟩, st2, hyl⟩
    obtain ⟨r, hq', str, hl⟩ := ih a l sl _ (fun rm h => hmv rm (List.mem_cons_of_mem _ h)) (fun _ => hst')
      st2.rows st2.killers (st2.inRange hin) hyl post.len
    exact ⟨r, .inr ⟨hbrk, hq'⟩, st2.trans str, hl⟩

theorem sortedBonus_ok (hsort : SortSound env) {p : Position} {cand : List Move} {matched depth : Nat}
    {ms : List RMove} (hmv : ∀ rm ∈ ms, ∃ q, makeMove p rm.mov = .ok (q, true) ∧ G q) :
    ∀ rm ∈ env.sortFn (applyPvBonus cand matched depth ms).1, ∃ q, makeMove p rm.mov = .ok (q, true) ∧ G q := by
  intro rm h
  obtain ⟨rm', h1, h2⟩ := List.mem_map.1 (sortedBonus_mem hsort h)
  rw [← h2]; exact hmv rm' h1

theorem alphaBeta_total (H : SearchOps env G μ) (hsort : SortSound env) (hlog : env.logInterval ≠ 0)
    {D qfuel : Nat} (hq : Gen.maxQuiescenceDepth < qfuel) :
    ∀ (rem : Nat) (p : Position) (idx d : Nat) (α β : Int) (curLen : Nat) (s : SS),
      G p → d + rem + Gen.maxQuiescenceDepth + 1 < D → idx + rem + Gen.maxQuiescenceDepth < env.stackCap →
      RowsTri s.rows D → s.killers.size = Gen.killerMovesMaxPly → InRange s → curLen ≤ D - d →
      ∃ v len s', alphaBeta env qfuel rem p idx d α β curLen s = .ok (v, len, s') ∧ Post D d s len s' := by
  intro rem
  induction rem with
  | zero =>
    intro p idx d α β curLen s hp hD hS hr hk hin hcl
    simp only [alphaBeta]
    rw [rowLen_tri hr (by omega : d + 1 < D), ok_bind]
    have hb := H.bound p hp
    exact quiescence_total H hsort hlog qfuel p idx d α β curLen s hp (by omega) (by omega) (by omega) hr hk hin hcl
  | succ rem ih =>
    intro p idx d α β curLen s hp hD hS hr hk hin hcl
    obtain ⟨ms, hms, hmv⟩ := H.gen p s.killers hp hk
    have hsl := rowLen_tri hr (by omega : d + 1 < D)
    by_cases hemp : ms.isEmpty = true
    · obtain ⟨x, hx⟩ := H.term p d hp
      exact ⟨_, _, _, alphaBeta_succ_ok.2 ⟨_, hsl, ms, hms, .inl ⟨hemp, x, hx, rfl, rfl, rfl⟩⟩,
        hr, hk, rfl, rfl, rfl, Nat.zero_le _⟩
    · have hc : ChildOk D G (idx + 1) (d + 1) (alphaBeta env qfuel rem) := by
        intro q a b cl s2 hq2 hr2 hk2 hin2 hcl2
        exact ih q (idx + 1) (d + 1) a b cl s2 hq2 (by omega) (by omega) hr2 hk2 hin2 hcl2
      obtain ⟨r, hl, str, hlen⟩ := abLoop_total (env := env) p idx d β (by omega) hc _ α curLen (D - (d + 1))
        ({ s with matched := (applyPvBonus s.cand s.matched d ms).2 } : SS) (sortedBonus_ok hsort hmv)
        (fun _ => by omega) hr hk hin hcl (Nat.le_refl _)
      exact ⟨_, _, _, alphaBeta_succ_ok.2 ⟨_, hsl, ms, hms, .inr ⟨hemp, r, hl, rfl, rfl, rfl⟩⟩,
        str.rows, str.killers, str.rootMoves, str.firstMoveIdx, str.cand, hlen⟩


theorem rootImprove_total {D subLen : Nat} (target : Nat) (s : SS) (mv : Move) (score alpha : Int) (curLen : Nat)
    (hr : RowsTri s.rows D) (hk : s.killers.size = Gen.killerMovesMaxPly) (hD : 1 < D) (hs : subLen ≤ D - 1) :
    ∃ y, rootImprove env target s subLen mv score alpha curLen = .ok y ∧ Stay D s y.2.2 ∧
      (1 ≤ curLen → 1 ≤ y.2.1) := by
  unfold rootImprove
  refine ite_total (fun _ => ?_) fun _ => ⟨_, rfl, Stay.refl hr hk, id⟩
  obtain ⟨rows', hu, hr'⟩ := updateBestLine_tri (s := s) (d := 0) mv hr hD hs
  rw [hu, ok_bind]
  unfold rootPrint
  dsimp only
  split
  · rw [if_neg (by simp)]
    exact ⟨_, rfl, ⟨hr', hk, rfl, rfl, rfl⟩, fun _ => Nat.le_add_left _ _⟩
  · exact ⟨_, rfl, ⟨hr', hk, rfl, rfl, rfl⟩, fun _ => Nat.le_add_left _ _⟩

theorem rootStop_keeps (env : Env) (s : SS) :
    (rootStop env s).rows = s.rows ∧ (rootStop env s).killers = s.killers ∧ (rootStop env s).cand = s.cand := by
  rw [rootStop_upd]
  exact ⟨rfl, rfl, rfl⟩

theorem rootLoop_total {D : Nat} {G' : Position → Prop} {child : NodeFn} (p : Position) (target : Nat)
    (hD : 1 < D) (hcap : 1 < env.stackCap) (hc : ChildOk D G' 1 1 child) :
    ∀ (ms : List RMove) (alpha : Int) (curLen subLen : Nat) (s : SS),
      (∀ rm ∈ ms, ∃ q, makeMove p rm.mov = .ok (q, true) ∧ G' q) →
      RowsTri s.rows D → s.killers.size = Gen.killerMovesMaxPly →
      s.firstMoveIdx + ms.length = s.rootMoves.length → subLen ≤ D - 1 →
      ∃ r, rootLoop env child p target ms alpha curLen subLen s = .ok r ∧ RowsTri r.st.rows D ∧
        r.st.killers.size = Gen.killerMovesMaxPly ∧ r.st.cand = s.cand ∧ (1 ≤ curLen → 1 ≤ r.curLen) := by
  intro ms
  induction ms with
  | nil =>
    intro alpha curLen subLen s _ hr hk _ _
    exact ⟨⟨alpha, curLen, s⟩, rfl, hr, hk, rfl, id⟩
  | cons mv rest ih =>
    intro alpha curLen subLen s hmv hr hk hidx hsl
    rw [List.length_cons] at hidx
    have hin : InRange s := by unfold InRange; omega
    obtain ⟨q, hmk, hq⟩ := hmv mv List.mem_cons_self
    obtain ⟨v, sl, s1, hch, post⟩ := hc q (-(Gen.InfinityScore : Int)) (-alpha) subLen s hq hr hk hin hsl
    have st1 : Stay D s s1 := post.stay
    obtain ⟨y, hy, sty, hyl⟩ := rootImprove_total (env := env) target s1 mv.mov (-v) alpha curLen st1.rows
      st1.killers hD post.len
    by_cases hi : s.interrupted = true
    · exact ⟨_, rootLoop_cons_ok.2 (.inl ⟨hi, rfl⟩), hr, hk, rfl, id⟩
    obtain ⟨a, l, s2⟩ := y
    have st3 : Stay D s s2.consult := (st1.trans sty).consult
    refine Exists.imp (fun r => And.imp_left fun e => rootLoop_cons_ok.2
      (.inr ⟨hi, by omega, q, true, hmk, by simp, v, sl, s1, hch, a, l, s2, hy, e⟩)) ?_
    by_cases hi2 : s2.interrupted = true
    · exact ⟨_, .inl ⟨hi2, rfl⟩, st3.rows, st3.killers, st3.cand, hyl⟩
    by_cases hto : env.timeUp s2.tick = true
    · exact ⟨_, .inr ⟨hi2, .inl ⟨hto, rfl⟩⟩, st3.rows, st3.killers, st3.cand, hyl⟩
    by_cases hw : nextMoveWins (-v) = true
    · exact ⟨_, .inr ⟨hi2, .inr ⟨hto, .inl ⟨hw, rfl⟩⟩⟩, st3.rows, st3.killers, st3.cand, hyl⟩
    obtain ⟨k1, k2, k3⟩ := rootStop_keeps env s2.consult
    obtain ⟨k4, k5⟩ := rootStop_root env s2.consult
    obtain ⟨r, hq', hr', hk', hc', hl'⟩ := ih a l sl (rootStop env s2.consult)
      (fun rm h => hmv rm (List.mem_cons_of_mem _ h)) (by rw [k1]; exact st3.rows) (by rw [k2]; exact st3.killers)
      (by rw [k4, k5, st3.rootMoves, st3.firstMoveIdx]; omega) post.len
    exact ⟨r, .inr ⟨hi2, .inr ⟨hto, .inr ⟨hw, hq'⟩⟩⟩, hr', hk', by rw [hc', k3]; exact st3.cand, fun h => hl' (hyl h)⟩

theorem startAlphaBeta_total (H : SearchOps env G μ) (hsort : SortSound env) (hlog : env.logInterval ≠ 0)
    {D qfuel : Nat} (hq : Gen.maxQuiescenceDepth < qfuel) {p : Position} (target : Nat) (curLen : Nat) (s : SS) :
    G p → 1 ≤ target → target + Gen.maxQuiescenceDepth + 1 < D → target + Gen.maxQuiescenceDepth < env.stackCap →
    RowsTri s.rows D → s.killers.size = Gen.killerMovesMaxPly →
    ∃ score one len s', startAlphaBeta env qfuel p target curLen s = .ok (score, one, len, s') ∧ RowsTri s'.rows D ∧
      s'.killers.size = Gen.killerMovesMaxPly ∧ s'.cand = s.cand ∧
      ∃ ms, generateMoves s.killers p = .ok ms ∧ (ms = [] → len = 0) ∧ (ms ≠ [] → 1 ≤ curLen → 1 ≤ len) := by
  intro hp ht hD hS hr hk
  obtain ⟨ms, hms, hmv⟩ := H.gen p s.killers hp hk
  have hsl := rowLen_tri hr (by omega : 1 < D)
  by_cases hemp : ms.isEmpty = true
  · obtain ⟨x, hx⟩ := H.term p (0 : Int) hp
    exact ⟨_, _, _, _, startAlphaBeta_ok.2 ⟨_, hsl, ms, hms, .inl ⟨hemp, x, hx, rfl, rfl, rfl, rfl⟩⟩, hr, hk, rfl, ms, hms,
      fun _ => rfl, fun hne => absurd (List.isEmpty_iff.1 hemp) hne⟩
  · have hc : ChildOk D G 1 1 (alphaBeta env qfuel (target - 1)) := by
      intro q a b cl s2 hq2 hr2 hk2 hin2 hcl2
      exact alphaBeta_total H hsort hlog hq (target - 1) q 1 1 a b cl s2 hq2 (by omega) (by omega) hr2 hk2 hin2 hcl2
    obtain ⟨r, hl, hr', hk', hc', hlen⟩ := rootLoop_total (env := env) p target (by omega) (by omega) hc _
      Gen.MinusInfinityScore curLen (D - 1)
      ({ s with matched := (applyPvBonus s.cand s.matched 0 ms).2,
                rootMoves := env.sortFn (applyPvBonus s.cand s.matched 0 ms).1, firstMoveIdx := 0 } : SS)
      (sortedBonus_ok hsort hmv) hr hk (Nat.zero_add _) (Nat.le_refl _)
    exact ⟨_, _, _, _, startAlphaBeta_ok.2 ⟨_, hsl, ms, hms, .inr ⟨hemp, r, hl, rfl, rfl, rfl, rfl⟩⟩, hr', hk', hc', ms, hms,
      fun h0 => absurd (by rw [h0]; rfl : ms.isEmpty = true) hemp, fun _ => hlen⟩

end Magog.SearchTotal
