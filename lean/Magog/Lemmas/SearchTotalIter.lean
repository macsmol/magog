import Magog.Lemmas.SearchTotal
import Magog.Lemmas.KillerIndep

/-! Totality of the iterative-deepening driver (`deepenLoop`, `iterDeep`): property C18, search part, abstract
    form. Continues `SearchTotal.lean`. -/

namespace Magog.SearchTotal
open Magog Magog.Model

variable {env : Env} {G : Position → Prop} {μ : Position → Nat}

theorem rowPrefix_ne_nil {s : SS} {D len : Nat} (hr : RowsTri s.rows D) (hD : 1 ≤ D) (hl : 1 ≤ len) :
    rowPrefix s 0 len ≠ [] := by
  have h0 : 0 < s.rows.size := by rw [hr.1]; exact hD
  have e : s.rows[0]? = some s.rows[0] := Array.getElem?_eq_getElem h0
  have hz := hr.2 0 _ e
  rw [rowPrefix_of_some e]
  intro hnil
  have := congrArg List.length hnil
  simp only [List.length_take, Array.length_toList, List.length_nil] at this
  omega

theorem gen_ne_nil {p : Position} {kt0 kt : Killers} {ms0 ms : List RMove} (h0 : generateMoves kt0 p = .ok ms0)
    (hne : ms0 ≠ []) (h : generateMoves kt p = .ok ms) : ms ≠ [] := by
  have e := (Lemmas.KillerIndep.generateMoves_movs_indep kt0 kt p ms0 ms h0 h).1
  intro hnil
  subst hnil
  simp only [List.map_nil, List.map_eq_nil_iff] at e
  exact hne e

theorem deepenLoop_total (H : SearchOps env G μ) (hsort : SortSound env) (hlog : env.logInterval ≠ 0)
    {D qfuel maxDepth : Nat} (hq : Gen.maxQuiescenceDepth < qfuel) {p : Position} (hp : G p)
    (hD : max 1 maxDepth + Gen.maxQuiescenceDepth + 1 < D)
    (hst : max 1 maxDepth + Gen.maxQuiescenceDepth < env.stackCap)
    {kt0 : Killers} {ms0 : List RMove} (hg0 : generateMoves kt0 p = .ok ms0) (hne0 : ms0 ≠ []) :
    ∀ (n cur : Nat) (best : Int) (done len0 : Nat) (s : SS), 1 ≤ cur → 1 ≤ len0 → RowsTri s.rows D →
      s.killers.size = Gen.killerMovesMaxPly → s.cand ≠ [] →
      ∃ y, deepenLoop env qfuel p maxDepth n cur best done len0 s = .ok y ∧ y.2.2.cand ≠ [] := by
  intro n
  induction n with
  | zero =>
    intro cur best done len0 s _ _ _ _ hc
    exact ⟨_, rfl, hc⟩
  | succ n ih =>
    intro cur best done len0 s hcur hlen hr hk hc
    rw [deepenLoop_succ_eq]
    refine ite_total (fun _ => ⟨_, rfl, hc⟩) fun hle => ?_
    obtain ⟨score, one, len, s1, hsab, hr1, hk1, hc1, ms, hms, _, hlen1⟩ :=
      startAlphaBeta_total H hsort hlog hq (p := p) cur len0 s hp hcur (by omega) (by omega) hr hk
    have hlen1' : 1 ≤ len := hlen1 (gen_ne_nil hg0 hne0 hms) hlen
    rw [hsab, ok_bind]
    have hcand : s1.consult.cand ≠ [] := by
      show s1.cand ≠ []
      rw [hc1]; exact hc
    refine ite_total (fun _ => ⟨_, rfl, hcand⟩) fun _ => ?_
    refine ite_total (fun _ => ⟨_, rfl, hcand⟩) fun _ => ?_
    have hcb : (copyBestLine s1.consult len).cand ≠ [] :=
      rowPrefix_ne_nil (s := s1.consult) hr1 (by omega) hlen1'
    rw [printInfoAfterDepth_eq hcb, ok_bind]
    refine ite_total (fun _ => ⟨_, rfl, hcb⟩) fun _ => ?_
    refine ite_total (fun _ => ⟨_, rfl, hcb⟩) fun _ => ?_
    exact ih (cur + 1) score cur len _ (by omega) hlen1' hr1 hk1 hcb

/-- C18 main theorem, abstract form: iterative deepening never panics, for every oracle -/
theorem iterDeep_total (H : SearchOps env G μ) (hsort : SortSound env) (hlog : env.logInterval ≠ 0)
    {p : Position} (hp : G p) {kt : Killers} (hk : kt.size = Gen.killerMovesMaxPly)
    {rows : Array (Array Move)} {D : Nat} (hrows : RowsTri rows D) {maxDepth qfuel : Nat}
    (hD : max 1 maxDepth + Gen.maxQuiescenceDepth + 1 < D)
    (hst : max 1 maxDepth + Gen.maxQuiescenceDepth < env.stackCap)
    (hq : Gen.maxQuiescenceDepth < qfuel) (len0 : Nat) :
    ∃ s, iterDeep env qfuel p maxDepth kt rows len0 = .ok s := by
  rw [iterDeep_eq]
  obtain ⟨score, one, len, s1, hsab, hr1, hk1, _, ms, hms, hnil, _⟩ :=
    startAlphaBeta_total H hsort hlog hq (p := p) 1 len0 (initSS rows kt) hp (Nat.le_refl _) (by omega) (by omega)
      hrows hk
  rw [hsab, ok_bind]
  dsimp only
  split
  · exact ⟨_, rfl⟩
  rename_i hne
  have hcb : (copyBestLine s1 len).cand ≠ [] := fun h0 => hne (List.isEmpty_iff.2 h0)
  have hlen : 1 ≤ len := by
    rcases Nat.eq_zero_or_pos len with h0 | h0
    · subst h0
      exact absurd (rowPrefix_zero s1 0) hcb
    · exact h0
  have hms' : ms ≠ [] := fun h0 => by have := hnil h0; omega
  have hdeep : ∃ y, deepenFrom env qfuel p maxDepth score one len (copyBestLine s1 len).consult = .ok y ∧
      y.2.2.cand ≠ [] :=
    ite_total (fun _ => deepenLoop_total H hsort hlog hq hp hD hst hms hms' maxDepth 2 score 1 len
      (copyBestLine s1 len).consult (by omega) hlen hr1 hk1 hcb) fun _ => ⟨_, rfl, hcb⟩
  obtain ⟨y, hy, hcy⟩ := hdeep
  rw [hy, ok_bind]
  cases hcc : y.2.2.cand with
  | nil => exact absurd hcc hcy
  | cons m tl => exact ⟨_, announce_eq hcc y.1 y.2.1⟩

/-! The hypotheses of `iterDeep_total` on the table and the two budgets hold of the engine's constants. -/

example : RowsTri (newRows Gen.pvRows.toNat) Gen.pvRows.toNat := rowsTri_newRows _

example : max 1 Gen.MaxSearchDepth + Gen.maxQuiescenceDepth + 1 < Gen.pvRows.toNat := by decide

example : max 1 Gen.MaxSearchDepth + Gen.maxQuiescenceDepth < Gen.plyBufferCapacity := by decide

example (env : Env) (h : env.stackCap = Gen.plyBufferCapacity) :
    max 1 Gen.MaxSearchDepth + Gen.maxQuiescenceDepth < env.stackCap := by rw [h]; decide

end Magog.SearchTotal
