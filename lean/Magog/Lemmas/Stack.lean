import Magog.Model.Stack
import Magog.Lemmas.MBasic

/-! Lemmas about the explicit stack machine (`Model/Stack.lean`): push/pop restores, the bracket lemma,
    `perftS` / `perftTacticalS` are balanced and return what `perft` / `perftTactical` return, count or panic
    (`Runs`; `Complete` is its direction from `perft` to `perftS`), the in-place turn flip of `LazyEvaluate` is
    undone (`lazyEvaluateInPlace_ok`, `lazyEvaluateTop_ok`). All of it is read by `Props/C16.lean`, whose
    kernel-evaluated examples also take their position `c16Kings` from the end of this file. -/

namespace Magog.Model
open Magog

/-- `g'` is `g` as far as the caller can see: the slots above `idx` are scratch space and may have been
    overwritten -/
structure Balanced (g g' : GenS) : Prop where
  idx : g'.idx = g.idx
  size : g'.stack.size = g.stack.size
  frame : ∀ i, i ≤ g.idx → g'.stack[i]? = g.stack[i]?

/-- the weaker contract of a callee that may rewrite its own top slot -/
structure BalancedBelow (g g' : GenS) : Prop where
  idx : g'.idx = g.idx
  size : g'.stack.size = g.stack.size
  frame : ∀ i, i < g.idx → g'.stack[i]? = g.stack[i]?

theorem Balanced.refl (g : GenS) : Balanced g g := ⟨rfl, rfl, fun _ _ => rfl⟩

theorem Balanced.trans {a b c : GenS} (h1 : Balanced a b) (h2 : Balanced b c) : Balanced a c :=
  ⟨h2.idx.trans h1.idx, h2.size.trans h1.size,
   fun i hi => (h2.frame i (by rw [h1.idx]; exact hi)).trans (h1.frame i hi)⟩

theorem Balanced.below {g g' : GenS} (h : Balanced g g') : BalancedBelow g g' :=
  ⟨h.idx, h.size, fun i hi => h.frame i (Nat.le_of_lt hi)⟩

theorem Balanced.top {g g' : GenS} (h : Balanced g g') : g'.top = g.top := by
  unfold GenS.top
  rw [h.idx]
  exact h.frame _ (Nat.le_refl _)

theorem top_pushed {g : GenS} (hlt : g.idx + 1 < g.stack.size) (q : Position) :
    GenS.top { stack := g.stack.setIfInBounds (g.idx + 1) q, idx := g.idx + 1 } = some q := by
  unfold GenS.top
  simp only [Array.getElem?_setIfInBounds]
  simp [hlt]

/-- `pushMove` on a generator whose top is `p`, panics included: the copy of `p` into slot `idx + 1` and
    `makeMove` in place there are one write of `makeMove p m` -/
theorem pushMove_eq {g : GenS} {p : Position} (hp : g.top = some p) (m : Move) :
    pushMove g m = (if g.idx + 1 ≥ g.stack.size then throw (.index "posStack" (g.idx + 1)) else do
      let r ← makeMove p m
      pure ({ stack := g.stack.setIfInBounds (g.idx + 1) r.1, idx := g.idx + 1 }, r.2)) := by
  unfold GenS.top at hp
  unfold pushMove
  split
  · rfl
  rename_i hcap
  rw [hp]
  dsimp only
  rw [show (g.stack.setIfInBounds (g.idx + 1) p)[g.idx + 1]? = some p from top_pushed (by omega) p]
  dsimp only
  simp only [Array.setIfInBounds_setIfInBounds]

theorem pushMove_ok {g : GenS} {m : Move} {g' : GenS} {b : Bool} (h : pushMove g m = .ok (g', b)) :
    ∃ p r, g.top = some p ∧ g.idx + 1 < g.stack.size ∧ makeMove p m = .ok r ∧ b = r.2 ∧
      g' = { stack := g.stack.setIfInBounds (g.idx + 1) r.1, idx := g.idx + 1 } := by
  cases hp : g.top with
  | none =>
    unfold GenS.top at hp
    unfold pushMove at h
    rw [hp] at h
    split at h <;> cases h
  | some p =>
    rw [pushMove_eq hp] at h
    split at h
    · cases h
    obtain ⟨r, hr, h⟩ := bind_ok.1 h
    cases h
    exact ⟨p, r, rfl, by omega, hr, rfl, rfl⟩

theorem pushMove_idx {g : GenS} {m : Move} {g' : GenS} {b : Bool} (h : pushMove g m = .ok (g', b)) :
    g'.idx = g.idx + 1 := by
  obtain ⟨p, r, _, _, _, _, rfl⟩ := pushMove_ok h
  rfl

theorem pushMove_size {g : GenS} {m : Move} {g' : GenS} {b : Bool} (h : pushMove g m = .ok (g', b)) :
    g'.stack.size = g.stack.size := by
  obtain ⟨p, r, _, _, _, _, rfl⟩ := pushMove_ok h
  simp

theorem pushMove_frame {g : GenS} {m : Move} {g' : GenS} {b : Bool} (h : pushMove g m = .ok (g', b)) :
    ∀ i, i ≤ g.idx → g'.stack[i]? = g.stack[i]? := by
  obtain ⟨p, r, _, _, _, _, rfl⟩ := pushMove_ok h
  intro i hi
  simp only [Array.getElem?_setIfInBounds]
  rw [if_neg (by omega)]

theorem pushMove_top {g : GenS} {m : Move} {g' : GenS} {b : Bool} (h : pushMove g m = .ok (g', b)) :
    ∃ p q, g.top = some p ∧ makeMove p m = .ok (q, b) ∧ g'.top = some q := by
  obtain ⟨p, r, hp, hlt, hr, rfl, rfl⟩ := pushMove_ok h
  exact ⟨p, r.1, hp, hr, top_pushed hlt r.1⟩

theorem pop_balanced {g g1 g2 : GenS} (hidx : g1.idx = g.idx + 1) (hsize : g1.stack.size = g.stack.size)
    (hframe : ∀ i, i ≤ g.idx → g1.stack[i]? = g.stack[i]?) (hk : BalancedBelow g1 g2) :
    Balanced g (popMove g2) := by
  refine ⟨?_, ?_, ?_⟩
  · show g2.idx - 1 = g.idx
    rw [hk.idx, hidx]; rfl
  · show g2.stack.size = _
    rw [hk.size, hsize]
  · intro i hi
    show g2.stack[i]? = _
    rw [hk.frame i (by omega), hframe i hi]

theorem push_pop_balanced {g : GenS} {m : Move} {g' : GenS} {b : Bool} (h : pushMove g m = .ok (g', b)) :
    Balanced g (popMove g') :=
  pop_balanced (pushMove_idx h) (pushMove_size h) (pushMove_frame h) ⟨rfl, rfl, fun _ _ => rfl⟩

theorem pushLegal_ok {g : GenS} {m : Move} {g' : GenS} (h : pushLegal g m = .ok g') :
    pushMove g m = .ok (g', true) := by
  unfold pushLegal at h
  obtain ⟨⟨g1, ok⟩, hp, h⟩ := bind_ok.1 h
  dsimp only at h
  split at h
  · exact absurd h (by simp [throw_ok])
  · rename_i hok
    simp only [pure_ok] at h
    subst h
    cases ok <;> simp_all

theorem withMove_ok {α} {g : GenS} {m : Move} {k : GenS → M (α × GenS)} {a : α} {g' : GenS}
    (h : withMove g m k = .ok (a, g')) :
    ∃ g1 g2, pushMove g m = .ok (g1, true) ∧ k g1 = .ok (a, g2) ∧ g' = popMove g2 := by
  unfold withMove at h
  obtain ⟨g1, hp, h⟩ := bind_ok.1 h
  obtain ⟨⟨a', g2⟩, hkk, h⟩ := bind_ok.1 h
  simp only [pure_ok, Prod.mk.injEq] at h
  obtain ⟨rfl, rfl⟩ := h
  exact ⟨g1, g2, pushLegal_ok hp, hkk, rfl⟩

theorem withMove_balanced {α} {g : GenS} {m : Move} {k : GenS → M (α × GenS)} {a : α} {g' : GenS}
    (hk : ∀ g1 a g2, g1.idx = g.idx + 1 → g1.stack.size = g.stack.size → k g1 = .ok (a, g2) → BalancedBelow g1 g2)
    (h : withMove g m k = .ok (a, g')) : Balanced g g' := by
  obtain ⟨g1, g2, hp, hkk, rfl⟩ := withMove_ok h
  exact pop_balanced (pushMove_idx hp) (pushMove_size hp) (pushMove_frame hp)
    (hk _ _ _ (pushMove_idx hp) (pushMove_size hp) hkk)

theorem withMoveUnchecked_balanced {α} {g : GenS} {m : Move} {k : GenS → M (α × GenS)} {a : α} {g' : GenS}
    (hk : ∀ g1 a g2, g1.idx = g.idx + 1 → g1.stack.size = g.stack.size → k g1 = .ok (a, g2) → BalancedBelow g1 g2)
    (h : withMoveUnchecked g m k = .ok (a, g')) : Balanced g g' := by
  unfold withMoveUnchecked at h
  obtain ⟨⟨g1, b⟩, hp, h⟩ := bind_ok.1 h
  obtain ⟨⟨a', g2⟩, hkk, h⟩ := bind_ok.1 h
  simp only [pure_ok, Prod.mk.injEq] at h
  obtain ⟨rfl, rfl⟩ := h
  exact pop_balanced (pushMove_idx hp) (pushMove_size hp) (pushMove_frame hp)
    (hk _ _ _ (pushMove_idx hp) (pushMove_size hp) hkk)


/-- one step of the functional perft loops (`perft`, `perftTactical`) with the recursive call abstracted: the lambda
    of `Model.perft` / `Model.perftTactical` typed again. No equation relates them: `perftS_runs` /
    `perftTacticalS_runs` pass `topNode_runs` (stated with `perftStep`) where `perft` / `perftTactical` is expected,
    and it fits by unfolding. -/
def perftStep (cap idx : Nat) (p : Position) (child : Nat → Position → M Nat) (rm : RMove) : M Nat :=
  if idx + 1 ≥ cap then throw (.index "posStack" (idx + 1)) else do
    let r ← makeMove p rm.mov
    if !r.2 then throw (.explicit "Applying move resulted in illegal position") else
    child (idx + 1) r.1

/-- the stack-machine callee `kS` against the functional `child`, on every generator of buffer size `cap`: a run
    that returns is balanced, whatever the top; and if the top is `q`, `kS` returns what `child` returns on `q`, the
    same count or the same panic -/
def Runs (cap : Nat) (kS : GenS → M (Nat × GenS)) (child : Nat → Position → M Nat) : Prop :=
  ∀ g, g.stack.size = cap → (∀ n g', kS g = .ok (n, g') → Balanced g g') ∧
    ∀ q, g.top = some q → (kS g).map Prod.fst = child g.idx q

/-- the half of `Runs` that C16's `perftS_complete` / `perftTacticalS_complete` state: a count returned by `child` on
    the top position is returned by `kS` (`Runs.complete`) -/
def Complete (cap : Nat) (kS : GenS → M (Nat × GenS)) (child : Nat → Position → M Nat) : Prop :=
  ∀ g n q, g.stack.size = cap → g.top = some q → child g.idx q = .ok n → ∃ g', kS g = .ok (n, g')

theorem Runs.refines {cap : Nat} {kS : GenS → M (Nat × GenS)} {child : Nat → Position → M Nat}
    (h : Runs cap kS child) {g g' : GenS} {n : Nat} {q : Position} (hsz : g.stack.size = cap)
    (hk : kS g = .ok (n, g')) (hq : g.top = some q) : child g.idx q = .ok n := by
  rw [← (h g hsz).2 q hq, hk]
  rfl

theorem Runs.complete {cap : Nat} {kS : GenS → M (Nat × GenS)} {child : Nat → Position → M Nat}
    (h : Runs cap kS child) : Complete cap kS child := by
  intro g n q hsz hq hc
  rw [← (h g hsz).2 q hq] at hc
  obtain ⟨⟨_, g'⟩, hk, rfl⟩ := map_ok.1 hc
  exact ⟨g', hk⟩

theorem map_fst_bind {α σ} (x : M (α × σ)) (f : σ → σ) :
    (x >>= fun r => pure (r.1, f r.2)).map Prod.fst = x.map Prod.fst := by
  cases x <;> rfl

/-- the panics of `pushMove` / `pushLegal` are those of `perftStep`, in the same order -/
theorem withMove_runs {cap : Nat} {kS : GenS → M (Nat × GenS)} {child : Nat → Position → M Nat}
    (hk : Runs cap kS child) {g : GenS} (rm : RMove) (hsz : g.stack.size = cap) {p : Position} (hp : g.top = some p) :
    (withMove g rm.mov kS).map Prod.fst = perftStep cap g.idx p child rm := by
  unfold withMove pushLegal perftStep
  rw [pushMove_eq hp, hsz]
  split
  · rfl
  rename_i hcap
  cases makeMove p rm.mov with
  | error e => rfl
  | ok r =>
    simp only [ok_bind, pure_eq_ok]
    split
    · rfl
    rw [ok_bind, ← (hk _ (Array.size_setIfInBounds.trans hsz)).2 r.1 (top_pushed (by omega) r.1)]
    exact map_fst_bind _ popMove

theorem sumS_runs {cap : Nat} {kS : GenS → M (Nat × GenS)} {child : Nat → Position → M Nat} (hk : Runs cap kS child) :
    ∀ (ms : List RMove) (g : GenS), g.stack.size = cap →
      (∀ n g', sumS (fun rm g => withMove g rm.mov kS) ms g = .ok (n, g') → Balanced g g') ∧
      ∀ p, g.top = some p → (sumS (fun rm g => withMove g rm.mov kS) ms g).map Prod.fst =
        sumM' (perftStep cap g.idx p child) ms := by
  intro ms
  induction ms with
  | nil =>
    intro g _
    exact ⟨fun n g' h => by cases h; exact Balanced.refl _, fun _ _ => rfl⟩
  | cons rm rest ih =>
    intro g hsz
    have bal1 : ∀ a g1, withMove g rm.mov kS = .ok (a, g1) → Balanced g g1 := fun a g1 h =>
      withMove_balanced (fun g1 a g2 _ hs hkk => ((hk g1 (hs.trans hsz)).1 a g2 hkk).below) h
    simp only [sumS, sumM']
    constructor
    · intro n g' h
      obtain ⟨⟨a, g1⟩, h1, h⟩ := bind_ok.1 h
      obtain ⟨⟨b, g2⟩, h2, h⟩ := bind_ok.1 h
      cases h
      have b1 := bal1 a g1 h1
      exact b1.trans ((ih g1 (b1.size.trans hsz)).1 b g2 h2)
    · intro p hp
      rw [← withMove_runs hk rm hsz hp]
      cases h1 : withMove g rm.mov kS with
      | error e => rfl
      | ok r =>
        obtain ⟨a, g1⟩ := r
        have b1 := bal1 a g1 h1
        -- the rest of the loop runs on `g1`, which shows the caller the same top at the same index
        have := (ih g1 (b1.size.trans hsz)).2 p (by rw [b1.top]; exact hp)
        rw [b1.idx] at this
        rw [← this]
        show Except.map Prod.fst (sumS _ rest g1 >>= fun r2 => pure (a + r2.1, r2.2)) =
          (Except.map Prod.fst (sumS _ rest g1) >>= fun b => pure (a + b))
        cases sumS (fun rm g => withMove g rm.mov kS) rest g1 <;> rfl

theorem topLeaf_runs (cap : Nat) (cnt : Position → M Nat) :
    Runs cap (fun g => match g.top with
      | none => throw (.index "posStack" g.idx)
      | some p => do let n ← cnt p; pure (n, g)) (fun _ q => cnt q) := by
  intro g _
  constructor
  · intro n g' h
    dsimp only at h
    split at h
    · cases h
    · obtain ⟨c, _, h⟩ := bind_ok.1 h
      cases h
      exact Balanced.refl _
  · intro q hq
    simp only [hq]
    cases cnt q <;> rfl

theorem topNode_runs {cap : Nat} {kS : GenS → M (Nat × GenS)} {child : Nat → Position → M Nat} (kt : Killers)
    (hk : Runs cap kS child) :
    Runs cap (fun g => match g.top with
      | none => throw (.index "posStack" g.idx)
      | some p => do let ms ← generateMoves kt p; sumS (fun rm g => withMove g rm.mov kS) ms g)
      (fun idx q => do let ms ← generateMoves kt q; sumM' (perftStep cap idx q child) ms) := by
  intro g hsz
  constructor
  · intro n g' h
    dsimp only at h
    split at h
    · cases h
    · obtain ⟨ms, _, h⟩ := bind_ok.1 h
      exact (sumS_runs hk ms g hsz).1 n g' h
  · intro q hq
    simp only [hq]
    cases generateMoves kt q with
    | error e => rfl
    | ok ms => exact (sumS_runs hk ms g hsz).2 q hq

theorem perftS_runs (kt : Killers) : ∀ (d : Nat) (cap : Nat), Runs cap (perftS kt d) (fun idx q => perft kt cap d idx q)
  | 0, cap => fun g _ => ⟨fun n g' h => by cases h; exact Balanced.refl _, fun _ _ => rfl⟩
  | 1, cap => topLeaf_runs cap countMoves
  | d + 2, cap => topNode_runs kt (perftS_runs kt (d + 1) cap)

theorem perftTacticalS_runs (kt : Killers) : ∀ (d : Nat) (cap : Nat),
    Runs cap (perftTacticalS kt d) (fun idx q => perftTactical kt cap d idx q)
  | 0, cap => topLeaf_runs cap countTacticalMoves
  | 1, cap => topLeaf_runs cap countTacticalMoves
  | d + 2, cap => topNode_runs kt (perftTacticalS_runs kt (d + 1) cap)

theorem perftS_complete (kt : Killers) : ∀ (d : Nat) (cap : Nat),
    Complete cap (perftS kt d) (fun idx q => perft kt cap d idx q) :=
  fun d cap => (perftS_runs kt d cap).complete

theorem perftTacticalS_complete (kt : Killers) : ∀ (d : Nat) (cap : Nat),
    Complete cap (perftTacticalS kt d) (fun idx q => perftTactical kt cap d idx q) :=
  fun d cap => (perftTacticalS_runs kt d cap).complete


theorem xor_xor_cancel (a b : Nat) : a ^^^ b ^^^ b = a := by
  rw [Nat.xor_assoc, Nat.xor_self, Nat.xor_zero]

theorem flipTurn_flipTurn (p : Position) : flipTurn (flipTurn p) = p := by
  unfold flipTurn
  simp only [xor_xor_cancel]

theorem lazyEvaluateInPlace_eq (blend : Blend) (p : Position) (d a b : Int) :
    lazyEvaluateInPlace blend p d a b = (do let x ← lazyEvaluate blend p d a b; pure (x, p)) := by
  unfold lazyEvaluateInPlace lazyEvaluate
  simp only [bind_assoc]
  congr 1; funext mate
  split
  · rfl
  simp only [bind_assoc]
  congr 1; funext cheap
  split
  · rfl
  simp only [bind_assoc]
  congr 1; funext own
  split
  · rfl
  simp only [bind_assoc]
  show (countMoves (flipTurn p) >>= fun enemy => pure (_, flipTurn (flipTurn p))) = _
  rw [flipTurn_flipTurn]
  rfl

theorem lazyEvaluateInPlace_ok {blend : Blend} {p : Position} {d a b : Int} {x : Int} {p' : Position}
    (h : lazyEvaluateInPlace blend p d a b = .ok (x, p')) : p' = p ∧ lazyEvaluate blend p d a b = .ok x := by
  rw [lazyEvaluateInPlace_eq] at h
  obtain ⟨y, hy, h⟩ := bind_ok.1 h
  simp only [pure_ok, Prod.mk.injEq] at h
  obtain ⟨rfl, rfl⟩ := h
  exact ⟨rfl, hy⟩

theorem setIfInBounds_self {α} {a : Array α} {i : Nat} {x : α} (h : a[i]? = some x) : a.setIfInBounds i x = a := by
  apply Array.ext_getElem?
  intro j
  rw [Array.getElem?_setIfInBounds]
  split
  · rename_i hij; subst hij
    split
    · exact h.symm
    · rename_i hn; rw [Array.getElem?_eq_none (by omega)] at h; cases h
  · rfl

theorem lazyEvaluateTop_ok {blend : Blend} {g : GenS} {d a b : Int} {x : Int} {g' : GenS}
    (h : lazyEvaluateTop blend g d a b = .ok (x, g')) :
    g' = g ∧ ∃ p, g.top = some p ∧ lazyEvaluate blend p d a b = .ok x := by
  unfold lazyEvaluateTop at h
  split at h
  · exact absurd h (by simp [throw_ok])
  rename_i p hp
  obtain ⟨⟨y, p'⟩, hy, h⟩ := bind_ok.1 h
  simp only [pure_ok, Prod.mk.injEq] at h
  obtain ⟨rfl, rfl⟩ := h
  obtain ⟨rfl, hy⟩ := lazyEvaluateInPlace_ok hy
  refine ⟨?_, p', hp, hy⟩
  rw [setIfInBounds_self hp]

/-- witness for the perft examples of `Props/C16.lean`: White Ka1, black Kh8, White to move (3 moves, 9 paths
    of length 2, 54 of length 3) — small enough for kernel evaluation of the stack machine -/
def c16Kings : Position :=
  { board := ((Array.replicate 128 0).setIfInBounds Gen.A1 Gen.WKing).setIfInBounds Gen.H8 Gen.BKing,
    blackPieces := [], whitePieces := [], blackPawns := [], whitePawns := [],
    blackKing := Gen.H8, whiteKing := Gen.A1, flags := Gen.FlagWhiteTurn, ep := InvalidSq, ply := 0 }

end Magog.Model
