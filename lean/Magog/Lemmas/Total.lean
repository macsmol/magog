import Magog.Lemmas.TotalCount
import Magog.Lemmas.TotalEval
import Magog.Lemmas.TotalGen
import Magog.Lemmas.TotalMeasure
import Magog.Lemmas.TotalApply
import Magog.Lemmas.SearchTotalIter
import Magog.Lemmas.UciFen

/-! Assembly of the no-panic results on *good* positions `G p := Inv p ∧ MM.OppSafe p` (well-formed, the side
    not to move is not in check): `G` is closed under generated accepted moves, every engine operation is total on
    `G`, `SearchOps env G mu` holds for every environment. Headline statements: `Props/C18Total.lean`,
    `Props/C17.lean`. -/

namespace Magog.Total
open Magog Magog.Model Magog.MM

def G (p : Position) : Prop := Inv p ∧ MM.OppSafe p

theorem G_eq_goodPos : G = UciTotal.GoodPos := rfl

theorem G_start : G startPosition := ⟨inv_startPosition, Props.C02.oppSafe_start⟩

/-- every position the FEN loader accepts is good: well-formed (`C02.fen_inv`), and `OppSafe` is the loader's own
    test (`C08.fen_oppSafe`) -/
theorem G_of_fen {s : Bytes} {p : Position} (h : parseFen s = .ok (.ok p)) : G p :=
  ⟨Props.C02.fen_inv h, Props.C08.fen_oppSafe h⟩

theorem G_child {p q : Position} {m : Move} (hg : G p) (hG : Generated p m) (h : makeMove p m = .ok (q, true)) :
    G q :=
  Props.C02.makeMove_inv hg.1 hg.2 hG h

theorem generateMoves_total {p : Position} {kt : Killers} (hg : G p) (hk : kt.size = Gen.killerMovesMaxPly) :
    ∃ ms, generateMoves kt p = .ok ms ∧
      ∀ rm ∈ ms, Generated p rm.mov ∧ ∃ q, makeMove p rm.mov = .ok (q, true) :=
  TotalGen.generateMoves_total hg.1 hg.2 hk

theorem generateTacticalMoves_total {p : Position} (hg : G p) :
    ∃ ts, generateTacticalMoves p = .ok ts ∧
      ∀ rm ∈ ts, Generated p rm.mov ∧ ∃ q, makeMove p rm.mov = .ok (q, true) :=
  TotalGen.generateTacticalMoves_total hg.1 hg.2

theorem lazyEvaluate_total {p : Position} (hg : G p) (blend : Blend) (d a b : Int) :
    ∃ x, lazyEvaluate blend p d a b = .ok x :=
  TotalEval.lazyEvaluate_total hg.1 (countMoves_total hg.1) (countMoves_flip_total hg.1) blend d a b

theorem evaluate_total {p : Position} (hg : G p) (blend : Blend) (d : Int) : ∃ x, evaluate blend p d = .ok x :=
  TotalEval.evaluate_total hg.1 (countMoves_total hg.1) (countMoves_flip_total hg.1) blend d

theorem isCheckMate_total {p : Position} (hg : G p) : ∃ b, isCheckMate p = .ok b :=
  TotalEval.isCheckMate_total hg.1 (countMoves_total hg.1)

theorem terminalNodeScore_total {p : Position} (hg : G p) (d : Int) : ∃ x, terminalNodeScore p d = .ok x :=
  TotalEval.terminalNodeScore_total hg.1 d

theorem perft_total {kt : Killers} (hk : kt.size = Gen.killerMovesMaxPly) {cap d idx : Nat} {p : Position}
    (hg : G p) (h : idx + d < cap) : ∃ n, perft kt cap d idx p = .ok n :=
  TotalGen.perft_total (fun _ hI _ => countMoves_total hI) hk cap d idx p hg.1 hg.2 h

theorem perftTactical_total {kt : Killers} (hk : kt.size = Gen.killerMovesMaxPly) {cap d idx : Nat} {p : Position}
    (hg : G p) (h : idx + d < cap) : ∃ n, perftTactical kt cap d idx p = .ok n :=
  TotalGen.perftTactical_total (fun _ hI _ => countTacticalMoves_total hI) hk cap d idx p hg.1 hg.2 h

theorem perftDivide_total {kt : Killers} (hk : kt.size = Gen.killerMovesMaxPly) {cap d : Nat} {p : Position}
    (hg : G p) (hd0 : 0 < d) (hd : d < cap) : ∃ r, perftDivide kt cap p d = .ok r :=
  TotalGen.perftDivide_total (fun _ hI _ => countMoves_total hI) hk hg.1 hg.2 hd0 hd

theorem tperftDivide_total {kt : Killers} (hk : kt.size = Gen.killerMovesMaxPly) {cap d : Nat} {p : Position}
    (hg : G p) (hd0 : 0 < d) (hd : d < cap) : ∃ r, tperftDivide kt cap p d = .ok r :=
  TotalGen.tperftDivide_total (fun _ hI _ => countTacticalMoves_total hI) hk hg.1 hg.2 hd0 hd

theorem applyUciMove_total {p : Position} {m : Move} (hg : G p) (hG : Generated p m)
    (hacc : ∃ q, makeMove p m = .ok (q, true)) :
    ∃ p', applyUciMove p ⟨m.frm, m.to, m.promo, InvalidSq⟩ = .ok p' ∧ G p' :=
  TotalApply.applyUciMove_total hg.1 hg.2 hG hacc

/-- every per-node engine operation of the search is total on good positions, children of listed moves are
    good, and every tactical move lowers the bounded measure `mu` — for EVERY environment (oracles, blend) -/
theorem searchOps (env : Env) : SearchTotal.SearchOps env G TotalMeasure.mu where
  gen := fun p kt hg hk => by
    obtain ⟨ms, h, hall⟩ := generateMoves_total hg hk
    refine ⟨ms, h, fun rm hrm => ?_⟩
    obtain ⟨hG, q, hq⟩ := hall rm hrm
    exact ⟨q, hq, G_child hg hG hq⟩
  tac := fun p hg => by
    obtain ⟨ts, h, hall⟩ := generateTacticalMoves_total hg
    refine ⟨ts, h, fun rm hrm => ?_⟩
    obtain ⟨hG, q, hq⟩ := hall rm hrm
    exact ⟨q, hq, G_child hg hG hq, TotalMeasure.tactical_decreases hg.1 hg.2 h hrm hq⟩
  bound := fun _ hg => TotalMeasure.mu_le hg.1
  lazy := fun _ d a b hg => lazyEvaluate_total hg env.blend d a b
  eval := fun _ d hg => evaluate_total hg env.blend d
  term := fun _ d hg => terminalNodeScore_total hg d

/-! ### C17: the operations the driver runs -/

/-- all hypotheses of `UciTotal.modelOps_opsTotal` discharged: the operations the driver runs are total on `G`,
    and `G` holds of the start position, of EVERY position the FEN loader accepts, and after every legal move -/
theorem modelOps_opsTotal (blend : Blend) (tostr : Position → M Bytes) :
    UciTotal.OpsTotal (modelOps blend tostr) G UciTotal.LegalGen :=
  UciTotal.modelOps_opsTotal (fun _ hg => evaluate_total hg blend 0)
    (fun _ _ hg h0 h1 => perftDivide_total Props.C18.killers_empty_size hg h0 h1)
    (fun _ _ hg h0 h1 => tperftDivide_total Props.C18.killers_empty_size hg h0 h1)

/-- the `…F` form, for any condition `FenOk` on loaded positions -/
theorem modelOps_opsTotalF (blend : Blend) (tostr : Position → M Bytes) (FenOk : Position → Prop) :
    UciTotal.OpsTotalF (modelOps blend tostr) G UciTotal.LegalGen FenOk :=
  UciTotal.opsTotalF_of_opsTotal (modelOps_opsTotal blend tostr)

end Magog.Total
