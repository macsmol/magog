import Magog.Lemmas.MMGen
import Magog.Model.Notation
import Magog.Props.C02

/-! Property C17, the `apply` clause of `OpsTotal` for the real operation: `Generator.ApplyUciMove`
    (`Model.applyUciMove`) on the UCI rendering `⟨frm, to, promo, InvalidSq⟩` of a generated, accepted move `m`
    plays exactly `m`: the en-passant target it reconstructs from the origin / destination ranks is the
    generator's (`dbl`), and for every other class of generated move the reconstruction does not fire. -/

namespace Magog.TotalApply
open Magog Magog.Model Magog.MM

/-- the two-rank test of `ApplyUciMove`, irrespective of colour (as in the Go code) -/
def twoRank (frm t : Nat) : Bool :=
  (rankOf frm == Gen.Rank7 && rankOf t == Gen.Rank5) || (rankOf frm == Gen.Rank2 && rankOf t == Gen.Rank4)

/-- the move `ApplyUciMove` hands to `MakeMove` when the origin square holds `pc` -/
def uciFix (pc : Nat) (m : Move) : Move :=
  if pc &&& Colorless == Pawn && twoRank m.frm m.to then { m with ep := ((m.frm + m.to) % 256) / 2 } else m

theorem applyUciMove_of_board {p : Position} {m : Move} {pc : Nat} (h : p.board[m.frm]? = some pc) :
    applyUciMove p m = (do
      let r ← makeMove p (uciFix pc m)
      if r.2 then pure r.1 else throw (.explicit "Applying uci move resulted in illegal position")) := by
  unfold applyUciMove
  rw [bget_ok_iff.mpr h]
  rfl

/-- the two-rank test on a pawn's target squares: a single step never spans two ranks; a double push from the start
    rank does, and the midpoint is the skipped square; a capture (ordinary or en passant) onto a board square does
    not (off the board it can: a7 + S + W = 0x4F has "rank 5"; such a target is never generated) -/
theorem twoRank_fin : ∀ f ∈ Geo.sq88, ∀ w : Bool,
    twoRank f (addb f (GenGeoO.advOf w)) = false ∧
    (rankOf f = GenGeoO.startRankOf w →
      twoRank f (addb (addb f (GenGeoO.advOf w)) (GenGeoO.advOf w)) = true ∧
      ((f + addb (addb f (GenGeoO.advOf w)) (GenGeoO.advOf w)) % 256) / 2 = addb f (GenGeoO.advOf w)) ∧
    ∀ d ∈ [255, 1], Atk.onBoard (addb (addb f (GenGeoO.advOf w)) d) = true →
      twoRank f (addb (addb f (GenGeoO.advOf w)) d) = false := by
  decide +kernel

theorem cap_fact {f : Nat} (hf : f ∈ Geo.sq88) (w : Bool) {d : Nat} (hd : d = 255 ∨ d = 1)
    (ht : addb (addb f (GenGeoO.advOf w)) d ∈ Geo.sq88) : twoRank f (addb (addb f (GenGeoO.advOf w)) d) = false :=
  (twoRank_fin f hf w).2.2 d (by rcases hd with rfl | rfl <;> simp) (Atk.onBoard_iff.2 (Geo.mem_sq88.1 ht))

theorem pawn_code : ∀ w : Bool, (Atk.pawnOf w &&& Colorless == Pawn) = true := by decide
theorem officer_code : ∀ w : Bool, ∀ c ∈ Atk.officersOf w, (c &&& Colorless == Pawn) = false := by decide
theorem king_code : ∀ w : Bool, (Atk.kingOf w &&& Colorless == Pawn) = false := by decide

theorem uciFix_of_not_pawn {pc : Nat} (m : Move) (h : (pc &&& Colorless == Pawn) = false) : uciFix pc m = m := by
  rw [uciFix, h, Bool.false_and]
  rfl

theorem uciFix_of_not_twoRank (pc : Nat) {m : Move} (h : twoRank m.frm m.to = false) : uciFix pc m = m := by
  rw [uciFix, h, Bool.and_false]
  rfl

theorem uciFix_generated {p : Position} {m : Move} (hI : Inv p) (hc : MMAbs.GenCase p m) :
    ∃ pc, p.board[m.frm]? = some pc ∧ uciFix pc ⟨m.frm, m.to, m.promo, InvalidSq⟩ = m := by
  have hking : p.board[(p.side (whiteTurn p)).king]? = some (Atk.kingOf (whiteTurn p)) :=
    (((Inv.side hI (whiteTurn p)).king _).mp rfl).2.2
  obtain ⟨frm, t, promo, ep⟩ := m
  cases hc with
  | push hfrm hpawn hto hto88 hempty hep hpromo =>
    dsimp only at *
    subst hep
    exact ⟨_, hpawn, uciFix_of_not_twoRank _ (hto ▸ (twoRank_fin frm hfrm _).1)⟩
  | dbl hfrm hpawn hrank hto hto88 hempty hep hpromo =>
    dsimp only at *
    refine ⟨_, hpawn, ?_⟩
    obtain ⟨h1, h2⟩ := (twoRank_fin frm hfrm _).2.1 hrank
    rw [uciFix]
    dsimp only
    rw [hto, h1, pawn_code, Bool.and_true, if_pos rfl, h2, hep]
  | capture hfrm hpawn d hd hto hto88 x hx hen hep hpromo =>
    dsimp only at *
    subst hep
    exact ⟨_, hpawn, uciFix_of_not_twoRank _ (hto ▸ cap_fact hfrm _ hd (hto ▸ hto88))⟩
  | enpassant hfrm hpawn d hd hto hepsq hepok hep hpromo =>
    dsimp only at *
    subst hep
    have hto88 : t ∈ Geo.sq88 := hepsq ▸ Geo.mem_sq88.mpr ⟨hepok.1, hepok.2.1⟩
    exact ⟨_, hpawn, uciFix_of_not_twoRank _ (hto ▸ cap_fact hfrm _ hd (hto ▸ hto88))⟩
  | officer hfrm c hc hpc hto88 x hx hown hep hpromo =>
    dsimp only at *
    subst hep
    exact ⟨_, hpc, uciFix_of_not_pawn _ (officer_code _ c hc)⟩
  | king hk d hd hto hto88 x hx hown hep hpromo =>
    dsimp only at *
    subst hk hep
    exact ⟨_, hking, uciFix_of_not_pawn _ (king_code _)⟩
  | castleK hk hflag hhome hto hempty hep hpromo =>
    dsimp only at *
    subst hk hep
    exact ⟨_, hking, uciFix_of_not_pawn _ (king_code _)⟩
  | castleQ hk hflag hhome hto hempty hep hpromo =>
    dsimp only at *
    subst hk hep
    exact ⟨_, hking, uciFix_of_not_pawn _ (king_code _)⟩

/-- the UCI move string of a generated move, re-applied through `ApplyUciMove`, is that move: the reconstructed
    en-passant target equals the generator's -/
theorem applyUciMove_generated {p : Position} {m : Move} (hI : Inv p) (hG : Generated p m) :
    applyUciMove p ⟨m.frm, m.to, m.promo, InvalidSq⟩ = (do
      let r ← makeMove p m
      if r.2 then pure r.1 else throw (.explicit "Applying uci move resulted in illegal position")) := by
  obtain ⟨pc, hpc, hfix⟩ := uciFix_generated hI (MMAbs.generated_cases hI hG)
  rw [applyUciMove_of_board (m := ⟨m.frm, m.to, m.promo, InvalidSq⟩) hpc, hfix]

theorem applyUciMove_eq {p : Position} {m : Move} (hI : Inv p) (hG : Generated p m) {q : Position}
    (h : makeMove p m = .ok (q, true)) : applyUciMove p ⟨m.frm, m.to, m.promo, InvalidSq⟩ = .ok q := by
  rw [applyUciMove_generated hI hG, h]
  rfl

theorem applyUciMove_total {p : Position} {m : Move} (hI : Inv p) (hS : OppSafe p) (hG : Generated p m)
    (hacc : ∃ q, makeMove p m = .ok (q, true)) :
    ∃ p', applyUciMove p ⟨m.frm, m.to, m.promo, InvalidSq⟩ = .ok p' ∧ Inv p' ∧ OppSafe p' := by
  obtain ⟨q, hq⟩ := hacc
  obtain ⟨h1, h2⟩ := Props.C02.makeMove_inv hI hS hG hq
  exact ⟨q, applyUciMove_eq hI hG hq, h1, h2⟩

/-! ### non-vacuity: 1. e2-e4 on the start position (a double push; the en-passant square e3 is reconstructed) -/

example : ∃ p', applyUciMove startPosition ⟨0x14, 0x34, 0, InvalidSq⟩ = .ok p' ∧ Inv p' ∧ OppSafe p' := by
  obtain ⟨_, p', h, _⟩ := MM.game_e2e4
  exact applyUciMove_total (m := ⟨0x14, 0x34, 0, 0x24⟩) inv_startPosition Props.C02.oppSafe_start
    Props.C02.generated_e2e4 ⟨p', h⟩

end Magog.TotalApply
