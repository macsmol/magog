import Magog.Lemmas.TotalMM
import Magog.Lemmas.GenPure
import Magog.Lemmas.CountKing
import Magog.Lemmas.CountGen
import Magog.Lemmas.GenGeo

/-! The move COUNTERS (`countMoves`, `countMoves (flipTurn p)`, `countTacticalMoves`) never panic on
    well-formed positions.

    Every board read of the counters is in range (pawn squares: `GenGeo.pawnSq`), every slider ray
    leaves the board within the fuel, the castling tests are only evaluated with the king at home, and every
    `isLegal` call is on a move for which `makeMove` is total: a simple move (`Total.MoveOk`, file `MMSimple`)
    or an en-passant capture (`MM.ep_result`). The en-passant field enters only through `EpFacts`, which is
    established in the three situations that occur: no en-passant square, a consistent one (`EpOk`), and
    the "wrong-coloured" one of `flipTurn p`. Both counters are walks (`Walk.lean`); `walk_total` reduces the
    totality of a walk to its candidate sites. -/

namespace Magog.Total
open Magog Magog.Model Magog.Atk Magog.Geo Magog.MM Magog.Count Magog.Walk Magog.GenGeo
open Magog.GenGeoO (advOf startRankOf)

theorem countPawnMoves_total {q : Position} {frm to pr : Nat}
    (h : ∃ b, isLegal q ⟨frm, to, 0, InvalidSq⟩ = .ok b) : ∃ n, countPawnMoves q frm to pr = .ok n := by
  obtain ⟨b, hb⟩ := h
  cases b
  · exact ⟨0, by simp only [countPawnMoves, hb, ok_bind, Bool.not_false, if_true, pure_eq_ok]⟩
  · exact ⟨if rankOf to == pr then 4 else 1, by
      simp only [countPawnMoves, hb, ok_bind, Bool.not_true, Bool.false_eq_true, if_false, pure_eq_ok]⟩

theorem cell_lt {q : Position} (hI : InvNoEp q) {s : Nat} (hs : s < 128) : ∃ x, q.board[s]? = some x := by
  have hsz := hI.boardInv.ok.size
  exact ⟨q.board[s], Array.getElem?_eq_getElem (by omega)⟩

theorem cell_cases {q : Position} (hI : InvNoEp q) {s x : Nat} (hs : s < 128) (hx : q.board[s]? = some x) :
    (s ∈ sq88 ∧ (x = 0 ∨ x ∈ pieceCodes)) ∨ (s ∉ sq88 ∧ x = 0) := by
  by_cases hv : isValid s = true
  · obtain ⟨v, hv', hc⟩ := hI.boardInv.ok.codes s hs hv
    rw [hx] at hv'; cases hv'
    exact .inl ⟨mem_sq88.mpr ⟨hs, hv⟩, hc⟩
  · have := hI.boardInv.offBoard s hs (by simpa using hv)
    rw [hx] at this; cases this
    exact .inr ⟨fun h => hv (mem_sq88.mp h).2, rfl⟩

theorem officer_moveOk {q : Position} {w : Bool} {frm to v t : Nat} (hf : frm ∈ sq88) (hto : to ∈ sq88)
    (hv : q.board[frm]? = some v) (hman : Man w v) (hnp : v ≠ pawnOf w) (ht : q.board[to]? = some t)
    (htgt : t = 0 ∨ Man (!w) t)
    (hnc : v = kingOf w → ¬ (fileOf frm = Gen.E ∧ (fileOf to = Gen.C ∨ fileOf to = Gen.G))) :
    MoveOk q w ⟨frm, to, 0, InvalidSq⟩ v t :=
  ⟨hf, hto, hv, hman, ht, htgt, fun e => absurd e hnp, fun _ => rfl, fun e => absurd e hnp, hnc⟩

theorem own_test (w : Bool) {x : Nat} (hx : x = 0 ∨ x ∈ pieceCodes) (h : (x &&& colorBit w == 0) = true) :
    x = 0 ∨ Man (!w) x :=
  not_own_cases hx (by simpa using h)

theorem enemy_test (w : Bool) {x : Nat} (hx : x = 0 ∨ x ∈ pieceCodes) (h : (x &&& colorBit (!w) != 0) = true) :
    x = 0 ∨ Man (!w) x :=
  .inr ((man_iff_bit hx).mpr (by simpa using h))

theorem legalN_total {q : Position} {w : Bool} {m : Move} {v t : Nat} (hI : InvNoEp q) (hw : whiteTurn q = w)
    (h : MoveOk q w m v t) : IsOk (legalN q m) :=
  map_total b2n (isLegal_total_of_moveOk hI hw h)

theorem officerMove_total {q : Position} {w : Bool} (hI : InvNoEp q) (hw : whiteTurn q = w) {frm t v x : Nat}
    (hf : frm ∈ sq88) (ho : v ∈ officersOf w) (hv : q.board[frm]? = some v) (ht : t ∈ sq88) (hx : q.board[t]? = some x)
    (htgt : x = 0 ∨ Man (!w) x) : IsOk (legalN q ⟨frm, t, 0, InvalidSq⟩) :=
  have ⟨hm, hvp, hvk⟩ := officer_man ho
  legalN_total hI hw (officer_moveOk hf ht hv hm hvp hx htgt fun e => absurd e hvk)

theorem kingMove_total {q : Position} {w : Bool} (hI : InvNoEp q) (hw : whiteTurn q = w) {d x : Nat} (hd : d ∈ kingDirs)
    (ht : addb (q.side w).king d ∈ sq88) (hx : q.board[addb (q.side w).king d]? = some x)
    (htgt : x = 0 ∨ Man (!w) x) :
    IsOk (legalN q ⟨(q.side w).king, addb (q.side w).king d, 0, InvalidSq⟩) := by
  obtain ⟨hf, hv⟩ := (hI.sideInv w).ok.king_cell
  exact legalN_total hI hw (officer_moveOk hf ht hv (.inr (.inr rfl)) (fun e => pawnOf_ne_kingOf w w e.symm) hx
    htgt fun _ ⟨hE, hCG⟩ => (king_step_not_castle _ hd hE).elim fun a b => hCG.elim a b)

/-- one step of `knightCount` / `kingCount` (and of their tactical versions): `test` is the colour-bit condition on
    the target cell, `hmove` the totality of `isLegal` on the step -/
theorem step_total {q : Position} (hb : BoardOk q.board) {frm d : Nat} {test : Nat → Bool}
    (hmove : addb frm d ∈ sq88 → ∀ x, q.board[addb frm d]? = some x → (x = 0 ∨ x ∈ pieceCodes) → test x = true →
      IsOk (legalN q ⟨frm, addb frm d, 0, InvalidSq⟩)) :
    IsOk (stepBody q.board (fun x => pure (test x)) (legalN q ⟨frm, addb frm d, 0, InvalidSq⟩) 0 (addb frm d)) := by
  refine stepBody_total fun hval => ?_
  have hto := GenGeoO.addb_mem hval
  obtain ⟨x, hx, hc⟩ := cell_of_valid hb hto
  exact ⟨x, hx, ⟨_, rfl⟩, fun ht => hmove hto x hx hc (Except.ok.inj ht)⟩

theorem pieceSwitch_officer {w : Bool} {pc : Nat} (h : pc ∈ officersOf w) (frm : Nat) :
    (∀ β (kn : M β) sl, pieceSwitch pc frm kn sl = kn) ∨
    ∃ dirs, (∀ d ∈ dirs, d ∈ kingDirs) ∧ ∀ β (kn : M β) sl, pieceSwitch pc frm kn sl = sl dirs := by
  unfold pieceSwitch
  rcases officer_cases h with ⟨h, _⟩ | ⟨h1, h2, _⟩ | ⟨h1, h2, h3, _⟩ | ⟨h1, h2, h3, h4, _⟩
  · exact .inl fun _ _ _ => if_pos h
  · exact .inr ⟨_, fun d => GenGeoO.bishopDirs_sub, fun _ _ _ => by
      simp only [h1, h2, Bool.false_eq_true, if_false, if_true]⟩
  · exact .inr ⟨_, fun d => GenGeoO.rookDirs_sub, fun _ _ _ => by
      simp only [h1, h2, h3, Bool.false_eq_true, if_false, if_true]⟩
  · exact .inr ⟨_, fun d hd => hd, fun _ _ _ => by
      simp only [h1, h2, h3, h4, Bool.false_eq_true, if_false, if_true]⟩

/-- `hz` is what `GenPure.ray_closed` asks to turn the ray into a fold over the squares it reaches: the ray ends at an
    enemy man with `v`, the fold with `E.add v E.zero` -/
theorem rayWalk_total (E : Emitter β) (hz : ∀ v, E.add v E.zero = v) {B : Array Nat} {c : Ctx} {frm pc d : Nat}
    (hb : BoardOk B)
    (hhere : ∀ t x, t ∈ sq88 → B[t]? = some x → (x = 0 ∨ x ∈ pieceCodes) → x &&& c.curBit = 0 →
      IsOk (E.here frm pc t x))
    (hf : frm ∈ sq88) (hd : d ∈ kingDirs) : IsOk (Walk.ray E B c frm pc d 8 (addb frm d)) := by
  rw [GenPure.ray_closed E hz (fun _ => GenPure.lt_size hb) c frm pc d 8 _ _ (GenGeoO.ray_some hf hd) fun _ => GenGeoO.rayOf_valid hf hd]
  refine foldMon_total fun t ht => ?_
  obtain ⟨hl, hfree⟩ := GenPure.rayTargets_free ht
  have h88 := GenGeoO.rayOf_valid hf hd hl
  exact hhere t _ h88 (GenPure.some_cell (GenPure.lt_size hb h88)) (GenPure.cell_code hb h88) hfree

/-- the totality rule: on a board of 128 cells whose listed officers stand on board squares, a walk panics only at a
    site -/
theorem walk_total {β} (E : Emitter β) (hz : ∀ v, E.add v E.zero = v) {p : Position} {w : Bool}
    (hb : BoardOk p.board)
    (hpc : ∀ frm ∈ p.ctx.cur.pieces, frm ∈ sq88 ∧ ∃ v ∈ officersOf w, p.board[frm]? = some v)
    (hpawn : ∀ frm ∈ p.ctx.cur.pawns, IsOk (E.pawn frm))
    (hkn : ∀ frm v, frm ∈ sq88 → v ∈ officersOf w → p.board[frm]? = some v → ∀ d,
      IsOk (stepBody p.board E.knTest (E.knEmit frm (addb frm d)) E.zero (addb frm d)))
    (hhere : ∀ frm v, frm ∈ sq88 → v ∈ officersOf w → p.board[frm]? = some v → ∀ t x, t ∈ sq88 →
      p.board[t]? = some x → (x = 0 ∨ x ∈ pieceCodes) → x &&& p.ctx.curBit = 0 → IsOk (E.here frm v t x))
    (hkg : ∀ d ∈ kingDirs, IsOk (stepBody p.board (E.kgTest (addb p.ctx.cur.king d))
      (E.kgEmit (addb p.ctx.cur.king d)) E.zero (addb p.ctx.cur.king d)))
    (hcastle : IsOk E.castle) : IsOk (walk E p) := by
  obtain ⟨a, ha⟩ := foldMon_total (zero := E.zero) (add := E.add) hpawn
  obtain ⟨k, hk⟩ := foldMon_total (zero := E.zero) (add := E.add) hkg
  obtain ⟨cs, hcs⟩ := hcastle
  obtain ⟨b, hb'⟩ : IsOk (foldMon E.zero E.add (piece E p p.ctx) p.ctx.cur.pieces) := by
    refine foldMon_total fun frm hfrm => ?_
    obtain ⟨hf, v, ho, hv⟩ := hpc frm hfrm
    simp only [piece, bget_eq, hv, ok_bind]
    rcases pieceSwitch_officer ho frm with h | ⟨dirs, hd, h⟩
    · rw [h]; exact foldMon_total fun d _ => hkn frm v hf ho hv d
    · rw [h]; exact foldMon_total fun d hdm => rayWalk_total E hz hb (hhere frm v hf ho hv) hf (hd d hdm)
  exact ⟨E.add (E.add (E.add a b) k) cs, by simp only [walk, king, ha, hb', hk, hcs, ok_bind, pure_eq_ok]⟩

theorem killers_empty_size : Killers.empty.size = Gen.killerMovesMaxPly :=
  Props.C18.killers_empty_size

theorem castleCnt_total {q : Position} (hI : InvNoEp q) (w : Bool) :
    IsOk (castleQCnt q (ctxW w q)) ∧ IsOk (castleKCnt q (ctxW w q)) := by
  -- the castling tests do not read the en-passant field: the statement at `{ q with ep := InvalidSq }` (what
  -- `InvNoEp q` gives) is the one at `q` once `castleQCnt` / `castleKCnt` and `ctxW` are unfolded through the record
  -- update, and `(this hI :)` leaves that to the unifier
  suffices ∀ {p : Position}, Inv p → IsOk (castleQCnt p (ctxW w p)) ∧ IsOk (castleKCnt p (ctxW w p)) from
    (this hI :)
  intro p hI
  have env := GenPure.env_ctxW hI w killers_empty_size
  exact ⟨guard_total fun h => map_total _ ⟨_, GenPure.castleQOk_eq env (env.castleQ h).1⟩,
    guard_total fun h => map_total _ ⟨_, GenPure.castleKOk_eq env (env.castleK h).1⟩⟩

theorem pawn_facts {q : Position} {w : Bool} (hI : InvNoEp q) {frm : Nat} (hfm : frm ∈ (q.side w).pawns) :
    frm ∈ sq88 ∧ q.board[frm]? = some (pawnOf w) ∧ PawnSq w frm := by
  obtain ⟨hf, hv⟩ := (hI.sideInv w).ok.pawn_cell hfm
  have := hI.boardInv.noBackPawn frm (by
    cases w
    · exact .inr hv
    · exact .inl hv)
  exact ⟨hf, hv, pawnSq w hf (GenGeoO.notBack_iff.2 this)⟩

/-- All that the totality of the pawn counters uses of the en-passant square (`epFacts_of_inv` under `Inv`,
    `epFacts_flip` for `flipTurn p`). `strict = true` is the test of `pawnCount`
    (`to == ep && rank(from) != startRank`), `strict = false` the one of `pawnCountTactical` (`to == ep`) -/
structure EpFacts (q : Position) (w : Bool) (strict : Bool) : Prop where
  cell : ∀ x, q.board[q.ep]? = some x → x = 0
  push1 : ∀ frm ∈ (q.side w).pawns, addb frm (advOf w) ≠ q.ep
  push2 : ∀ frm ∈ (q.side w).pawns, rankOf frm = startRankOf w → addb (addb frm (advOf w)) (advOf w) ≠ q.ep
  cap : ∀ frm ∈ (q.side w).pawns, ∀ δ, (δ = 0xFF ∨ δ = 1) → addb (addb frm (advOf w)) δ = q.ep →
    (strict = true → rankOf frm ≠ startRankOf w) → ∃ r, makeMove q ⟨frm, q.ep, 0, InvalidSq⟩ = .ok r

/-- (i) no en-passant square -/
theorem epFacts_none {q : Position} {w : Bool} (hI : InvNoEp q) (h : q.ep = InvalidSq) (strict : Bool) :
    EpFacts q w strict := by
  have hnv : InvalidSq ∉ sq88 := by decide
  refine ⟨fun x hx => ?_, fun frm hfm e => ?_, fun frm hfm hr e => ?_, fun frm hfm δ hδ e _ => ?_⟩
  · rw [h] at hx
    have hsz := hI.boardInv.ok.size
    rw [Array.getElem?_eq_none (by rw [hsz]; decide)] at hx
    cases hx
  · obtain ⟨_, _, pf⟩ := pawn_facts hI hfm
    exact hnv (h ▸ e ▸ pf.to1_mem)
  · obtain ⟨_, _, pf⟩ := pawn_facts hI hfm
    exact hnv (h ▸ e ▸ pf.to2_mem hr)
  · obtain ⟨_, _, pf⟩ := pawn_facts hI hfm
    rw [h] at e
    rcases hδ with rfl | rfl
    · exact absurd e pf.toQ_ne
    · exact absurd e pf.toK_ne

/-- (ii) a consistent en-passant square: capture-shaped candidates are en-passant captures -/
theorem epFacts_ok {q : Position} {w : Bool} (hI : Inv q) (hw : whiteTurn q = w) (h : FenSpec.EpOk q)
    (strict : Bool) : EpFacts q w strict := by
  have hN := invNoEp_of_inv hI
  obtain ⟨e1, e2, e3, _, _, e6⟩ := epOk_facts hw h
  have hep : q.ep ∈ sq88 := mem_sq88.mpr ⟨e1, e2⟩
  have hrank := epOk_rank hw h
  refine ⟨fun x hx => ?_, fun frm hfm e => ?_, fun frm hfm hr e => ?_, fun frm hfm δ hδ e _ => ?_⟩
  · rw [e3] at hx; cases hx; rfl
  · obtain ⟨_, hv, pf⟩ := pawn_facts hN hfm
    have := pf.from1
    rw [e] at this
    rw [this, hv] at e6
    exact pawnOf_ne_not w (Option.some.inj e6)
  · obtain ⟨_, _, pf⟩ := pawn_facts hN hfm
    exact (pf.dbl88 hr).2.2.1 (e ▸ hrank)
  · obtain ⟨_, _, pf⟩ := pawn_facts hN hfm
    have hc := (pf.cap88 δ hδ (e ▸ hep)).2.1 (e ▸ hrank)
    rw [e] at hc
    obtain ⟨p', b, hmm, _⟩ := ep_result (m := ⟨frm, q.ep, 0, InvalidSq⟩) hI hw hfm rfl h hc rfl rfl
    exact ⟨_, hmm⟩

/-- (iii) the "wrong-coloured" en-passant square of `flipTurn p`: never tried by `pawnCount` -/
theorem epFacts_flip {p : Position} {w : Bool} (hI : Inv p) (hw : whiteTurn (flipTurn p) = w)
    (h : FenSpec.EpOk p) : EpFacts (flipTurn p) w true := by
  have hN := invNoEp_flip hI
  have hw' : whiteTurn p = !w := by
    rw [whiteTurn_flip hI.flags] at hw
    rw [← hw, Bool.not_not]
  obtain ⟨e1, e2, e3, h4⟩ := h
  have hep : (flipTurn p).ep ∈ sq88 := mem_sq88.mpr ⟨e1, e2⟩
  have hfacts : rankOf p.ep = epRank (!w) ∧ p.board[behind w p.ep]? = some 0 := by
    rw [hw'] at h4
    cases w
    · simp only [Bool.not_false, if_true] at h4; exact ⟨h4.1, h4.2.2⟩
    · simp only [Bool.not_true, Bool.false_eq_true, if_false] at h4; exact ⟨h4.1, h4.2.2⟩
  refine ⟨fun x hx => ?_, fun frm hfm e => ?_, fun frm hfm hr e => ?_, fun frm hfm δ hδ e hs => ?_⟩
  · have e3' : (flipTurn p).board[(flipTurn p).ep]? = some 0 := e3
    rw [e3'] at hx; cases hx; rfl
  · obtain ⟨_, hv, pf⟩ := pawn_facts hN hfm
    have e' : addb frm (advOf w) = p.ep := e
    have := pf.from1
    rw [e'] at this
    have hv' : p.board[frm]? = some (pawnOf w) := hv
    rw [← this, hfacts.2] at hv'
    exact pawnOf_ne_zero w (Option.some.inj hv').symm
  · obtain ⟨_, _, pf⟩ := pawn_facts hN hfm
    have e' : addb (addb frm (advOf w)) (advOf w) = p.ep := e
    exact (pf.dbl88 hr).2.2.2.1 (e' ▸ hfacts.1)
  · obtain ⟨_, _, pf⟩ := pawn_facts hN hfm
    have e' : addb (addb frm (advOf w)) δ = p.ep := e
    have hep' : p.ep ∈ sq88 := hep
    exact absurd ((pf.cap88 δ hδ (e' ▸ hep')).2.2 (e' ▸ hfacts.1)) (hs rfl)

theorem pawn_moveOk {q : Position} {w : Bool} (hI : InvNoEp q) {frm to t : Nat} (hfm : frm ∈ (q.side w).pawns)
    (hto : to ∈ sq88) (ht : q.board[to]? = some t) (htgt : t = 0 ∨ Man (!w) t) (hne : to ≠ q.ep) (e : Nat) :
    MoveOk q w ⟨frm, to, 0, e⟩ (pawnOf w) t := by
  obtain ⟨hf, hv, _⟩ := pawn_facts hI hfm
  exact ⟨hf, hto, hv, .inl rfl, ht, htgt, fun _ => .inl rfl, fun _ => rfl, fun _ => hne,
    fun e => absurd e (pawnOf_ne_kingOf w w)⟩

/-- a capture-shaped pawn candidate whose condition (`cell & enemy != 0 || (to == ep && g)`) holds -/
theorem pawnCap_legal {q : Position} {w strict : Bool} (hI : InvNoEp q) (hw : whiteTurn q = w) (F : EpFacts q w strict)
    {frm δ x : Nat} {g : Bool} (hfm : frm ∈ (q.side w).pawns) (hδ : δ = 0xFF ∨ δ = 1)
    (hg : g = true → strict = true → rankOf frm ≠ startRankOf w)
    (hlt : addb (addb frm (advOf w)) δ < 128) (hx : q.board[addb (addb frm (advOf w)) δ]? = some x)
    (hcond : (x &&& colorBit (!w) != 0 || (addb (addb frm (advOf w)) δ == q.ep && g)) = true) (pr : Nat) :
    ∃ n, countPawnMoves q frm (addb (addb frm (advOf w)) δ) pr = .ok n := by
  apply countPawnMoves_total
  by_cases hen : x &&& colorBit (!w) = 0
  · have : (x &&& colorBit (!w) != 0) = false := by simpa using hen
    simp only [this, Bool.false_or, Bool.and_eq_true, beq_iff_eq] at hcond
    rw [hcond.1]
    exact map_total _ (F.cap frm hfm δ hδ hcond.1 (hg hcond.2))
  · rcases cell_cases hI hlt hx with ⟨hto, hc⟩ | ⟨_, h0⟩
    · have hman := (man_iff_bit hc).mpr hen
      refine isLegal_total_of_moveOk hI hw (pawn_moveOk hI hfm hto hx (.inr hman) (fun e => ?_) _)
      rw [e] at hx
      exact man_ne_zero hman (F.cell x hx)
    · subst h0
      exact absurd (Nat.zero_and _) hen

theorem pawnCntQG_total {q : Position} {w strict : Bool} (hI : InvNoEp q) (hw : whiteTurn q = w) (F : EpFacts q w strict)
    {frm : Nat} {g : Bool} (hfm : frm ∈ (q.side w).pawns)
    (hg : g = true → strict = true → rankOf frm ≠ startRankOf w) : ∃ n, pawnCntQG g q (ctxW w q) frm = .ok n := by
  unfold pawnCntQG
  -- `+instances` (here and in the three pawn lemmas below): the `Decidable` instances of the `if`s mention the fields
  -- of `ctxW w q` as well, and an `if` whose condition is rewritten without its instance is out of reach of the
  -- `if` lemmas
  dsimp +instances only [ctxW]
  cases hval : isValid (addb (addb frm (advOf w)) 0xFF)
  · exact ⟨0, by simp only [andM_false, ok_bind, Bool.false_eq_true, if_false, pure_eq_ok]⟩
  · have hto := GenGeoO.addb_mem hval
    have hlt := (mem_sq88.mp hto).1
    obtain ⟨x, hx⟩ := cell_lt hI hlt
    simp only [andM_true, bget_eq, hx, ok_bind]
    exact guard_total fun hcond => pawnCap_legal hI hw F hfm (.inl rfl) hg hlt hx hcond _

theorem pawnCntKG_total {q : Position} {w strict : Bool} (hI : InvNoEp q) (hw : whiteTurn q = w) (F : EpFacts q w strict)
    {frm : Nat} {g : Bool} (hfm : frm ∈ (q.side w).pawns)
    (hg : g = true → strict = true → rankOf frm ≠ startRankOf w) : ∃ n, pawnCntKG g q (ctxW w q) frm = .ok n := by
  obtain ⟨_, _, pf⟩ := pawn_facts hI hfm
  unfold pawnCntKG
  dsimp +instances only [ctxW]
  obtain ⟨x, hx⟩ := cell_lt hI pf.toK_lt
  simp only [bget_eq, hx, ok_bind]
  exact guard_total fun hcond => pawnCap_legal hI hw F hfm (.inr rfl) hg pf.toK_lt hx hcond _

theorem push_legal {q : Position} {w : Bool} (hI : InvNoEp q) (hw : whiteTurn q = w) {frm to : Nat}
    (hfm : frm ∈ (q.side w).pawns) (hto : to ∈ sq88) (h0 : q.board[to]? = some 0) (hne : to ≠ q.ep) (e : Nat) :
    ∃ b, isLegal q ⟨frm, to, 0, e⟩ = .ok b :=
  isLegal_total_of_moveOk hI hw (pawn_moveOk hI hfm hto h0 (.inl rfl) hne e)

theorem pawnCntPush_total {q : Position} {w strict : Bool} (hI : InvNoEp q) (hw : whiteTurn q = w)
    (F : EpFacts q w strict) {frm : Nat} (hfm : frm ∈ (q.side w).pawns) : ∃ n, pawnCntPush q (ctxW w q) frm = .ok n := by
  obtain ⟨_, _, pf⟩ := pawn_facts hI hfm
  unfold pawnCntPush
  dsimp +instances only [ctxW]
  obtain ⟨y, hy, _⟩ := cell_of_valid hI.boardInv.ok pf.to1_mem
  simp only [bget_eq, hy, ok_bind]
  by_cases hy0 : y = 0
  · subst hy0
    obtain ⟨n1, hn1⟩ := countPawnMoves_total (pr := GenGeoO.promoRankOf w)
      (push_legal hI hw hfm pf.to1_mem hy (F.push1 frm hfm) InvalidSq)
    simp only [beq_self_eq_true, if_true, hn1, ok_bind]
    by_cases hr : rankOf frm = startRankOf w
    · have h2 := pf.to2_mem hr
      obtain ⟨z, hz, _⟩ := cell_of_valid hI.boardInv.ok h2
      simp only [hr, beq_self_eq_true, andM_true, hz, ok_bind, pure_eq_ok]
      by_cases hz0 : z = 0
      · subst hz0
        obtain ⟨b, hb⟩ := push_legal hI hw hfm h2 hz (F.push2 frm hfm hr) (addb frm (advOf w))
        exact ⟨n1 + b2n b, by simp only [beq_self_eq_true, if_true, hb, ok_bind]⟩
      · have : (z == 0) = false := by simpa using hz0
        exact ⟨n1, by simp only [this, Bool.false_eq_true, if_false]⟩
    · have : (rankOf frm == startRankOf w) = false := by simpa using hr
      exact ⟨n1, by simp only [this, andM_false, ok_bind, Bool.false_eq_true, if_false, pure_eq_ok]⟩
  · have : (y == 0) = false := by simpa using hy0
    exact ⟨0, by simp only [this, Bool.false_eq_true, if_false, pure_eq_ok]⟩

theorem pawnTCntPush_total {q : Position} {w strict : Bool} (hI : InvNoEp q) (hw : whiteTurn q = w)
    (F : EpFacts q w strict) {frm : Nat} (hfm : frm ∈ (q.side w).pawns) : ∃ n, pawnTCntPush q (ctxW w q) frm = .ok n := by
  obtain ⟨_, _, pf⟩ := pawn_facts hI hfm
  unfold pawnTCntPush
  dsimp +instances only [ctxW]
  obtain ⟨y, hy, _⟩ := cell_of_valid hI.boardInv.ok pf.to1_mem
  simp only [bget_eq, hy, ok_bind]
  refine guard_total fun hcond => ?_
  simp only [Bool.and_eq_true, beq_iff_eq] at hcond
  obtain ⟨hy0, _⟩ := hcond
  subst hy0
  exact countPawnMoves_total (push_legal hI hw hfm pf.to1_mem hy (F.push1 frm hfm) InvalidSq)

theorem bind3_total {a b d : M Nat} (ha : ∃ n, a = .ok n) (hb : ∃ n, b = .ok n) (hd : ∃ n, d = .ok n) :
    ∃ n, (do let x ← a; let y ← b; let z ← d; pure (x + y + z) : M Nat) = .ok n := by
  obtain ⟨x, rfl⟩ := ha
  obtain ⟨y, rfl⟩ := hb
  obtain ⟨z, rfl⟩ := hd
  exact ⟨x + y + z, rfl⟩

theorem pawnCount_total {q : Position} {w : Bool} (hI : InvNoEp q) (hw : whiteTurn q = w) (F : EpFacts q w true)
    {frm : Nat} (hfm : frm ∈ (q.side w).pawns) : ∃ n, pawnCount q (ctxW w q) frm = .ok n := by
  have hg : (rankOf frm != startRankOf w) = true → true = true → rankOf frm ≠ startRankOf w := fun h _ => by
    simpa using h
  rw [pawnCount_eq]
  exact bind3_total (pawnCntQG_total hI hw F hfm hg) (pawnCntKG_total hI hw F hfm hg) (pawnCntPush_total hI hw F hfm)

theorem pawnCountTactical_total {q : Position} {w : Bool} (hI : InvNoEp q) (hw : whiteTurn q = w) (F : EpFacts q w false)
    {frm : Nat} (hfm : frm ∈ (q.side w).pawns) : ∃ n, pawnCountTactical q (ctxW w q) frm = .ok n := by
  have hg : true = true → false = true → rankOf frm ≠ startRankOf w := fun _ h => by cases h
  rw [pawnCountTactical_eq]
  exact bind3_total (pawnCntQG_total hI hw F hfm hg) (pawnCntKG_total hI hw F hfm hg) (pawnTCntPush_total hI hw F hfm)

theorem castlesCnt_total {q : Position} (hI : InvNoEp q) (w : Bool) : IsOk (cntE q (ctxW w q)).castle := by
  obtain ⟨⟨cq, hq⟩, ⟨ck, hck⟩⟩ := castleCnt_total hI w
  exact ⟨cq + ck, by simp only [cntE, hq, hck, ok_bind, pure_eq_ok]⟩

theorem countMoves_total_core {q : Position} (hI : InvNoEp q) (F : EpFacts q (whiteTurn q) true) :
    ∃ n, countMoves q = .ok n := by
  have key := walk_total (cntE q q.ctx) Nat.add_zero hI.boardInv.ok (w := whiteTurn q)
  rw [countMoves_eq_walk]
  rw [ctx_eq] at key ⊢
  exact key (fun _ => (hI.sideInv _).ok.piece_cell) (fun _ => pawnCount_total hI rfl F)
    (fun frm v hf ho hv d => step_total hI.boardInv.ok fun ht x hx hc h =>
      officerMove_total hI rfl hf ho hv ht hx (own_test _ hc h))
    (fun frm v hf ho hv t x ht hx hc hown =>
      officerMove_total hI rfl hf ho hv ht hx (own_test _ hc (beq_iff_eq.2 hown)))
    (fun d hd => step_total hI.boardInv.ok fun ht x hx hc h => kingMove_total hI rfl hd ht hx (own_test _ hc h))
    (castlesCnt_total hI _)

theorem countTacticalMoves_total_core {q : Position} (hI : InvNoEp q) (F : EpFacts q (whiteTurn q) false) :
    ∃ n, countTacticalMoves q = .ok n := by
  have key := walk_total (tcntE q q.ctx) Nat.add_zero hI.boardInv.ok (w := whiteTurn q)
  rw [countTacticalMoves_eq]
  rw [ctx_eq] at key ⊢
  exact key (fun _ => (hI.sideInv _).ok.piece_cell) (fun _ => pawnCountTactical_total hI rfl F)
    (fun frm v hf ho hv d => step_total hI.boardInv.ok fun ht x hx hc h =>
      officerMove_total hI rfl hf ho hv ht hx (enemy_test _ hc h))
    (fun frm v hf ho hv t x ht hx hc _ => guard_total fun h =>
      officerMove_total hI rfl hf ho hv ht hx (enemy_test _ hc h))
    (fun d hd => step_total hI.boardInv.ok fun ht x hx hc h => kingMove_total hI rfl hd ht hx (enemy_test _ hc h))
    ⟨0, rfl⟩

theorem epFacts_of_inv {q : Position} (hI : Inv q) (strict : Bool) : EpFacts q (whiteTurn q) strict := by
  rcases hI.ep with h | h
  · exact epFacts_none (invNoEp_of_inv hI) h strict
  · exact epFacts_ok hI rfl h strict

theorem countMoves_total {p : Position} (hI : Inv p) : ∃ n, countMoves p = .ok n :=
  countMoves_total_core (invNoEp_of_inv hI) (epFacts_of_inv hI true)

/-- `countMoves (flipTurn p)` (the opponent's mobility in `lazyEvaluate`) never panics on a well-formed
    position: the side not to move of `flipTurn p` may be in check (its king may be "captured"), and the
    en-passant square of `flipTurn p` has the wrong colour -/
theorem countMoves_flip_total {p : Position} (hI : Inv p) : ∃ n, countMoves (flipTurn p) = .ok n := by
  refine countMoves_total_core (invNoEp_flip hI) ?_
  rcases hI.ep with h | h
  · exact epFacts_none (invNoEp_flip hI) h true
  · exact epFacts_flip hI rfl h

theorem countTacticalMoves_total {p : Position} (hI : Inv p) : ∃ n, countTacticalMoves p = .ok n :=
  countTacticalMoves_total_core (invNoEp_of_inv hI) (epFacts_of_inv hI false)

example : ∃ n, countMoves startPosition = .ok n := countMoves_total inv_startPosition
example : ∃ n, countMoves (flipTurn startPosition) = .ok n := countMoves_flip_total inv_startPosition
example : ∃ n, countTacticalMoves startPosition = .ok n := countTacticalMoves_total inv_startPosition

/-- the position after 1.e4: Black to move, en-passant square e3 (a literal; every fact about it is
    kernel-checked) -/
def epWitness : Position :=
  { startPosition with
    board := (startPosition.board.setIfInBounds Gen.E2 0).setIfInBounds Gen.E4 Gen.WPawn
    whitePawns := replaceFirst startPosition.whitePawns Gen.E2 Gen.E4
    flags := startPosition.flags ^^^ FWhiteTurn
    ep := Gen.E3 }

theorem inv_epWitness : Inv epWitness := inv_of_invC (by decide +kernel)

/-- the en-passant cases (ii) and (iii) are inhabited: `epWitness` has a consistent en-passant square,
    which in `flipTurn epWitness` (White to move again) has the wrong colour -/
example : epWitness.ep ≠ InvalidSq ∧ FenSpec.EpOk epWitness ∧ ¬ FenSpec.EpOk (flipTurn epWitness) := by
  unfold FenSpec.EpOk; decide +kernel

example : ∃ n, countMoves epWitness = .ok n := countMoves_total inv_epWitness
example : ∃ n, countMoves (flipTurn epWitness) = .ok n := countMoves_flip_total inv_epWitness
example : ∃ n, countTacticalMoves epWitness = .ok n := countTacticalMoves_total inv_epWitness

/-- White Ke1 Qe7, Black Ke8, BLACK to move and in check: well-formed; in `flipTurn kingCapWitness` the
    counted move Qe7xe8 captures the king -/
def kingCapWitness : Position :=
  { board := (((Array.replicate 128 0).setIfInBounds Gen.E1 Gen.WKing).setIfInBounds Gen.E7 Gen.WQueen).setIfInBounds
      Gen.E8 Gen.BKing,
    blackPieces := [], whitePieces := [Gen.E7], blackPawns := [], whitePawns := [],
    blackKing := Gen.E8, whiteKing := Gen.E1, flags := 0, ep := InvalidSq, ply := 1 }

theorem inv_kingCapWitness : Inv kingCapWitness := inv_of_invC (by decide +kernel)

/-- `MoveOk` allows the capture of the enemy king -/
example : MoveOk (flipTurn kingCapWitness) true ⟨Gen.E7, Gen.E8, 0, InvalidSq⟩ Gen.WQueen Gen.BKing :=
  ⟨by decide, by decide, by decide +kernel, by decide, by decide +kernel, .inr (by decide),
    fun h => absurd h (by decide), fun _ => rfl, fun h => absurd h (by decide), fun h => absurd h (by decide)⟩

example : ∃ n, countMoves (flipTurn kingCapWitness) = .ok n := countMoves_flip_total inv_kingCapWitness

end Magog.Total
