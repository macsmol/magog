import Magog.Lemmas.Inv
import Magog.Model.Eval
import Magog.Lemmas.MirrorWitness
import Magog.Props.C09
import Magog.Lemmas.EvalDecision

/-! The static evaluation never panics on a well-formed position (`Inv`): the material + piece-square score by
    `Mir.pieceSquareScore_total` (every board / table index it uses is a square of a piece list or a king square),
    the check test by C09. The totality of the move counters is proved elsewhere and enters as a hypothesis. -/

namespace Magog.TotalEval
open Magog Magog.Model Magog.Atk

theorem pieceSquareScore_total {p : Position} (hI : Inv p) (blend : Blend) :
    ∃ x, pieceSquareScore blend p = .ok x :=
  Mir.pieceSquareScore_total blend (Mir.MirrorOk.of_inv hI).pstOk

theorem isCurrentKingUnderCheck_total {p : Position} (hI : Inv p) :
    ∃ b, isCurrentKingUnderCheck p = .ok b :=
  ⟨_, Props.C09.C09_inCheck p hI.board hI.white hI.black⟩

theorem terminalNodeScore_total {p : Position} (hI : Inv p) (d : Int) :
    ∃ x, terminalNodeScore p d = .ok x := by
  obtain ⟨c, hc⟩ := isCurrentKingUnderCheck_total hI
  unfold terminalNodeScore
  rw [hc]
  exact ⟨_, rfl⟩

theorem isCheckMate_total {p : Position} (hI : Inv p) (hc : ∃ n, countMoves p = .ok n) :
    ∃ b, isCheckMate p = .ok b := by
  obtain ⟨c, hc'⟩ := isCurrentKingUnderCheck_total hI
  obtain ⟨n, hn⟩ := hc
  unfold isCheckMate
  rw [hc', hn]
  cases c
  · exact ⟨_, rfl⟩
  · exact ⟨_, rfl⟩

theorem lazyEvaluate_total {p : Position} (hI : Inv p) (hc : ∃ n, countMoves p = .ok n)
    (hf : ∃ n, countMoves (flipTurn p) = .ok n) (blend : Blend) (d a b : Int) :
    ∃ x, lazyEvaluate blend p d a b = .ok x := by
  obtain ⟨mate, hmate⟩ := isCheckMate_total hI hc
  obtain ⟨cheap, hcheap⟩ := pieceSquareScore_total hI blend
  obtain ⟨n, hn⟩ := hc
  obtain ⟨n', hn'⟩ := hf
  exact ⟨_, Lemmas.lazyEvaluate_decision hmate (fun _ => hcheap) (fun _ => hn) fun _ => hn'⟩

theorem evaluate_total {p : Position} (hI : Inv p) (hc : ∃ n, countMoves p = .ok n)
    (hf : ∃ n, countMoves (flipTurn p) = .ok n) (blend : Blend) (d : Int) :
    ∃ x, evaluate blend p d = .ok x :=
  lazyEvaluate_total hI hc hf blend d _ _

/-- non-vacuity: the hypotheses hold on the initial position (the counters run there) -/
example : Inv startPosition ∧ (∃ n, countMoves startPosition = .ok n) ∧
    (∃ n, countMoves (flipTurn startPosition) = .ok n) :=
  ⟨inv_startPosition, ⟨20, Witness.start_countMoves⟩, ⟨20, Witness.start_flip_countMoves⟩⟩

end Magog.TotalEval
