import Magog.Props.C01
import Magog.Props.C02
import Magog.Props.C18
import Magog.Lemmas.GenPure
import Magog.Lemmas.CountTac
import Magog.Model.Uci

/-! Totality of the legal-move generators and of the perft drivers: on a well-formed legal position
    (`Inv p ∧ MM.OppSafe p`) neither `generateMoves`, `generateTacticalMoves`, `perft`, `perftTactical`
    nor the UCI drivers `perftDivide` / `tperftDivide` panic (totality of the two leaf counters
    `countMoves` / `countTacticalMoves` is a hypothesis `hcnt` of the perft theorems and of their examples here; it is
    proved in `TotalCount` and discharged in `Total`). -/

namespace Magog.TotalGen
open Magog Magog.Model Magog.MM Magog.Count Magog.GenPure Magog.GenGeoO Magog.Atk Magog.Geo
open Magog.LegalMoves Magog.CountInv Magog.CountNoPanic

theorem mapM_total {α β} {f : α → M β} {l : List α} (h : ∀ x ∈ l, ∃ b, f x = .ok b) :
    ∃ r, l.mapM f = .ok r := by
  induction l with
  | nil => exact ⟨[], rfl⟩
  | cons y ys ih =>
    obtain ⟨a, ha⟩ := h y List.mem_cons_self
    obtain ⟨r, hr⟩ := ih (fun x hx => h x (List.mem_cons_of_mem _ hx))
    exact ⟨a :: r, by simp only [List.mapM_cons, ha, hr, ok_bind, pure_eq_ok]⟩

theorem generateMoves_total {p : Position} {kt : Killers} (hI : Inv p) (hS : OppSafe p)
    (hk : kt.size = Gen.killerMovesMaxPly) :
    ∃ ms, generateMoves kt p = .ok ms ∧
      ∀ rm ∈ ms, Generated p rm.mov ∧ ∃ q, makeMove p rm.mov = .ok (q, true) := by
  obtain ⟨ms, hms⟩ := generateMoves_ok hI hS hk
  exact ⟨ms, hms, fun _ => listed hms⟩

theorem generateTacticalMoves_total {p : Position} (hI : Inv p) (hS : OppSafe p) :
    ∃ ts, generateTacticalMoves p = .ok ts ∧
      ∀ rm ∈ ts, Generated p rm.mov ∧ ∃ q, makeMove p rm.mov = .ok (q, true) := by
  obtain ⟨ts, hts⟩ := generateTacticalMoves_ok hI hS
  refine ⟨ts, hts, fun rm hrm => ?_⟩
  obtain ⟨⟨tps, htps, hm⟩, hq⟩ := generateTacticalMoves_mem hts hrm
  exact ⟨generated_of_genList hI (tactical_in_genList hI htps hm), hq⟩

/-- the loop body shared by `perft`, `perftTactical` and the two divide drivers -/
theorem step_total {β} {p : Position} {m : Move} {cap idx : Nat} (hI : Inv p) (hS : OppSafe p)
    (hG : Generated p m) (hq : ∃ q, makeMove p m = .ok (q, true)) (hidx : idx + 1 < cap)
    (k : Position → M β) (hk : ∀ q, Inv q → OppSafe q → ∃ n, k q = .ok n) :
    ∃ n, (if idx + 1 ≥ cap then (throw (.index "posStack" (idx + 1)) : M β) else do
        let r ← makeMove p m
        if !r.2 then throw (.explicit "Applying move resulted in illegal position") else
        k r.1) = .ok n := by
  obtain ⟨q, hq⟩ := hq
  obtain ⟨hI', hS'⟩ := Props.C02.makeMove_inv hI hS hG hq
  obtain ⟨n, hn⟩ := hk q hI' hS'
  exact ⟨n, perftBody_ok.2 ⟨hidx, q, hq, hn⟩⟩

theorem perft_total (hcnt : ∀ q, Inv q → OppSafe q → ∃ n, countMoves q = .ok n)
    {kt : Killers} (hk : kt.size = Gen.killerMovesMaxPly) (cap : Nat) :
    ∀ (d idx : Nat) (p : Position), Inv p → OppSafe p → idx + d < cap → ∃ n, perft kt cap d idx p = .ok n := by
  intro d
  induction d using Nat.strongRecOn with
  | _ d ih =>
    intro idx p hI hS hcap
    match d with
    | 0 => exact ⟨1, rfl⟩
    | 1 => exact hcnt p hI hS
    | d + 2 =>
      obtain ⟨ms, hms, hmem⟩ := generateMoves_total (kt := kt) hI hS hk
      simp only [perft, hms, ok_bind]
      refine sumM'_total fun rm hrm => ?_
      exact step_total hI hS (hmem rm hrm).1 (hmem rm hrm).2 (by omega) (perft kt cap (d + 1) (idx + 1))
        (fun q hq1 hq2 => ih (d + 1) (by omega) (idx + 1) q hq1 hq2 (by omega))

theorem perftTactical_total (hcnt : ∀ q, Inv q → OppSafe q → ∃ n, countTacticalMoves q = .ok n)
    {kt : Killers} (hk : kt.size = Gen.killerMovesMaxPly) (cap : Nat) :
    ∀ (d idx : Nat) (p : Position), Inv p → OppSafe p → idx + d < cap →
      ∃ n, perftTactical kt cap d idx p = .ok n := by
  intro d
  induction d using Nat.strongRecOn with
  | _ d ih =>
    intro idx p hI hS hcap
    match d with
    | 0 => exact hcnt p hI hS
    | 1 => exact hcnt p hI hS
    | d + 2 =>
      obtain ⟨ms, hms, hmem⟩ := generateMoves_total (kt := kt) hI hS hk
      simp only [perftTactical, hms, ok_bind]
      refine sumM'_total fun rm hrm => ?_
      exact step_total hI hS (hmem rm hrm).1 (hmem rm hrm).2 (by omega)
        (perftTactical kt cap (d + 1) (idx + 1))
        (fun q hq1 hq2 => ih (d + 1) (by omega) (idx + 1) q hq1 hq2 (by omega))

theorem perftDivide_total (hcnt : ∀ q, Inv q → OppSafe q → ∃ n, countMoves q = .ok n)
    {kt : Killers} (hk : kt.size = Gen.killerMovesMaxPly) {cap d : Nat} {p : Position}
    (hI : Inv p) (hS : OppSafe p) (hd0 : 0 < d) (hd : d < cap) : ∃ r, perftDivide kt cap p d = .ok r := by
  obtain ⟨ms, hms, hmem⟩ := generateMoves_total (kt := kt) hI hS hk
  simp only [perftDivide, hms, ok_bind]
  apply mapM_total
  intro rm hrm
  exact step_total (idx := 0) hI hS (hmem rm hrm).1 (hmem rm hrm).2 (by omega)
    (fun q => do let n ← perft kt cap (d - 1) 1 q; pure (rm.mov, n))
    (fun q hq1 hq2 => map_total _ (perft_total hcnt hk cap (d - 1) 1 q hq1 hq2 (by omega)))

set_option linter.unusedVariables false in  -- `hd0` is not used (the case `d ≤ 1` covers `d = 0`), kept for a uniform signature
theorem tperftDivide_total (hcnt : ∀ q, Inv q → OppSafe q → ∃ n, countTacticalMoves q = .ok n)
    {kt : Killers} (hk : kt.size = Gen.killerMovesMaxPly) {cap d : Nat} {p : Position}
    (hI : Inv p) (hS : OppSafe p) (hd0 : 0 < d) (hd : d < cap) : ∃ r, tperftDivide kt cap p d = .ok r := by
  unfold tperftDivide
  by_cases h1 : d ≤ 1
  · obtain ⟨ts, hts, _⟩ := generateTacticalMoves_total hI hS
    exact ⟨_, by simp only [h1, if_true, hts, ok_bind, pure_eq_ok]; rfl⟩
  · obtain ⟨ms, hms, hmem⟩ := generateMoves_total (kt := kt) hI hS hk
    simp only [h1, if_false, hms, ok_bind]
    apply mapM_total
    intro rm hrm
    exact step_total (idx := 0) hI hS (hmem rm hrm).1 (hmem rm hrm).2 (by omega)
      (fun q => do let n ← perftTactical kt cap (d - 1) 1 q; pure (rm.mov, n))
      (fun q hq1 hq2 => map_total _ (perftTactical_total hcnt hk cap (d - 1) 1 q hq1 hq2 (by omega)))

example : ∃ ms, generateMoves Killers.empty startPosition = .ok ms ∧
    ∀ rm ∈ ms, Generated startPosition rm.mov ∧ ∃ q, makeMove startPosition rm.mov = .ok (q, true) :=
  generateMoves_total inv_startPosition Props.C02.oppSafe_start Props.C18.killers_empty_size

example : Count.CellsOk startPosition := cellsOk_of_inv inv_startPosition

example : ∃ ts, genPseudoTactical startPosition = .ok ts := genPseudoTactical_total inv_startPosition

example : ∃ ts, generateTacticalMoves startPosition = .ok ts ∧
    ∀ rm ∈ ts, Generated startPosition rm.mov ∧ ∃ q, makeMove startPosition rm.mov = .ok (q, true) :=
  generateTacticalMoves_total inv_startPosition Props.C02.oppSafe_start

/-- `C02.makeMove_inv` on 1. e4 -/
example : ∃ q, makeMove startPosition ⟨0x14, 0x34, 0, 0x24⟩ = .ok (q, true) ∧ Inv q ∧ OppSafe q := by
  obtain ⟨_, q, h, _⟩ := MM.game_e2e4
  exact ⟨q, h, Props.C02.makeMove_inv inv_startPosition Props.C02.oppSafe_start Props.C02.generated_e2e4 h⟩

/-- the hypotheses of the perft theorems other than `hcnt` are satisfiable on the start position with the engine's
    stack capacity and any depth the UCI layer admits (`0 < d < plyBufferCapacity`); `hcnt` stays a hypothesis, which
    `Total.perft_total` … `Total.tperftDivide_total` discharge -/
example (hcnt : ∀ q, Inv q → OppSafe q → ∃ n, countMoves q = .ok n) :
    (∃ n, perft Killers.empty Gen.plyBufferCapacity 5 0 startPosition = .ok n) ∧
    (∃ r, perftDivide Killers.empty Gen.plyBufferCapacity startPosition 5 = .ok r) :=
  ⟨perft_total hcnt Props.C18.killers_empty_size _ 5 0 _ inv_startPosition Props.C02.oppSafe_start (by decide),
   perftDivide_total hcnt Props.C18.killers_empty_size inv_startPosition Props.C02.oppSafe_start (by decide)
     (by decide)⟩

example (hcnt : ∀ q, Inv q → OppSafe q → ∃ n, countTacticalMoves q = .ok n) :
    (∃ n, perftTactical Killers.empty Gen.plyBufferCapacity 5 0 startPosition = .ok n) ∧
    (∃ r, tperftDivide Killers.empty Gen.plyBufferCapacity startPosition 5 = .ok r) ∧
    (∃ r, tperftDivide Killers.empty Gen.plyBufferCapacity startPosition 1 = .ok r) :=
  ⟨perftTactical_total hcnt Props.C18.killers_empty_size _ 5 0 _ inv_startPosition Props.C02.oppSafe_start
     (by decide),
   tperftDivide_total hcnt Props.C18.killers_empty_size inv_startPosition Props.C02.oppSafe_start (by decide)
     (by decide),
   tperftDivide_total hcnt Props.C18.killers_empty_size inv_startPosition Props.C02.oppSafe_start (by decide)
     (by decide)⟩

end Magog.TotalGen
