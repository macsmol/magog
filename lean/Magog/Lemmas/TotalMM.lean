import Magog.Lemmas.MMSpecial
import Magog.Model.Eval

/-! `makeMove` never panics on a broad class of "simple" moves, WITHOUT the hypothesis that the side not
    to move is safe (`MM.OppSafe`), without the promotion-rank discipline of the generator (a pawn may
    arrive on the last rank with `promo = 0`, as in `countPawnMoves`), and allowing the capture of the
    enemy KING (as happens in `countMoves (flipTurn p)` when the side to move of `p` is in check).

    The class is `Total.MoveOk`, defined in `MMSimple` next to the stage facts it shares with the invariant
    proof. Only totality is claimed (`∃ r, makeMove p m = .ok r`); the result need not satisfy `Inv`. -/

namespace Magog.Total
open Magog Magog.Model Magog.Atk Magog.Geo Magog.MM Magog.Count

/-- `isUnderCheck` never panics; nothing is assumed about what stands on `en.king` -/
theorem isUnderCheck_total {B : Array Nat} {en : Side} {d : Nat} (hb : BoardOk B)
    (hp : ∀ s ∈ en.pawns, s ∈ sq88)
    (hq : ∀ s ∈ en.pieces, s ∈ sq88 ∧ ∃ w c, c ∈ officersOf w ∧ B[s]? = some c)
    (hk : en.king ∈ sq88) (hd : d ∈ sq88) : ∃ b, isUnderCheck B en d = .ok b := by
  have hklt : en.king < B.size := by rw [hb.size]; exact (mem_sq88.mp hk).1
  exact ⟨_, isUnderCheck_ok (gq := fun s => okTrue (pieceAttacks B d s))
    (bget_ok_iff.2 (Array.getElem?_eq_getElem hklt))
    (fun s hs => by rw [pawnAttacks, tget_attack (hp s hs) hd]; rfl)
    (fun s hs => by
      obtain ⟨h1, w, c, hc, hbc⟩ := hq s hs
      rw [pieceAttacks_spec hb h1 hd hbc hc, okTrue_ok])
    (tget_attack hk hd)⟩

/-- `Inv` but for its field `ep`: holds of `p` under `Inv p` (`invNoEp_of_inv`) and also of `flipTurn p`
    (`invNoEp_flip`), whose `ep`, left as it is, fails `FenSpec.EpOk` for the other side to move if it is set. The
    totality lemmas of `TotalCount` assume this. -/
def InvNoEp (p : Position) : Prop := Inv { p with ep := InvalidSq }

theorem invNoEp_of_inv {p : Position} (h : Inv p) : InvNoEp p :=
  inv_of_parts h.boardInv (h.sideInv true) (h.sideInv false) h.flags h.castling (.inl rfl)

theorem flip_flags_fin : ∀ f < 32, (f ^^^ FWhiteTurn) < 32 ∧ (f ^^^ FWhiteTurn) &&& FWK = f &&& FWK ∧
    (f ^^^ FWhiteTurn) &&& FWQ = f &&& FWQ ∧ (f ^^^ FWhiteTurn) &&& FBK = f &&& FBK ∧
    (f ^^^ FWhiteTurn) &&& FBQ = f &&& FBQ ∧
    ((f ^^^ FWhiteTurn) &&& FWhiteTurn != 0) = !(f &&& FWhiteTurn != 0) := by decide +kernel

theorem whiteTurn_flip {p : Position} (hf : p.flags < 32) : whiteTurn (flipTurn p) = !whiteTurn p :=
  (flip_flags_fin p.flags hf).2.2.2.2.2

theorem invNoEp_flip {p : Position} (h : Inv p) : InvNoEp (flipTurn p) := by
  obtain ⟨f0, f1, f2, f3, f4, _⟩ := flip_flags_fin p.flags h.flags
  have hc : castlingConsistent { flipTurn p with ep := InvalidSq } = castlingConsistent p := by
    simp only [castlingConsistent, flipTurn, f1, f2, f3, f4]
  exact inv_of_parts h.boardInv (h.sideInv true) (h.sideInv false) f0 (hc.trans h.castling) (.inl rfl)

theorem InvNoEp.boardInv {p : Position} (h : InvNoEp p) : BoardInv p.board :=
  Inv.boardInv (p := { p with ep := InvalidSq }) h
theorem InvNoEp.sideInv {p : Position} (h : InvNoEp p) (w : Bool) : SideInv p.board (p.side w) w :=
  Inv.sideInv (p := { p with ep := InvalidSq }) h w
theorem InvNoEp.flags {p : Position} (h : InvNoEp p) : p.flags < 32 :=
  Inv.flags (p := { p with ep := InvalidSq }) h
theorem InvNoEp.castling {p : Position} (h : InvNoEp p) : castlingConsistent p = true :=
  Inv.castling (p := { p with ep := InvalidSq }) h

theorem makeMove_total_of_moveOk {p : Position} {w : Bool} {m : Move} {v t : Nat}
    (hI : InvNoEp p) (hw : whiteTurn p = w) (h : MoveOk p w m v t) : ∃ r, makeMove p m = .ok r := by
  have hB := hI.boardInv
  have hcur := hI.sideInv w
  have hen := hI.sideInv (!w)
  obtain ⟨hf1, hf2⟩ := mem_sq88.mp h.frm
  obtain ⟨ht1, ht2⟩ := mem_sq88.mp h.to
  obtain ⟨hnot, hne, hv', ⟨cur', h1, hspec1⟩, h3⟩ := h.stages hB hcur
  obtain ⟨en', h2, hk2, hp2, hq2, _⟩ := capture_cases (m := m) hen h.to h.ht h.tgt
  have hU := upd2_set (v' := if m.promo = 0 then v else m.promo ||| colorBit w) hB.ok.size hf1 ht1
  have hB2 := boardOk_set (boardOk_set hB.ok h.to (.inr (man_mem_codes hv'))) h.frm (.inl rfl)
  have hnv : ¬ Man (!w) v := fun h' => man_not_other h' (by simpa using h.man)
  obtain ⟨hfp, hfq, _⟩ := hen.ok.not_mem_of_not_man h.hv hnv
  have hkd : cur'.king ∈ sq88 := by
    rcases (hspec1.hk cur'.king).mp rfl with ⟨_, _, e⟩ | ⟨e, _⟩
    · rw [e]; exact hcur.ok.king_cell.1
    · rw [e]; exact h.to
  obtain ⟨chk, h4⟩ := isUnderCheck_total (en := en') (d := cur'.king) hB2
    (fun s hs => (hen.ok.pawn_cell ((hp2 s).mp hs).1).1)
    (fun s hs => by
      obtain ⟨hm, hnt⟩ := (hq2 s).mp hs
      obtain ⟨h88, o, ho, ho'⟩ := hen.ok.piece_cell hm
      refine ⟨h88, !w, o, ho, ?_⟩
      rw [hU.2 s, if_neg (fun e : s = m.frm => hfq (e ▸ hm)), if_neg hnt]
      exact ho')
    (by rw [hk2]; exact hen.ok.king_cell.1) hkd
  exact ⟨_, makeMove_eq hw h1 h2 (h3 en') h4⟩

theorem isLegal_total_of_moveOk {p : Position} {w : Bool} {m : Move} {v t : Nat}
    (hI : InvNoEp p) (hw : whiteTurn p = w) (h : MoveOk p w m v t) : ∃ b, isLegal p m = .ok b :=
  map_total _ (makeMove_total_of_moveOk hI hw h)

example : InvNoEp startPosition := invNoEp_of_inv inv_startPosition
example : InvNoEp (flipTurn startPosition) := invNoEp_flip inv_startPosition

/-- e2-e4 in the initial position -/
theorem moveOk_e2e4 : MoveOk startPosition true ⟨0x14, 0x34, 0, 0x24⟩ Gen.WPawn 0 := by
  rw [startPosition_eq]
  exact ⟨by decide, by decide, by decide +kernel, by decide, by decide +kernel, .inl rfl, fun _ => .inl rfl,
    fun _ => rfl, fun _ => by decide, fun h => absurd h (by decide)⟩

example : MoveOk startPosition true ⟨0x14, 0x34, 0, 0x24⟩ Gen.WPawn 0 := moveOk_e2e4

example : ∃ r, makeMove startPosition ⟨0x14, 0x34, 0, 0x24⟩ = .ok r :=
  makeMove_total_of_moveOk (invNoEp_of_inv inv_startPosition) (by decide) moveOk_e2e4

end Magog.Total
