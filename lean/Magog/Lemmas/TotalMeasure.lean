import Magog.Lemmas.MakeMoveInv
import Magog.Lemmas.GenPure
import Magog.Lemmas.GenExamples
import Magog.Lemmas.CountNoPanic
import Magog.Lemmas.WitnessRuns

/-! Termination measure of the quiescence search: `mu p = 2·pawns + officers` (both sides) is bounded by
    `Gen.maxQuiescenceDepth` on a well-formed position, never increases under `makeMove`, and strictly
    decreases under every move of the tactical generator (a capture removes a man, a promotion turns a
    pawn of weight 2 into an officer of weight 1). -/

namespace Magog.TotalMeasure
open Magog Magog.Model Magog.MM Magog.Count Magog.Atk Magog.Geo Magog.CountInv

def mu (p : Position) : Nat :=
  2 * (p.whitePawns.length + p.blackPawns.length) + (p.whitePieces.length + p.blackPieces.length)

def sideW (s : Side) : Nat := 2 * s.pawns.length + s.pieces.length

theorem mu_side (p : Position) (w : Bool) : mu p = sideW (p.side w) + sideW (p.side (!w)) := by
  cases w <;> simp only [mu, sideW, Position.side, Bool.not_false, Bool.not_true, if_true, Bool.false_eq_true,
    if_false] <;> omega

theorem mu_mkPos (p : Position) (w : Bool) (B : Array Nat) (cur en : Side) (f e : Nat) :
    mu (mkPos p w B cur en f e) = sideW cur + sideW en := by
  cases w <;> simp only [mu, sideW, mkPos, if_true, Bool.false_eq_true, if_false] <;> omega

theorem mu_le {p : Position} (hI : Inv p) : mu p ≤ Gen.maxQuiescenceDepth := by
  have h1 := hI.wpLen
  have h2 := hI.bpLen
  have h3 := hI.wLen
  have h4 := hI.bLen
  have e : Gen.maxQuiescenceDepth = 2 * (pawnCap + pieceCap) := by decide
  rw [e]
  unfold mu
  omega

/-- the mover never gains; a promotion trades a pawn (2) for an officer (1) -/
theorem curAfter_len {w : Bool} {cur cur1 : Side} {fp : Nat} {m : Move} (h : curAfter w cur fp m = .ok cur1) :
    sideW cur1 ≤ sideW cur ∧
      (fp = Pawn ||| colorBit w → m.promo ≠ 0 → m.frm ∈ cur.pawns → sideW cur1 + 1 = sideW cur) := by
  unfold curAfter at h
  split at h
  · split at h
    · cases h
      simp only [sideW, replaceFirst_length]
      exact ⟨Nat.le_refl _, fun _ hp => absurd ‹_› hp⟩
    · cases hi : cur.pawns.idxOf? m.frm with
      | none =>
        rw [hi] at h
        cases h
        refine ⟨Nat.le_refl _, fun _ _ hmem => ?_⟩
        obtain ⟨i, hi'⟩ := idxOf?_of_mem hmem
        cases hi.symm.trans hi'
      | some i =>
        rw [hi] at h
        obtain ⟨l, hl, rfl⟩ := map_ok.mp h
        have := (List.idxOf?_eq_some_iff.mp hi).1
        unfold appendCap at hl
        split at hl
        · cases hl
          simp only [sideW, swapRemove, List.length_dropLast, List.length_set, List.length_append,
            List.length_singleton]
          exact ⟨by omega, fun _ _ _ => by omega⟩
        · cases hl
  · refine ⟨?_, fun e => absurd e ‹_›⟩
    split at h
    · cases h
      cases rookHop m.frm m.to (homeRank w) <;> simp only [sideW, replaceFirst_length] <;> exact Nat.le_refl _
    · cases h
      simp only [sideW, replaceFirst_length]
      exact Nat.le_refl _

/-- the other side never gains; it loses the captured man (unless it is the king) and the pawn taken en passant -/
theorem enAfter_len {w : Bool} {en en2 : Side} {fp tp ep : Nat} {m : Move} (h : enAfter w en fp tp ep m = .ok en2) :
    sideW en2 ≤ sideW en ∧ (tp ≠ 0 → tp ≠ King ||| colorBit (!w) → sideW en2 + 1 ≤ sideW en) ∧
      (IsEp w fp ep m → sideW en2 + 2 ≤ sideW en) := by
  obtain ⟨e, h1, h2⟩ := bind_ok.mp h
  have l1 : sideW e ≤ sideW en ∧ (tp ≠ 0 → tp ≠ King ||| colorBit (!w) → sideW e + 1 ≤ sideW en) := by
    unfold enCaptured at h1
    split at h1
    · cases h1
      exact ⟨Nat.le_refl _, fun h0 hk => absurd ‹_› (not_or.mpr ⟨h0, hk⟩)⟩
    · split at h1 <;> obtain ⟨l, hl, rfl⟩ := map_ok.mp h1 <;> have := kill_len hl <;> simp only [sideW] <;>
        exact ⟨by omega, fun _ _ => by omega⟩
  unfold enEp at h2
  split at h2
  · obtain ⟨l, hl, rfl⟩ := map_ok.mp h2
    have := kill_len hl
    simp only [sideW] at l1 ⊢
    exact ⟨by omega, fun h0 hk => Nat.le_trans (by omega) (l1.2 h0 hk), fun _ => by omega⟩
  · cases h2
    exact ⟨l1.1, l1.2, fun h => absurd h ‹_›⟩

theorem mu_mono' {p q : Position} {m : Move} {b : Bool} (hm : makeMove p m = .ok (q, b)) : mu q ≤ mu p := by
  obtain ⟨_, _, cur1, en1, _, _, _, h1, h2, _, rfl⟩ := makeMove_ok_closed rfl hm
  rw [mu_mkPos, mu_side p (whiteTurn p)]
  have := (curAfter_len h1).1
  have := (enAfter_len h2).1
  omega

/-- a move is "tactical-shaped": it starts on a square of the mover and either captures on `to`, or is a
    pawn move to the en-passant square, or is a promotion -/
def TacFact (p : Position) (m : Move) : Prop :=
  (m.frm ∈ p.ctx.cur.pawns ∧
    ((∃ x, p.board[m.to]? = some x ∧ x &&& p.ctx.enBit ≠ 0) ∨ (m.promo = 0 ∧ m.to = p.ep) ∨ m.promo ≠ 0)) ∨
  ((m.frm ∈ p.ctx.cur.pieces ∨ m.frm = p.ctx.cur.king) ∧ ∃ x, p.board[m.to]? = some x ∧ x &&& p.ctx.enBit ≠ 0)

theorem enemy_of_flag {p : Position} {w : Bool} {kt : Killers} (env : GenPure.Env p p.ctx w kt) {t : Nat}
    (ht : t ∈ sq88) (hc : GenPure.cell p.board t &&& p.ctx.curBit = 0)
    (hb : true = (GenPure.cell p.board t &&& Colorless != 0)) :
    ∃ x, p.board[t]? = some x ∧ x &&& p.ctx.enBit ≠ 0 := by
  refine ⟨_, GenPure.some_cell (GenPure.lt_size env.board ht), fun hen => ?_⟩
  rw [env.curBit] at hc
  rw [env.enBit] at hen
  rw [GenPure.code_empty (GenPure.cell_code env.board ht) w hc hen] at hb
  cases hb

/-- by cases on the part of the pure list `genList` the move comes from: a flagged pawn move is a capture (ordinary
    or en passant) or a promoting push, a flagged officer or king step lands on an enemy cell, a castling move is
    never flagged -/
theorem genList_tac {p : Position} {w : Bool} {kt : Killers} (env : GenPure.Env p p.ctx w kt) {m : Move}
    (h : (m, true) ∈ GenPure.genList p) : TacFact p m := by
  have cap : ∀ {s d}, (m, true) ∈ GenPure.capList p.board p.ctx p.ep m.frm (addb s d) →
      m.frm ∈ p.ctx.cur.pawns → TacFact p m := fun {s d} h hfrm => by
    obtain ⟨h, hc⟩ := GenPure.capList_mem h
    obtain ⟨_, e2, _, _, _⟩ := GenPure.pawnTo_mem h
    refine .inl ⟨hfrm, ?_⟩
    rw [e2]
    rcases hc with hc | hep
    · exact .inl ⟨_, GenPure.some_cell (GenPure.lt_size env.board (GenGeoO.addb_mem hc.1)), hc.2⟩
    · exact .inr ((Decidable.em (m.promo = 0)).imp_left fun h0 => ⟨h0, hep⟩)
  simp only [GenPure.genList, List.mem_append, List.mem_flatMap] at h
  rcases h with ((⟨frm, hfrm, h⟩ | ⟨frm, hfrm, h⟩) | h) | h
  · simp only [GenPure.pawnList, List.mem_append] at h
    rcases h with (h | h) | h
    · obtain ⟨e1, _⟩ := GenPure.pawnTo_mem (GenPure.capList_mem h).1
      exact cap (e1 ▸ h) (e1 ▸ hfrm)
    · obtain ⟨e1, _⟩ := GenPure.pawnTo_mem (GenPure.capList_mem h).1
      exact cap (e1 ▸ h) (e1 ▸ hfrm)
    · obtain ⟨_, h | ⟨e, _⟩⟩ := GenPure.pushList_mem h
      · obtain ⟨e1, _, _, _, hb⟩ := GenPure.pawnTo_mem h
        exact .inl ⟨e1 ▸ hfrm, .inr (.inr (hb.resolve_left (by simp)))⟩
      · cases congrArg Prod.snd e
  · obtain ⟨t, ht, rfl, hc, hb⟩ := GenPure.officerList_mem env hfrm h
    exact .inr ⟨.inl hfrm, enemy_of_flag env ht hc hb⟩
  · obtain ⟨d, _, rfl, ht, hc, hb⟩ := GenPure.stepList_mem h
    exact .inr ⟨.inr rfl, enemy_of_flag env ht hc hb⟩
  · unfold GenPure.castleList at h
    rcases List.mem_append.1 h with h | h <;> split at h <;> simp at h

theorem tactical_sub {p : Position} {ts : List RMove} {rm : RMove} (hI : Inv p)
    (ht : generateTacticalMoves p = .ok ts) (hrm : rm ∈ ts) : TacFact p rm.mov ∧ Generated p rm.mov := by
  obtain ⟨⟨tps, htps, hm⟩, _⟩ := generateTacticalMoves_mem ht hrm
  have h := CountNoPanic.tactical_in_genList hI htps hm
  exact ⟨genList_tac (GenPure.env_of_inv hI Props.C18.killers_empty_size) h, LegalMoves.generated_of_genList hI h⟩

theorem target_not_king {p : Position} {m : Move} {x : Nat} (hI : Inv p) (hS : OppSafe p) (hG : Generated p m)
    (hx : p.board[m.to]? = some x) : x ≠ kingOf (!whiteTurn p) := by
  rintro rfl
  have hto : m.to ∈ sq88 := mem_sq88.mpr (InvFen.valid_of_ne_zero hI.board.size hI.offBoard hx (kingOf_ne_zero _))
  exact GenPseudo.generated_not_king hI hS hG (king_unique hI hto hx)

theorem tactical_decreases {p q : Position} {ts : List RMove} {rm : RMove} (hI : Inv p) (hS : OppSafe p)
    (ht : generateTacticalMoves p = .ok ts) (hrm : rm ∈ ts) (hm : makeMove p rm.mov = .ok (q, true)) :
    mu q < mu p := by
  obtain ⟨hfact, hG⟩ := tactical_sub hI ht hrm
  simp only [TacFact, ctx_eq, ctxW] at hfact
  obtain ⟨fp, tp, cur1, en2, hfp, htp, _, h1, h2, _, rfl⟩ := makeMove_ok_closed rfl hm
  rw [mu_mkPos, mu_side p (whiteTurn p)]
  obtain ⟨l1, s1⟩ := curAfter_len h1
  obtain ⟨l2, s2, s3⟩ := enAfter_len h2
  have capture : ∀ x, p.board[rm.mov.to]? = some x → x &&& colorBit (!whiteTurn p) ≠ 0 →
      sideW cur1 + sideW en2 < sideW (p.side (whiteTurn p)) + sideW (p.side (!whiteTurn p)) := by
    intro x hx hen
    cases htp.symm.trans hx
    have hx0 : tp ≠ 0 := fun e => by subst e; simp at hen
    have hnk := target_not_king hI hS hG hx
    rw [← king_code] at hnk
    have := s2 hx0 hnk
    omega
  have pawn : rm.mov.frm ∈ (p.side (whiteTurn p)).pawns → fp = Pawn ||| colorBit (whiteTurn p) := fun hf => by
    have hv := ((hI.sideInv (whiteTurn p)).ok.pawn_cell hf).2
    rw [← pawn_code] at hv
    exact Option.some.inj (hfp.symm.trans hv)
  rcases hfact with ⟨hf, ⟨x, hx, hen⟩ | ⟨h0, hep⟩ | hp⟩ | ⟨_, x, hx, hen⟩
  · exact capture x hx hen
  · have := s3 ⟨h0, hep.symm, pawn hf⟩
    omega
  · have := s1 (pawn hf) hp hf
    omega
  · exact capture x hx hen

set_option linter.unusedVariables false in
/-- no legal move increases it (in fact no move at all: the hypotheses are not used, see `mu_mono'`) -/
theorem mu_mono {p q : Position} {m : Move} {b : Bool} (hI : Inv p) (hS : OppSafe p) (hG : Generated p m)
    (hm : makeMove p m = .ok (q, b)) : mu q ≤ mu p :=
  mu_mono' hm

theorem witness_ok {P : Position} {m : Move} (hI : Inv P) (hS : OppSafe P)
    (h1 : okVal ((generateTacticalMoves P).map (fun l => (l.map (·.mov)).head?)) = some (some m))
    (h2 : okVal ((makeMove P m).map (·.2)) = some true) :
    ∃ ts rm q, generateTacticalMoves P = .ok ts ∧ rm ∈ ts ∧ makeMove P rm.mov = .ok (q, true) ∧ mu q < mu P := by
  obtain ⟨ts, hts, hhead⟩ := okVal_map_eq_some h1
  obtain ⟨⟨q, b⟩, hq, hb⟩ := okVal_map_eq_some h2
  cases ts with
  | nil => simp at hhead
  | cons rm rest =>
    simp only [List.map_cons, List.head?_cons, Option.some.injEq] at hhead
    simp only at hb
    subst hb
    rw [← hhead] at hq
    exact ⟨rm :: rest, rm, q, hts, List.mem_cons_self, hq, tactical_decreases hI hS hts List.mem_cons_self hq⟩

theorem oppSafe_c06Witness : OppSafe c06Witness := GenExamples.c06Witness_oppSafe
theorem oppSafe_c06PromoWitness : OppSafe c06PromoWitness := GenExamples.c06PromoWitness_oppSafe

/-- en passant a5xb6 on `c06Witness` (1.e4 e5 2.Nf3 Nc6 3.Bc4 Bc5 4.a4 a6 5.a5 b5): a legal tactical move, and
    the measure drops -/
example : ∃ ts rm q, generateTacticalMoves c06Witness = .ok ts ∧ rm ∈ ts ∧
    makeMove c06Witness rm.mov = .ok (q, true) ∧ mu q < mu c06Witness :=
  witness_ok (m := ⟨Gen.A5, Gen.B6, 0, InvalidSq⟩) GenExamples.inv_c06Witness oppSafe_c06Witness
    (by
      obtain ⟨ts, h, hm⟩ := Witness.c06Witness_tactical
      rw [h]
      show some ((ts.map (·.mov)).head?) = _
      rw [hm]
      rfl)
    (by rw [c06Witness_eq]; decide +kernel)

/-- the capturing promotion a7xb8=Q on `c06PromoWitness` -/
example : ∃ ts rm q, generateTacticalMoves c06PromoWitness = .ok ts ∧ rm ∈ ts ∧
    makeMove c06PromoWitness rm.mov = .ok (q, true) ∧ mu q < mu c06PromoWitness :=
  witness_ok (m := ⟨Gen.A7, Gen.B8, Queen, InvalidSq⟩) GenExamples.inv_c06PromoWitness oppSafe_c06PromoWitness
    (by decide +kernel) (by decide +kernel)

example : mu c06Witness = 46 ∧ mu c06Witness ≤ Gen.maxQuiescenceDepth ∧ mu startPosition = 46 := by
  rw [startPosition_eq, c06Witness_eq]; decide +kernel

end Magog.TotalMeasure
