import Magog.Lemmas.UciTotal
import Magog.Lemmas.TotalApply
import Magog.Props.C02

/-! Property C17 for the operations the driver runs: `modelOps_opsTotal`, with `G := GoodPos = Inv ∧ OppSafe` and
    `Legal := LegalGen` (the move string denotes a generated move which `MakeMove` accepts). `start`, `fen`, `apply` are
    proved (C02, `C08.fen_oppSafe`, TotalApply); evaluation and the two perfts are hypotheses here, discharged in
    Lemmas/Total.lean (C18). Around it: where the FEN clause of `PreF` (Lemmas/UciTotal.lean) is void; Boolean checkers of
    the precondition of one line for kernel-evaluated examples (`preB` for `Pre` with legality read through the model,
    `LegalByApply`; `preFB` for `PreF`, hence `Pre`, with `Legal := LegalGen`); `Pre.congr_ops`, `Pre.apply_of_gen`, which
    carry the precondition of a line over to other operations and from `LegalGen` to `LegalByApply`: with
    `UciTotal.Pre.any_state` / `sessionPre_of_lines` the sessions of the examples rest on one evaluation of their
    `position` lines (`positionLines_genB` in Lemmas/UciFenWitness.lean). -/

namespace Magog.UciTotal
open Magog Magog.Model

theorem preF_of_not_position {ops : EngineOps} {Legal : Position → Move → Prop} {FenOk : Position → Prop}
    {st : UciState} {line : Bytes} (h : hasPrefix line Gen.uPosition_bytes = false) : PreF ops Legal FenOk st line :=
  ⟨pre_of_not_position h, fun h' => by rw [h] at h'; cases h'⟩

theorem fenPre_startpos {ops : EngineOps} {FenOk : Position → Prop} {cmd part : Bytes}
    (hp : positionPart ops cmd = .ok part) (h : hasPrefix part Gen.uStartpos_bytes = true) : FenPre ops FenOk cmd := by
  intro part' fen p hp' hf _
  rw [hp] at hp'
  cases hp'
  rw [fenArg, if_pos h] at hf
  cases hf

theorem fenPre_rejected {ops : EngineOps} {FenOk : Position → Prop} {cmd part fen : Bytes} {e : FenError}
    (hp : positionPart ops cmd = .ok part) (ha : fenArg ops part = some fen) (hr : parseFen fen = .ok (.error e)) :
    FenPre ops FenOk cmd := by
  intro part' fen' p hp' hf hl
  rw [hp] at hp'
  cases hp'
  rw [ha] at hf
  cases hf
  rw [hr] at hl
  cases hl

theorem positionPart_str {ops ops' : EngineOps} (h : ops.str = ops'.str) (cmd : Bytes) :
    positionPart ops cmd = positionPart ops' cmd := by
  unfold positionPart; rw [h]

theorem fenArg_str {ops ops' : EngineOps} (h : ops.str = ops'.str) (s : Bytes) : fenArg ops s = fenArg ops' s := by
  unfold fenArg; rw [h]

theorem preF_mono {ops : EngineOps} {Legal : Position → Move → Prop} {F F' : Position → Prop} (hF : ∀ p, F p → F' p)
    {st : UciState} {line : Bytes} (h : PreF ops Legal F st line) : PreF ops Legal F' st line :=
  ⟨h.1, fun hp part fen p h1 h2 h3 => hF p (h.2 hp part fen p h1 h2 h3)⟩

theorem uciStep_total_of_F {ops : EngineOps} {G : Position → Prop} {Legal : Position → Move → Prop}
    (ho : OpsTotal ops G Legal) {st : UciState} (hst : StateOk G st) {line : Bytes} (hpre : Pre ops Legal st line) :
    ∃ st' out, uciStep ops st line = .ok (st', out) ∧ StateOk G st' :=
  uciStep_total_F (FenOk := fun _ => True) (opsTotalF_of_opsTotal ho) hst line (preF_true_iff.2 hpre)

/-- legality of a UCI move through the generator: the move string denotes a generated move that makeMove accepts -/
def LegalGen (p : Position) (mv : Move) : Prop :=
  ∃ m, MM.Generated p m ∧ mv = ⟨m.frm, m.to, m.promo, InvalidSq⟩ ∧ ∃ q, makeMove p m = .ok (q, true)

def GoodPos (p : Position) : Prop := Inv p ∧ MM.OppSafe p

theorem goodPos_start : GoodPos startPosition := ⟨inv_startPosition, Props.C02.oppSafe_start⟩

theorem goodPos_of_fen {s : Bytes} {p : Position} (h : parseFen s = .ok (.ok p)) : GoodPos p :=
  ⟨Props.C02.fen_inv h, Props.C08.fen_oppSafe h⟩

/-- `ApplyUciMove` on a legal move string: no panic (in particular not the explicit one for an illegal result),
    and the position stays good -/
theorem applyUciMove_good {p : Position} {mv : Move} (hg : GoodPos p) (hl : LegalGen p mv) :
    ∃ p', applyUciMove p mv = .ok p' ∧ GoodPos p' := by
  obtain ⟨m, hG, rfl, hacc⟩ := hl
  exact TotalApply.applyUciMove_total hg.1 hg.2 hG hacc

/-- **The real operations.** With `G := Inv ∧ OppSafe` and legality through the generator, `start`, `fen` and
    `apply` hold; what remains are the three hypotheses on evaluation and perft over good positions (discharged in
    Lemmas/Total.lean). No condition on loaded positions: the loader establishes `G` itself. -/
theorem modelOps_opsTotal {blend : Blend} {tostr : Position → M Bytes}
    (heval : ∀ p, GoodPos p → ∃ v, evaluate blend p 0 = .ok v)
    (hperft : ∀ p d, GoodPos p → 0 < d → d < Gen.plyBufferCapacity →
      ∃ r, perftDivide Killers.empty Gen.plyBufferCapacity p d = .ok r)
    (htperft : ∀ p d, GoodPos p → 0 < d → d < Gen.plyBufferCapacity →
      ∃ r, tperftDivide Killers.empty Gen.plyBufferCapacity p d = .ok r) :
    OpsTotal (modelOps blend tostr) GoodPos LegalGen :=
  ⟨goodPos_start, fun _ _ h => goodPos_of_fen h, heval, hperft, htperft, fun _ _ hg hl => applyUciMove_good hg hl⟩

theorem modelOps_opsTotalF {blend : Blend} {tostr : Position → M Bytes} {FenOk : Position → Prop}
    (heval : ∀ p, GoodPos p → ∃ v, evaluate blend p 0 = .ok v)
    (hperft : ∀ p d, GoodPos p → 0 < d → d < Gen.plyBufferCapacity →
      ∃ r, perftDivide Killers.empty Gen.plyBufferCapacity p d = .ok r)
    (htperft : ∀ p d, GoodPos p → 0 < d → d < Gen.plyBufferCapacity →
      ∃ r, tperftDivide Killers.empty Gen.plyBufferCapacity p d = .ok r) :
    OpsTotalF (modelOps blend tostr) GoodPos LegalGen FenOk :=
  opsTotalF_of_opsTotal (modelOps_opsTotal heval hperft htperft)

/-! ### Boolean checkers of the precondition, for kernel-evaluated examples
    (`Legal` := "`applyMove` returns normally and the result passes the Boolean test `g`") -/

def movesOkB (ops : EngineOps) (g : Position → Bool) : Position → List Bytes → Bool
  | _, [] => true
  | p, ms :: rest =>
    match parseMoveString ops.str.lower ms with
    | none => true
    | some mv =>
      match ops.applyMove p mv with
      | .ok p' => g p' && movesOkB ops g p' rest
      | .error _ => false

def preB (ops : EngineOps) (g : Position → Bool) (st : UciState) (line : Bytes) : Bool :=
  !hasPrefix line Gen.uPosition_bytes ||
    match positionHead ops st (ops.str.trimSpace (trimPrefix line Gen.uPosition_bytes)) with
    | .ok (.moves st' ms) => (match st'.pos with | some p => movesOkB ops g p ms | none => true)
    | _ => true

theorem movesLegal_of_B {ops : EngineOps} {g : Position → Bool} {G : Position → Prop} (hg : ∀ p, g p = true → G p)
    (l : List Bytes) : ∀ p, movesOkB ops g p l = true → MovesLegal ops (LegalByApply ops G) p l := by
  induction l with
  | nil => intro p _; trivial
  | cons ms rest ih =>
    intro p h
    unfold movesOkB at h
    unfold MovesLegal
    cases hm : parseMoveString ops.str.lower ms with
    | none => trivial
    | some mv =>
      rw [hm] at h
      dsimp only at h ⊢
      cases ha : ops.applyMove p mv with
      | error x => rw [ha] at h; cases h
      | ok p' =>
        rw [ha] at h
        simp only [Bool.and_eq_true] at h
        refine ⟨⟨p', ha, hg p' h.1⟩, fun q hq => ?_⟩
        cases hq
        exact ih p' h.2

theorem pre_of_preB {ops : EngineOps} {g : Position → Bool} {G : Position → Prop} (hg : ∀ p, g p = true → G p)
    {st : UciState} {line : Bytes} (h : preB ops g st line = true) : Pre ops (LegalByApply ops G) st line := by
  intro hp st' ms hh p hpos
  unfold preB at h
  rw [hp, hh] at h
  simp only [Bool.not_true, Bool.false_or, hpos] at h
  exact movesLegal_of_B hg ms p h

/-- with `Legal` read through the model, the `apply` clause of `OpsTotal` holds by definition -/
theorem opsTotal_byApply {ops : EngineOps} {G : Position → Prop}
    (start : G ops.startPos) (fen : ∀ s p, parseFen s = .ok (.ok p) → G p)
    (eval : ∀ p, G p → ∃ v, ops.evalOp p = .ok v)
    (perft : ∀ p d, G p → 0 < d → d < Gen.plyBufferCapacity → ∃ r, ops.perftDivOp p d = .ok r)
    (tperft : ∀ p d, G p → 0 < d → d < Gen.plyBufferCapacity → ∃ r, ops.tperftDivOp p d = .ok r) :
    OpsTotal ops G (LegalByApply ops G) :=
  ⟨start, fen, eval, perft, tperft, fun _ _ _ h => h⟩

/-! ### Boolean checker of `PreF` with `Legal := LegalGen`, for kernel-evaluated examples -/

def oppSafeB (p : Position) : Bool :=
  Count.okVal (isUnderCheck p.board (p.side (whiteTurn p)) (p.side (!whiteTurn p)).king) == some false

theorem oppSafe_of_B {p : Position} (h : oppSafeB p = true) : MM.OppSafe p :=
  Count.okVal_eq_some (by simpa [oppSafeB] using h)

def legalGenB (kt : Killers) (p : Position) (mv : Move) : Bool :=
  match genPseudo kt p with
  | .ok l => (l.map (·.mov)).any fun m =>
      decide (mv = ⟨m.frm, m.to, m.promo, InvalidSq⟩) && (match makeMove p m with | .ok (_, true) => true | _ => false)
  | .error _ => false

theorem legalGen_of_B {kt : Killers} {p : Position} {mv : Move} (h : legalGenB kt p mv = true) : LegalGen p mv := by
  unfold legalGenB at h
  split at h
  · next l hl =>
    obtain ⟨m, hm, hb⟩ := List.any_eq_true.1 h
    simp only [Bool.and_eq_true, decide_eq_true_eq] at hb
    refine ⟨m, ⟨kt, l, hl, hm⟩, hb.1, ?_⟩
    have h2 := hb.2
    split at h2
    · next q hq => exact ⟨q, hq⟩
    · cases h2
  · cases h

def movesGenB (ops : EngineOps) (kt : Killers) : Position → List Bytes → Bool
  | _, [] => true
  | p, ms :: rest =>
    match parseMoveString ops.str.lower ms with
    | none => true
    | some mv =>
      legalGenB kt p mv &&
        match ops.applyMove p mv with
        | .ok p' => movesGenB ops kt p' rest
        | .error _ => true

theorem movesLegal_of_genB {ops : EngineOps} {kt : Killers} (l : List Bytes) :
    ∀ p, movesGenB ops kt p l = true → MovesLegal ops LegalGen p l := by
  induction l with
  | nil => intro p _; trivial
  | cons ms rest ih =>
    intro p h
    unfold movesGenB at h
    unfold MovesLegal
    cases hm : parseMoveString ops.str.lower ms with
    | none => trivial
    | some mv =>
      rw [hm] at h
      dsimp only at h ⊢
      simp only [Bool.and_eq_true] at h
      refine ⟨legalGen_of_B h.1, fun q hq => ?_⟩
      have h2 := h.2
      rw [hq] at h2
      exact ih q h2

def preFB (ops : EngineOps) (kt : Killers) (f : Position → Bool) (st : UciState) (line : Bytes) : Bool :=
  !hasPrefix line Gen.uPosition_bytes ||
    ((match positionHead ops st (ops.str.trimSpace (trimPrefix line Gen.uPosition_bytes)) with
      | .ok (.moves st' ms) => (match st'.pos with | some p => movesGenB ops kt p ms | none => true)
      | _ => true) &&
     (match positionPart ops (ops.str.trimSpace (trimPrefix line Gen.uPosition_bytes)) with
      | .ok part =>
        (match fenArg ops part with
         | some fen => (match parseFen fen with | .ok (.ok p) => f p | _ => true)
         | none => true)
      | .error _ => true))

theorem preF_of_B {ops : EngineOps} {kt : Killers} {f : Position → Bool} {FenOk : Position → Prop}
    (hf : ∀ p, f p = true → FenOk p) {st : UciState} {line : Bytes} (h : preFB ops kt f st line = true) :
    PreF ops LegalGen FenOk st line := by
  refine ⟨fun hp st' ms hh p hpos => ?_, fun hp part fen p h1 h2 h3 => ?_⟩
  · unfold preFB at h
    rw [hp, hh] at h
    simp only [Bool.not_true, Bool.false_or, hpos, Bool.and_eq_true] at h
    exact movesLegal_of_genB ms p h.1
  · unfold preFB at h
    rw [hp, h1] at h
    simp only [Bool.not_true, Bool.false_or, h2, h3, Bool.and_eq_true] at h
    exact hf p h.2

theorem pre_of_genB {ops : EngineOps} {kt : Killers} {st : UciState} {line : Bytes}
    (h : preFB ops kt (fun _ => true) st line = true) : Pre ops LegalGen st line :=
  preF_true_iff.1 (preF_of_B (FenOk := fun _ => True) (fun _ _ => trivial) h)

/-! ### transporting the precondition of a line: to other operations with the same string library, start position and
    `ApplyUciMove` (it does not look at the rest), and from legality through the generator to legality through the
    model — so that the sessions of the examples share one kernel evaluation of their `position` lines -/

theorem movesLegal_congr {ops ops' : EngineOps} {Legal : Position → Move → Prop} (hstr : ops.str = ops'.str)
    (hap : ops.applyMove = ops'.applyMove) :
    ∀ (l : List Bytes) (p : Position), MovesLegal ops Legal p l → MovesLegal ops' Legal p l
  | [], _, _ => trivial
  | ms :: rest, p, h => by
    unfold MovesLegal at h ⊢
    rw [← hstr, ← hap]
    cases hm : parseMoveString ops.str.lower ms with
    | none => trivial
    | some mv =>
      rw [hm] at h
      exact ⟨h.1, fun p' hp' => movesLegal_congr hstr hap rest p' (h.2 p' hp')⟩

theorem Pre.congr_ops {ops ops' : EngineOps} {Legal : Position → Move → Prop} {st : UciState} {line : Bytes}
    (hstr : ops.str = ops'.str) (hsp : ops.startPos = ops'.startPos) (hap : ops.applyMove = ops'.applyMove)
    (h : Pre ops Legal st line) : Pre ops' Legal st line := by
  intro hp st' ms hh p hpos
  have e : ∀ cmd, positionHead ops' st cmd = positionHead ops st cmd := fun cmd => by
    unfold positionHead parsePosition; rw [hstr, hsp]
  rw [e, ← hstr] at hh
  exact movesLegal_congr hstr hap ms p (h hp st' ms hh p hpos)

theorem movesLegal_apply_of_gen {ops : EngineOps} {G : Position → Prop} (hap : ops.applyMove = applyUciMove)
    (hG : ∀ p, GoodPos p → G p) :
    ∀ (l : List Bytes) (p : Position), GoodPos p → MovesLegal ops LegalGen p l → MovesLegal ops (LegalByApply ops G) p l
  | [], _, _, _ => trivial
  | ms :: rest, p, hg, h => by
    unfold MovesLegal at h ⊢
    cases hm : parseMoveString ops.str.lower ms with
    | none => trivial
    | some mv =>
      rw [hm] at h
      obtain ⟨p', hp', hg'⟩ := applyUciMove_good hg h.1
      rw [← hap] at hp'
      refine ⟨⟨p', hp', hG p' hg'⟩, fun q hq => ?_⟩
      rw [hp'] at hq
      cases hq
      exact movesLegal_apply_of_gen hap hG rest p' hg' (h.2 p' hp')

/-- a `position` line whose moves are legal through the generator has them legal through the model: the position
    it sets is the start position or comes from the loader, so it is good, and good positions stay good -/
theorem Pre.apply_of_gen {ops : EngineOps} {G : Position → Prop} {st : UciState} {line : Bytes}
    (hsp : ops.startPos = startPosition) (hap : ops.applyMove = applyUciMove) (hG : ∀ p, GoodPos p → G p)
    (h : Pre ops LegalGen st line) : Pre ops (LegalByApply ops G) st line := fun hp => by
  obtain ⟨_, r, _, hl, hs⟩ := position_spec ops (ops.str.trimSpace (trimPrefix line Gen.uPosition_bytes))
  refine ((hs st).2 _).2 fun p hr => movesLegal_apply_of_gen hap hG _ p ?_ (((hs st).2 _).1 (h hp) p hr)
  subst hr
  exact hl.elim (fun _ e => by rw [e, hsp]; exact goodPos_start) (fun _ _ hf => goodPos_of_fen hf)

end Magog.UciTotal
