import Magog.Lemmas.UciFen
import Magog.Lemmas.FenCount
import Magog.Lemmas.PositionEq

/-! The position behind the FEN loader's test "side not to move in check": `4k3/8/8/8/8/8/8/4RK2 w - - 0 1`. The loader
    rejects it in an orderly way (`FenWrite.checkText_rejected`). The same POSITION, built directly (`checkWitnessPos`; it
    is what the accepted Black-to-move FEN loads, with the turn flipped, `checkWitnessPos_eq`), is well-formed, not
    `OppSafe`, and `perft 3` on it panics (`checkWitness_perft_panics`): the generator emits the capture of the enemy
    king (Re1xe8), `MakeMove` does not book it in any list, and two plies later the stale king square is read
    ("Unexpected piece found: 0 at 116"). So `Inv` alone does not make perft total, `G := Inv ∧ OppSafe` cannot be
    weakened. Last, a concrete session on `strOps` under the precondition `SessionPre` (no FEN clause), in which the
    witness line is answered with `invalid FEN` and the position is kept. -/

namespace Magog.UciTotal
open Magog Magog.Model

/-! ### `perftDivide` panics as soon as one root move does -/

/-- the body of `perftDivide`'s loop over the root moves -/
def perftStep (kt : Killers) (cap : Nat) (p : Position) (depth : Nat) (rm : RMove) : M (Move × Nat) := do
  if 1 ≥ cap then throw (.index "posStack" 1) else do
    let r ← makeMove p rm.mov
    if !r.2 then throw (.explicit "Applying move resulted in illegal position") else do
      let n ← perft kt cap (depth - 1) 1 r.1
      pure (rm.mov, n)

theorem mapM_error_of_mem {α β} {f : α → M β} : ∀ {l : List α} {a : α} {e : Panic}, a ∈ l → f a = .error e →
    ∃ e', l.mapM f = .error e' := by
  intro l
  induction l with
  | nil => intro a e h; cases h
  | cons x xs ih =>
    intro a e hm hf
    rw [List.mapM_cons]
    cases hx : f x with
    | error e1 => exact ⟨e1, rfl⟩
    | ok b =>
      rcases List.mem_cons.1 hm with rfl | hm
      · rw [hf] at hx; cases hx
      · obtain ⟨e2, h2⟩ := ih hm hf
        rw [h2]
        exact ⟨e2, rfl⟩

theorem perftDivide_error {kt : Killers} {cap : Nat} {p : Position} {depth : Nat} {ms : List RMove} {rm : RMove}
    {e : Panic} (hg : generateMoves kt p = .ok ms) (hm : rm ∈ ms) (hs : perftStep kt cap p depth rm = .error e) :
    ∃ e', perftDivide kt cap p depth = .error e' := by
  show ∃ e', (generateMoves kt p >>= fun ms => ms.mapM (perftStep kt cap p depth)) = .error e'
  rw [hg]
  exact mapM_error_of_mem hm hs

/-- the witness position built directly: White Kf1 Re1, Black Ke8, WHITE to move -/
def checkWitnessPos : Position :=
  { board := ((List.range 128).map fun s =>
      if s == Gen.E1 then Gen.WRook else if s == Gen.F1 then Gen.WKing else if s == Gen.E8 then Gen.BKing else 0).toArray,
    blackPieces := [], whitePieces := [Gen.E1], blackPawns := [], whitePawns := [],
    blackKing := Gen.E8, whiteKing := Gen.F1, flags := FWhiteTurn, ep := InvalidSq, ply := 0 }

/-- it is what the (accepted) Black-to-move FEN loads, with the turn flipped -/
def checkWitnessPosB : Bool :=
  match parseFen (FenSpec.strBytes "4k3/8/8/8/8/8/8/4RK2 b - - 0 1") with
  | .ok (.ok p) =>
    p.board.toList == checkWitnessPos.board.toList && p.blackPieces == checkWitnessPos.blackPieces &&
    p.whitePieces == checkWitnessPos.whitePieces && p.blackPawns == checkWitnessPos.blackPawns &&
    p.whitePawns == checkWitnessPos.whitePawns && p.blackKing == checkWitnessPos.blackKing &&
    p.whiteKing == checkWitnessPos.whiteKing && p.flags ||| FWhiteTurn == checkWitnessPos.flags &&
    p.ep == checkWitnessPos.ep
  | _ => false

set_option maxRecDepth 100000 in
theorem checkWitnessPos_eq : checkWitnessPosB = true := by decide +kernel

/-- the legal-move generator emits the capture of the king (e1 → e8), and the subtree below it panics -/
def kingCapturePanicsB (p : Position) (depth : Nat) : Bool :=
  match generateMoves Killers.empty p with
  | .ok ms =>
    (match ms.find? (fun rm => rm.mov.frm == Gen.E1 && rm.mov.to == Gen.E8) with
     | some rm =>
       (match perftStep Killers.empty Gen.plyBufferCapacity p depth rm with
        | .error _ => true
        | .ok _ => false)
     | none => false)
  | .error _ => false

theorem perftDivide_error_of_B {p : Position} {depth : Nat} (h : kingCapturePanicsB p depth = true) :
    ∃ e, perftDivide Killers.empty Gen.plyBufferCapacity p depth = .error e := by
  unfold kingCapturePanicsB at h
  split at h
  · next ms hg =>
    split at h
    · next rm hf =>
      split at h
      · next e hs => exact perftDivide_error hg (List.mem_of_find?_eq_some hf) hs
      · cases h
    · cases h
  · cases h

theorem not_oppSafe_of_B {p : Position} (h : oppSafeB p = false) : ¬ MM.OppSafe p := by
  intro hS
  unfold MM.OppSafe at hS
  unfold oppSafeB at h
  rw [hS] at h
  exact absurd h (by decide)

set_option maxRecDepth 100000 in
/-- **`Inv` alone does not make perft total**: on a well-formed position with the side not to move in check
    `perft 3` panics. (Such a position cannot be loaded from a FEN, nor reached by legal moves.) -/
theorem checkWitness_perft_panics : Inv checkWitnessPos ∧ ¬ MM.OppSafe checkWitnessPos ∧
    (∃ e, perftDivide Killers.empty Gen.plyBufferCapacity checkWitnessPos 3 = .error e) :=
  ⟨inv_of_invC (by decide +kernel), not_oppSafe_of_B (by decide +kernel), perftDivide_error_of_B (by decide +kernel)⟩

/-- closed operations with the driver's string library: the real string functions, start position, FEN loader and
    `applyUciMove`; evaluation and perft are stubs (their totality on good positions is proved in Lemmas/Total.lean) -/
def strOps : EngineOps :=
  { str := goStrEnv, startPos := startPosition, evalOp := fun _ => pure 0, perftDivOp := fun _ _ => pure [],
    tperftDivOp := fun _ _ => pure [], applyMove := applyUciMove, tostrOp := fun _ => pure [] }

/-! ### non-vacuity of `Pre` / `SessionPre` / `uciRun_total` with `Legal := LegalGen`: a concrete session

The session has legal move lists (double pushes, castling) after `startpos` and after a FEN, a rejected FEN followed
by moves, malformed lines, random bytes, the accepted Black-to-move FEN (side to move in check) and the witness line
(answered with `invalid FEN`). No condition on the FENs. -/

theorem strOps_total : OpsTotal strOps GoodPos LegalGen :=
  ⟨goodPos_start, fun _ _ h => goodPos_of_fen h, fun _ _ => ⟨0, rfl⟩, fun _ _ _ _ _ => ⟨[], rfl⟩,
    fun _ _ _ _ _ => ⟨[], rfl⟩, fun _ _ hg hl => applyUciMove_good hg hl⟩

def fenSession : List Bytes :=
  [FenSpec.strBytes "eval", FenSpec.strBytes "position startpos moves e2e4 e7e5 g1f3",
   FenSpec.strBytes "position fen r3k2r/8/8/8/8/8/8/R3K2R w KQkq - 0 1 moves e1g1 e8c8",
   FenSpec.strBytes "position garbage moves e2e4", FenSpec.strBytes "perft 2", [255, 0, 300, 32, 9],
   FenSpec.strBytes "position fen 4k3/8/8/8/8/8/8/4RK2 b - - 0 1",
   FenSpec.strBytes "position fen 4k3/8/8/8/8/8/8/4RK2 w - - 0 1 moves e1e8", FenSpec.strBytes "go depth"]

/-- the `position` lines of the sessions here and in Props/C17.lean: legal move lists (double pushes, castling) after
    `startpos` and after a FEN, an empty move list, doubled blanks, a rejected FEN followed by moves, the accepted
    Black-to-move FEN and the witness line -/
def positionLines : List Bytes :=
  [FenSpec.strBytes "position startpos moves e2e4 e7e5 g1f3",
   FenSpec.strBytes "position fen r3k2r/8/8/8/8/8/8/R3K2R w KQkq - 0 1 moves e1g1 e8c8",
   FenSpec.strBytes "position garbage moves e2e4",
   FenSpec.strBytes "position fen 4k3/8/8/8/8/8/8/4RK2 b - - 0 1",
   FenSpec.strBytes "position fen 4k3/8/8/8/8/8/8/4RK2 w - - 0 1 moves e1e8",
   FenSpec.strBytes "position startpos moves e2e4 e7e5",
   FenSpec.strBytes "position fen r3k2r/8/8/8/8/8/8/R3K2R w KQkq - 0 1 moves e1g1",
   FenSpec.strBytes "position startpos moves", FenSpec.strBytes "position  startpos   moves  e2e4"]

/-- the one kernel evaluation behind the sessions: every line of `positionLines` passes the Boolean test of the
    precondition (the state does not matter, `Pre.any_state`) -/
theorem positionLines_genB :
    ∀ l ∈ positionLines, preFB strOps Killers.empty (fun _ => true) UciState.init l = true := by
  unfold strOps
  rw [startPosition_eq]
  decide +kernel

theorem positionLines_pre {ops : EngineOps} (hstr : ops.str = goStrEnv) (hsp : ops.startPos = startPosition)
    (hap : ops.applyMove = applyUciMove) : ∀ l ∈ positionLines, ∀ st, Pre ops LegalGen st l := fun l hl st =>
  Pre.congr_ops (ops := strOps) hstr.symm hsp.symm hap.symm ((pre_of_genB (positionLines_genB l hl)).any_state st)

theorem fenSession_pre : SessionPre strOps LegalGen UciState.init fenSession :=
  sessionPre_of_lines (positionLines_pre rfl rfl rfl) fenSession (by decide +kernel) UciState.init

example : ∃ st' outs, uciRun strOps UciState.init fenSession = .ok (st', outs) ∧ StateOk GoodPos st' ∧
    outs.length = fenSession.length :=
  uciRun_total strOps_total fenSession UciState.init (stateOk_init _) fenSession_pre

/-- the witness line (with a move list after the FEN) is answered with `invalid FEN: …` and nothing else;
    by `doPosition_keeps_old` (C17.position_keeps_old) the state is then what it was and the moves are not applied -/
def witnessLineAnswerB : Bool :=
  match uciStep strOps UciState.init (FenSpec.strBytes "position fen 4k3/8/8/8/8/8/8/4RK2 w - - 0 1 moves e1e8") with
  | .ok (_, [.invalidFen e]) => e == .invalid "side not to move in check"
  | _ => false

example : witnessLineAnswerB = true := by decide +kernel

/-- the Boolean test of the precondition is not vacuous: it rejects an illegal move -/
example : preFB strOps Killers.empty (fun _ => true) UciState.init
    (FenSpec.strBytes "position startpos moves e2e4 e1e8") = false := by
  unfold strOps; rw [startPosition_eq]; decide +kernel

end Magog.UciTotal
