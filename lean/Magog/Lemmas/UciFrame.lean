import Magog.Lemmas.UciTotal

/-! Frame lemmas for the command interpreter `Model.uciStep`: which components of the state (`posGen`, `search`,
    `currmoveLogInterval`, `Quit`, `killerMoves`) each command can write; used by `Props/C16Uci.lean` (queries keep the
    position) and `Props/C14Uci.lean` (a `position` command resets what an analysis depends on). -/

namespace Magog.UciFrame
open Magog Magog.Model
open Magog.UciTotal hiding ok_bind pure_eq_ok

theorem doGo_frame {st st' : UciState} {cmd : Bytes} {out : List UOut} (h : doGo st cmd = .ok (st', out)) :
    GoFrame st st' out := by
  obtain ⟨_, _, h', hf⟩ := doGo_spec st cmd
  rw [h] at h'
  cases h'
  exact hf

theorem doGo_out_congr {st₁ st₂ : UciState} (cmd : Bytes) (hp : st₁.pos = st₂.pos) :
    (doGo st₁ cmd).map Prod.snd = (doGo st₂ cmd).map Prod.snd := by
  unfold doGo
  rw [hp]
  cases st₂.pos with
  | none => rfl
  | some p =>
    dsimp only
    cases goParams (!whiteTurn p) cmd with
    | error e => rfl
    | ok r => cases r <;> rfl

inductive QueryFrame (st : UciState) : UciState → List UOut → Prop where
  | same (out : List UOut) : QueryFrame st st out
  | alloc (out : List UOut) : QueryFrame st { st with searchAllocated := true } out
  | quit : QueryFrame st { st with quit := true } []
  | go (st' : UciState) (out : List UOut) (h : GoFrame st st' out) : QueryFrame st st' out
  | option (v : Int) : QueryFrame st { st with logInterval := v } []

theorem uciStep_queryFrame {ops : EngineOps} {st st' : UciState} {line : Bytes} {out : List UOut}
    (hnp : hasPrefix line Gen.uPosition_bytes = false) (h : uciStep ops st line = .ok (st', out)) :
    QueryFrame st st' out := by
  rw [uciStep_eq] at h
  generalize hc : cmdOf line = c at h
  cases c with
  | position => rw [cmdOf_position.1 hc] at hnp; cases hnp
  | isready => cases h; exact .alloc _
  | quit => cases h; exact .quit
  | uci => cases h; exact .same _
  | stop => cases h; exact .same _
  | help => cases h; exact .same _
  | other => cases h; exact .same _
  | go => exact .go _ _ (doGo_frame h)
  | eval =>
    simp only [runCmd] at h
    split at h
    · cases h; exact .same _
    · next p _ =>
      cases he : ops.evalOp p with
      | error e => rw [he] at h; cases h
      | ok v => rw [he] at h; cases h; exact .same _
  | tostr =>
    simp only [runCmd] at h
    split at h
    · cases h; exact .same _
    · split at h <;> (cases h; exact .same _)
  | setoption =>
    obtain ⟨v, hs, _⟩ := setOption_spec st (ops.str.trimSpace (trimPrefix line Gen.uOptionSet_bytes))
    simp only [runCmd, hs, ok_bind] at h
    cases h
    exact .option v
  | perft t =>
    rcases doPerft_cases t ops st (ops.str.trimSpace (trimPrefix line (if t then kwTperft else kwPerft)))
      with ⟨o, ho⟩ | ⟨p, d, _, _, _, hd⟩
    · rw [show runCmd ops st line (.perft t) = _ from ho] at h
      cases h; exact .same _
    · rw [show runCmd ops st line (.perft t) = _ from hd] at h
      cases he : (if t then ops.tperftDivOp p d else ops.perftDivOp p d) with
      | error e => rw [he] at h; cases h
      | ok es => rw [he] at h; cases h; exact .same _

theorem QueryFrame.pos {st st' : UciState} {out : List UOut} (h : QueryFrame st st' out) : st'.pos = st.pos := by
  cases h with
  | go _ _ hg => exact hg.pos
  | _ => rfl

/-- **an accepted `position` command** (it printed nothing: no `invalid FEN`, no `Invalid position command`):
    run from ANY other state it is accepted as well, sets the SAME position, and in both runs the killer table is
    empty afterwards -/
theorem doPosition_accept {ops : EngineOps} {st₁ st₁' : UciState} {cmd : Bytes}
    (h : doPosition ops st₁ cmd = .ok (st₁', [])) (st₂ : UciState) :
    ∃ st₂', doPosition ops st₂ cmd = .ok (st₂', []) ∧ st₂'.pos = st₁'.pos ∧
      st₁'.killers = Killers.empty ∧ st₂'.killers = Killers.empty ∧ ∃ p, st₁'.pos = some p := by
  obtain ⟨_, r, _, _, hs⟩ := position_spec ops cmd
  rw [(hs st₁).1] at h
  rw [(hs st₂).1]
  cases r with
  | error e => cases h
  | ok p =>
    -- the move loop runs on the position alone
    simp only [posRun, map_ok] at h ⊢
    obtain ⟨⟨q, _ | ms⟩, hx, h⟩ := h <;> cases h
    exact ⟨_, ⟨_, hx, rfl⟩, rfl, rfl, rfl, q, rfl⟩

theorem uciStep_position_accept {ops : EngineOps} {st₁ st₁' : UciState} {line : Bytes}
    (hl : hasPrefix line Gen.uPosition_bytes = true) (h : uciStep ops st₁ line = .ok (st₁', [])) (st₂ : UciState) :
    ∃ st₂', uciStep ops st₂ line = .ok (st₂', []) ∧ st₂'.pos = st₁'.pos ∧
      st₁'.killers = Killers.empty ∧ st₂'.killers = Killers.empty ∧ ∃ p, st₁'.pos = some p := by
  rw [uciStep_position hl] at h ⊢
  exact doPosition_accept h st₂

theorem uciRun_pos {ops : EngineOps} : ∀ (lines : List Bytes) {st st' : UciState} {outs : List (List UOut)},
    (∀ l ∈ lines, hasPrefix l Gen.uPosition_bytes = false) → uciRun ops st lines = .ok (st', outs) →
    st'.pos = st.pos
  | [], st, st', outs, _, h => by
    cases h; rfl
  | l :: ls, st, st', outs, hnp, h => by
    unfold uciRun at h
    cases h1 : uciStep ops st l with
    | error e => rw [h1] at h; cases h
    | ok r =>
      rw [h1, ok_bind] at h
      cases h2 : uciRun ops r.1 ls with
      | error e => rw [h2] at h; cases h
      | ok rs =>
        rw [h2] at h
        cases h
        exact (uciRun_pos ls (fun x hx => hnp x (List.mem_cons_of_mem _ hx)) h2).trans
          (uciStep_queryFrame (hnp l List.mem_cons_self) h1).pos



end Magog.UciFrame
