import Magog.Model.Uci
import Magog.Lemmas.GoScan
import Magog.Props.C08
import Magog.Lemmas.MBasic

/-! C17: the command interpreter `Model.uciStep` never panics. The hypotheses of that claim (`OpsTotal`, `StateOk`,
    `Pre`, `SessionPre`; the forms `…F` carry a condition `FenOk` on loaded positions, and every use in the
    development takes `FenOk := fun _ => True`, where they are `uciStep_total` / `uciRun_total`), one specification per
    sub-command, the dispatcher as a classification of the line followed by the run of one command (`uciStep_eq`), and
    the totality theorems behind `Props/C17.lean`. A `position` command is analysed once: what it loads and the move
    list it carries do not depend on the state (`position_spec`, `Pre.any_state`), and its move loop runs on the
    position alone (`playMoves`, `applyMoves_eq`). -/

namespace Magog.UciTotal
open Magog Magog.Model

deriving instance DecidableEq for Except

@[simp] theorem ok_bind {α β} (a : α) (f : α → M β) : (Except.ok a >>= f) = f a := rfl
@[simp] theorem pure_bind' {α β} (a : α) (f : α → M β) : ((pure a : M α) >>= f) = f a := rfl
theorem pure_eq_ok {α} (a : α) : (pure a : M α) = .ok a := rfl

theorem goDiv_total (a b : Int) (hb : b ≠ 0) : ∃ v, goDiv a b = .ok v := by
  unfold goDiv
  have : (b == 0) = false := by simpa using hb
  simp only [this]
  exact ⟨_, rfl⟩

theorem allot_total (black : Bool) (bl bi wl wi m : Int) (hm : m ≠ 0) : ∃ v, allot black bl bi wl wi m = .ok v := by
  unfold allot
  obtain ⟨q, hq⟩ := goDiv_total (if black then bl else wl) m hm
  simp only [hq]
  split <;> split <;> exact ⟨_, rfl⟩

theorem goFinish_total (black : Bool) (a : GoAcc) (hm : a.movesToGo ≠ 0) : ∃ g, goFinish black a = .ok g := by
  unfold goFinish
  split
  · exact ⟨_, rfl⟩
  · obtain ⟨v, hv⟩ := allot_total black a.blackLeft a.blackInc a.whiteLeft a.whiteInc a.movesToGo hm
    rw [hv]
    exact ⟨_, rfl⟩

/-- the scanner returns normally for every token list, and the divisor `movesToGo` it hands to `calcEndtime` is
    positive -/
theorem goScan_movesToGo (toks : List Bytes) :
    ∃ r, goScan toks {} = .ok r ∧ ∀ a, r = .done a → 0 < a.movesToGo :=
  UciFrame.goScan_inv (0 < ·.movesToGo) (fun _ _ _ => UciFrame.store_movesToGo) (fun _ _ h => h) toks {}
    UciFrame.default_movesToGo

theorem goTokens_total (black : Bool) (tokens : List Bytes) : ∃ r, goTokens black tokens = .ok r := by
  unfold goTokens
  obtain ⟨r, hr, hm⟩ := goScan_movesToGo tokens
  rw [hr]
  cases r with
  | reject => exact ⟨none, rfl⟩
  | done a =>
    obtain ⟨g, hg⟩ := goFinish_total black a (Int.ne_of_gt (hm a rfl))
    simp only [ok_bind, hg]
    exact ⟨_, rfl⟩

theorem goParams_total (black : Bool) (cmd : Bytes) : ∃ r, goParams black cmd = .ok r :=
  goTokens_total black _

theorem indexOf_bound (pat : Bytes) : ∀ (s : Bytes) (i : Nat), indexOf pat s = some i → i + pat.length ≤ s.length
  | [], i, h => by
    unfold indexOf at h
    split at h
    · next he => cases h; simp [List.isEmpty_iff.1 he]
    · cases h
  | c :: cs, i, h => by
    unfold indexOf at h
    split at h
    · next hp =>
      cases h
      have := (List.isPrefixOf_iff_prefix.1 hp).length_le
      omega
    · cases hj : indexOf pat cs with
      | none => rw [hj] at h; cases h
      | some j =>
        rw [hj] at h
        cases h
        have := indexOf_bound pat cs j hj
        simp only [List.length_cons]
        omega

theorem sliceTo_total {s : Bytes} {hi : Nat} (h : hi ≤ s.length) : sliceTo s hi = .ok (s.take hi) := by
  simp [sliceTo, h, pure_eq_ok]

theorem sliceFrom_total {s : Bytes} {lo : Nat} (h : lo ≤ s.length) : sliceFrom s lo = .ok (s.drop lo) := by
  simp [sliceFrom, h, pure_eq_ok]

theorem idx_total {α} (what : String) (l : List α) (i : Nat) (h : i < l.length) : idx what l i = .ok l[i] := by
  simp [idx, h, pure_eq_ok]

/-- The engine operations return normally on positions satisfying `G` (hypotheses discharged by the other
    properties: C08 for `fen`, C02 / C18 for the rest): evaluation; `perft` / `tperft` for every depth the
    interpreter lets through (`0 < d < plyBufferCapacity`); `ApplyUciMove` on a `Legal` move, which also keeps
    `G`; the start position and everything the FEN loader accepts satisfy `G`. -/
structure OpsTotal (ops : EngineOps) (G : Position → Prop) (Legal : Position → Move → Prop) : Prop where
  start : G ops.startPos
  fen : ∀ s p, parseFen s = .ok (.ok p) → G p
  eval : ∀ p, G p → ∃ v, ops.evalOp p = .ok v
  perft : ∀ p d, G p → 0 < d → d < Gen.plyBufferCapacity → ∃ r, ops.perftDivOp p d = .ok r
  tperft : ∀ p d, G p → 0 < d → d < Gen.plyBufferCapacity → ∃ r, ops.tperftDivOp p d = .ok r
  apply : ∀ p mv, G p → Legal p mv → ∃ p', ops.applyMove p mv = .ok p' ∧ G p'

/-- like `OpsTotal`, but a loaded position only has to satisfy `G` when it satisfies `FenOk` -/
structure OpsTotalF (ops : EngineOps) (G : Position → Prop) (Legal : Position → Move → Prop)
    (FenOk : Position → Prop) : Prop where
  start : G ops.startPos
  fen : ∀ s p, parseFen s = .ok (.ok p) → FenOk p → G p
  eval : ∀ p, G p → ∃ v, ops.evalOp p = .ok v
  perft : ∀ p d, G p → 0 < d → d < Gen.plyBufferCapacity → ∃ r, ops.perftDivOp p d = .ok r
  tperft : ∀ p d, G p → 0 < d → d < Gen.plyBufferCapacity → ∃ r, ops.tperftDivOp p d = .ok r
  apply : ∀ p mv, G p → Legal p mv → ∃ p', ops.applyMove p mv = .ok p' ∧ G p'

theorem opsTotalF_of_opsTotal {ops : EngineOps} {G : Position → Prop} {Legal : Position → Move → Prop}
    {FenOk : Position → Prop} (h : OpsTotal ops G Legal) : OpsTotalF ops G Legal FenOk :=
  ⟨h.start, fun s p hp _ => h.fen s p hp, h.eval, h.perft, h.tperft, h.apply⟩

theorem opsTotal_of_opsTotalF {ops : EngineOps} {G : Position → Prop} {Legal : Position → Move → Prop}
    (h : OpsTotalF ops G Legal (fun _ => True)) : OpsTotal ops G Legal :=
  ⟨h.start, fun s p hp => h.fen s p hp trivial, h.eval, h.perft, h.tperft, h.apply⟩

/-- the formalisation of legality "through the model": the move applies without panic and keeps `G` -/
def LegalByApply (ops : EngineOps) (G : Position → Prop) (p : Position) (mv : Move) : Prop :=
  ∃ p', ops.applyMove p mv = .ok p' ∧ G p'

/-- the state invariant: the current position (if any) satisfies `G`; the option `currmoveLogInterval`
    (a divisor in the search) is non-zero and inside its declared range -/
def StateOk (G : Position → Prop) (st : UciState) : Prop :=
  (∀ p, st.pos = some p → G p) ∧ st.logInterval ≠ 0 ∧
    (Gen.currmoveLogIntervalMin : Int) ≤ st.logInterval ∧ st.logInterval ≤ (Gen.currmoveLogIntervalMax : Int)

/-- the moves of a move list are legal, each at the position reached by the ones before it; the list is
    only read up to the first string that is not a move (there the command stops with a message) -/
def MovesLegal (ops : EngineOps) (Legal : Position → Move → Prop) : Position → List Bytes → Prop
  | _, [] => True
  | p, ms :: rest =>
    match parseMoveString ops.str.lower ms with
    | none => True
    | some mv => Legal p mv ∧ ∀ p', ops.applyMove p mv = .ok p' → MovesLegal ops Legal p' rest

/-- The UCI precondition on one line: IF the line is a `position` command whose position part is accepted
    and which carries a move list, THEN the listed moves are legal at their positions. Nothing else. -/
def Pre (ops : EngineOps) (Legal : Position → Move → Prop) (st : UciState) (line : Bytes) : Prop :=
  hasPrefix line Gen.uPosition_bytes = true →
  ∀ st' moveStrs, positionHead ops st (ops.str.trimSpace (trimPrefix line Gen.uPosition_bytes)) = .ok (.moves st' moveStrs) →
    ∀ p, st'.pos = some p → MovesLegal ops Legal p moveStrs

def SessionPre (ops : EngineOps) (Legal : Position → Move → Prop) : UciState → List Bytes → Prop
  | _, [] => True
  | st, l :: ls => Pre ops Legal st l ∧ ∀ st' out, uciStep ops st l = .ok (st', out) → SessionPre ops Legal st' ls

/-- the FEN string `parsePosition` hands to the loader for the position part `s` (none for `startpos`) -/
def fenArg (ops : EngineOps) (s : Bytes) : Option Bytes :=
  if hasPrefix s Gen.uStartpos_bytes then none
  else some (if hasPrefix s (Gen.uFen_bytes ++ [32]) then ops.str.trimSpace (trimPrefix s Gen.uFen_bytes) else s)

/-- the position part of a `position` command: the whole command without "moves", else the trimmed prefix
    (`positionCommand[:movesIdx]`, a checked slice as in `positionHead`) -/
def positionPart (ops : EngineOps) (cmd : Bytes) : M Bytes :=
  match indexOf Gen.uMoves_bytes cmd with
  | none => pure cmd
  | some i => do
    let head ← sliceTo cmd i
    pure (ops.str.trimSpace head)

def FenPre (ops : EngineOps) (FenOk : Position → Prop) (cmd : Bytes) : Prop :=
  ∀ part fen p, positionPart ops cmd = .ok part → fenArg ops part = some fen → parseFen fen = .ok (.ok p) → FenOk p

def PreF (ops : EngineOps) (Legal : Position → Move → Prop) (FenOk : Position → Prop) (st : UciState)
    (line : Bytes) : Prop :=
  Pre ops Legal st line ∧
    (hasPrefix line Gen.uPosition_bytes = true →
      ∀ part fen p, positionPart ops (ops.str.trimSpace (trimPrefix line Gen.uPosition_bytes)) = .ok part →
        fenArg ops part = some fen → parseFen fen = .ok (.ok p) → FenOk p)

def SessionPreF (ops : EngineOps) (Legal : Position → Move → Prop) (FenOk : Position → Prop) :
    UciState → List Bytes → Prop
  | _, [] => True
  | st, l :: ls =>
    PreF ops Legal FenOk st l ∧ ∀ st' out, uciStep ops st l = .ok (st', out) → SessionPreF ops Legal FenOk st' ls

theorem pre_of_not_position {ops : EngineOps} {Legal : Position → Move → Prop} {st : UciState} {line : Bytes}
    (h : hasPrefix line Gen.uPosition_bytes = false) : Pre ops Legal st line := by
  intro h'; rw [h] at h'; cases h'

theorem preF_true_iff {ops : EngineOps} {Legal : Position → Move → Prop} {st : UciState} {line : Bytes} :
    PreF ops Legal (fun _ => True) st line ↔ Pre ops Legal st line :=
  ⟨fun h => h.1, fun h => ⟨h, fun _ _ _ _ _ _ _ => trivial⟩⟩

theorem sessionPreF_true_iff {ops : EngineOps} {Legal : Position → Move → Prop} (lines : List Bytes) :
    ∀ st, SessionPreF ops Legal (fun _ => True) st lines ↔ SessionPre ops Legal st lines := by
  induction lines with
  | nil => intro st; exact Iff.rfl
  | cons l ls ih =>
    intro st
    unfold SessionPreF SessionPre
    exact ⟨fun h => ⟨preF_true_iff.1 h.1, fun st' out hs => (ih st').1 (h.2 st' out hs)⟩,
      fun h => ⟨preF_true_iff.2 h.1, fun st' out hs => (ih st').2 (h.2 st' out hs)⟩⟩

theorem stateOk_init (G : Position → Prop) : StateOk G UciState.init := by
  unfold StateOk
  refine ⟨fun p h => by simp [UciState.init] at h, ?_, ?_, ?_⟩ <;> simp only [UciState.init] <;> decide

def Keeps (G : Position → Prop) (st st' : UciState) : Prop :=
  (∀ p, st'.pos = some p → G p) ∧ st'.logInterval = st.logInterval

theorem Keeps.stateOk {G : Position → Prop} {st st' : UciState} (h : StateOk G st) (k : Keeps G st st') : StateOk G st' := by
  obtain ⟨_, h2, h3, h4⟩ := h
  exact ⟨k.1, by rw [k.2]; exact h2, by rw [k.2]; exact h3, by rw [k.2]; exact h4⟩

theorem parsePosition_eq (ops : EngineOps) (st : UciState) (s : Bytes) :
    parsePosition ops st s =
      match fenArg ops s with
      | none => pure ({ st with pos := some ops.startPos }, none)
      | some fen => (do
        match (← parseFen fen) with
        | .error e => pure (st, some e)
        | .ok p => pure ({ st with pos := some p }, none)) := by
  unfold parsePosition fenArg
  split <;> rfl

/-- `r` is what the position part `s` loads, whatever the state: the start position, or the loader's answer on `fenArg` -/
def Loads (ops : EngineOps) (s : Bytes) (r : Except FenError Position) : Prop :=
  match fenArg ops s with
  | none => r = .ok ops.startPos
  | some fen => parseFen fen = .ok r

/-- how `parsePosition` books that answer: the new position, or the old state and the error to report -/
def setPos (st : UciState) : Except FenError Position → UciState × Option FenError
  | .ok p => ({ st with pos := some p }, none)
  | .error e => (st, some e)

/-- `parsePosition` never panics, and what it loads does not depend on the state -/
theorem parsePosition_spec (ops : EngineOps) (s : Bytes) :
    ∃ r, Loads ops s r ∧ ∀ st, parsePosition ops st s = .ok (setPos st r) := by
  unfold Loads
  cases ha : fenArg ops s with
  | none => exact ⟨.ok ops.startPos, rfl, fun st => by rw [parsePosition_eq, ha]; rfl⟩
  | some fen =>
    obtain ⟨r, hr⟩ := Props.C08.fen_total fen
    refine ⟨r, hr, fun st => ?_⟩
    rw [parsePosition_eq, ha]
    dsimp only
    rw [hr]
    cases r <;> rfl

theorem Loads.elim {ops : EngineOps} {part : Bytes} {p : Position} {P : Prop} (hl : Loads ops part (.ok p))
    (hstart : fenArg ops part = none → p = ops.startPos → P)
    (hfen : ∀ fen, fenArg ops part = some fen → parseFen fen = .ok (.ok p) → P) : P := by
  unfold Loads at hl
  cases ha : fenArg ops part with
  | none => rw [ha] at hl; exact hstart ha (Except.ok.inj hl)
  | some fen => rw [ha] at hl; exact hfen fen ha hl

theorem sessionPre_of_lines {ops : EngineOps} {Legal : Position → Move → Prop} {good : List Bytes}
    (hgood : ∀ l ∈ good, ∀ st, Pre ops Legal st l) :
    ∀ (lines : List Bytes), (∀ l ∈ lines, hasPrefix l Gen.uPosition_bytes = false ∨ l ∈ good) →
      ∀ st, SessionPre ops Legal st lines
  | [], _, _ => trivial
  | l :: ls, h, st =>
    ⟨(h l List.mem_cons_self).elim pre_of_not_position (fun hm => hgood l hm st),
      fun st' _ _ => sessionPre_of_lines hgood ls (fun x hx => h x (List.mem_cons_of_mem _ hx)) st'⟩

/-- the move loop of `doPosition` on the position alone: the position it ends on, and the string it stopped at
    when that is not a move -/
def playMoves (ops : EngineOps) : Position → List Bytes → M (Position × Option Bytes)
  | p, [] => pure (p, none)
  | p, ms :: rest =>
    match parseMoveString ops.str.lower ms with
    | none => pure (p, some ms)
    | some mv => do
      let p' ← ops.applyMove p mv
      playMoves ops p' rest

/-- how `applyMoves` books the result of `playMoves`: all moves played (killers cleared), or stopped at a string -/
def movesResult (st : UciState) : Position × Option Bytes → UciState × List UOut
  | (q, none) => (({ st with pos := some q } : UciState).clearKillers, [])
  | (q, some ms) => ({ st with pos := some q }, [.invalidPositionCommand ms])

theorem applyMoves_eq (ops : EngineOps) : ∀ (l : List Bytes) (st : UciState) (p : Position), st.pos = some p →
    applyMoves ops st l = (playMoves ops p l).map (movesResult st)
  | [], st, p, hp => by
    obtain ⟨_, _, _, _, _⟩ := st
    cases hp
    rfl
  | ms :: rest, st, p, hp => by
    unfold applyMoves playMoves
    cases parseMoveString ops.str.lower ms with
    | none =>
      obtain ⟨_, _, _, _, _⟩ := st
      cases hp
      rfl
    | some mv =>
      simp only [hp]
      cases ops.applyMove p mv with
      | error e => rfl
      | ok p' => exact applyMoves_eq ops rest { st with pos := some p' } p' rfl

theorem playMoves_total {ops : EngineOps} {G : Position → Prop} {Legal : Position → Move → Prop}
    (happly : ∀ p mv, G p → Legal p mv → ∃ p', ops.applyMove p mv = .ok p' ∧ G p') :
    ∀ (l : List Bytes) (p : Position), G p → MovesLegal ops Legal p l → ∃ r, playMoves ops p l = .ok r ∧ G r.1
  | [], p, hg, _ => ⟨_, rfl, hg⟩
  | ms :: rest, p, hg, hl => by
    unfold playMoves
    unfold MovesLegal at hl
    cases hm : parseMoveString ops.str.lower ms with
    | none => exact ⟨_, rfl, hg⟩
    | some mv =>
      rw [hm] at hl
      obtain ⟨p', hap, hg'⟩ := happly p mv hg hl.1
      simp only [hap, ok_bind]
      exact playMoves_total happly rest p' hg' (hl.2 p' hap)

/-- the move strings of the command: what follows the word `moves`, split at blanks; none without that word -/
def listedMoves (ops : EngineOps) (cmd : Bytes) : List Bytes :=
  match indexOf Gen.uMoves_bytes cmd with
  | none => []
  | some i => splitOn 32 (ops.str.trimSpace (cmd.drop (i + Gen.uMoves_bytes.length)))

/-- `doPosition` in closed form, given the answer `r` of the head (`position_spec`) -/
def posRun (ops : EngineOps) (cmd : Bytes) (st : UciState) : Except FenError Position → M (UciState × List UOut)
  | .error e => pure (if indexOf Gen.uMoves_bytes cmd = none then st.clearKillers else st, [.invalidFen e])
  | .ok p => (playMoves ops p (listedMoves ops cmd)).map (movesResult st)

/-- `Pre` on the command behind the word `position`: `Pre … line` unfolds to `PreCmd` at the trimmed rest of `line` -/
def PreCmd (ops : EngineOps) (Legal : Position → Move → Prop) (st : UciState) (cmd : Bytes) : Prop :=
  ∀ st' ms, positionHead ops st cmd = .ok (.moves st' ms) → ∀ p, st'.pos = some p → MovesLegal ops Legal p ms

/-- **a `position` command never panics before its move loop** (the slice bounds come from `strings.Index`); what it
    loads does not depend on the state; without the word `moves` it is the command with the empty move list -/
theorem position_spec (ops : EngineOps) (cmd : Bytes) :
    ∃ part r, positionPart ops cmd = .ok part ∧ Loads ops part r ∧ ∀ st,
      doPosition ops st cmd = posRun ops cmd st r ∧
      ∀ Legal, PreCmd ops Legal st cmd ↔ ∀ p, r = .ok p → MovesLegal ops Legal p (listedMoves ops cmd) := by
  unfold positionPart doPosition PreCmd positionHead posRun listedMoves
  cases hi : indexOf Gen.uMoves_bytes cmd with
  | none =>
    obtain ⟨r, hl, hp⟩ := parsePosition_spec ops cmd
    refine ⟨cmd, r, rfl, hl, fun st => ⟨?_, fun _ => ⟨fun _ _ _ => trivial, fun _ _ _ h => ?_⟩⟩⟩
    · simp only [hp, ok_bind]; cases r <;> rfl
    · simp only [hp, ok_bind] at h; cases h
  | some i =>
    have hb := indexOf_bound _ _ _ hi
    obtain ⟨r, hl, hp⟩ := parsePosition_spec ops (ops.str.trimSpace (cmd.take i))
    refine ⟨_, r, by simp only [sliceTo_total (show i ≤ cmd.length by omega), ok_bind]; rfl, hl, fun st => ?_⟩
    simp only [sliceTo_total (show i ≤ cmd.length by omega), ok_bind, hp, sliceFrom_total hb]
    cases r with
    | error e => exact ⟨rfl, fun _ => ⟨fun _ _ h => (nomatch h), fun _ _ _ h => nomatch h⟩⟩
    | ok p =>
      refine ⟨?_, fun _ => ⟨fun h q hq => by cases hq; exact h _ _ rfl p rfl,
        fun h _ _ e q hq => by cases e; cases hq; exact h p rfl⟩⟩
      show applyMoves ops { st with pos := some p } _ = _
      rw [applyMoves_eq ops _ { st with pos := some p } p rfl]
      dsimp only
      cases playMoves ops p _ with
      | error e => rfl
      | ok x => obtain ⟨q, _ | ms⟩ := x <;> rfl

/-- **the precondition of a line does not depend on the state**: the position a `position` command loads and the
    moves it lists are functions of the line alone -/
theorem Pre.any_state {ops : EngineOps} {Legal : Position → Move → Prop} {st₀ : UciState} {line : Bytes}
    (h : Pre ops Legal st₀ line) (st : UciState) : Pre ops Legal st line := fun hp => by
  obtain ⟨_, r, _, _, hs⟩ := position_spec ops (ops.str.trimSpace (trimPrefix line Gen.uPosition_bytes))
  exact ((hs st).2 Legal).2 (((hs st₀).2 Legal).1 (h hp))

theorem doPosition_total_F {ops : EngineOps} {G : Position → Prop} {Legal : Position → Move → Prop}
    {FenOk : Position → Prop} (ho : OpsTotalF ops G Legal FenOk) (st : UciState) (hst : ∀ p, st.pos = some p → G p)
    (cmd : Bytes) (hpre : PreCmd ops Legal st cmd) (hfen : FenPre ops FenOk cmd) :
    ∃ r, doPosition ops st cmd = .ok r ∧ Keeps G st r.1 := by
  obtain ⟨part, r, hpart, hl, hs⟩ := position_spec ops cmd
  rw [(hs st).1]
  cases r with
  | error e => exact ⟨_, rfl, by dsimp only; split <;> exact hst, by dsimp only; split <;> rfl⟩
  | ok p =>
    -- a position that is loaded is good
    have hG : G p := hl.elim (fun _ e => e ▸ ho.start) (fun fen ha hf => ho.fen fen p hf (hfen part fen p hpart ha hf))
    obtain ⟨x, hx, hgx⟩ := playMoves_total ho.apply _ p hG (((hs st).2 Legal).1 hpre p rfl)
    dsimp only [posRun]
    rw [hx]
    obtain ⟨q, _ | ms⟩ := x <;> exact ⟨_, rfl, fun q' hq => by cases hq; exact hgx, rfl⟩

/-- Whenever a `position` command answers `invalid FEN`, the current position (and everything else except
    the killer table, which the command clears when it has no move list) is what it was before. -/
theorem doPosition_keeps_old {ops : EngineOps} {st st' : UciState} {cmd : Bytes} {out : List UOut} {e : FenError}
    (h : doPosition ops st cmd = .ok (st', out)) (he : UOut.invalidFen e ∈ out) :
    st'.pos = st.pos ∧ st'.logInterval = st.logInterval ∧ st'.searchAllocated = st.searchAllocated ∧ st'.quit = st.quit := by
  obtain ⟨_, r, _, _, hs⟩ := position_spec ops cmd
  rw [(hs st).1] at h
  cases r with
  | error e => cases h; split <;> exact ⟨rfl, rfl, rfl, rfl⟩
  | ok p =>
    -- the move loop does not print `invalid FEN`
    simp only [posRun, map_ok] at h
    obtain ⟨⟨q, _ | ms⟩, _, h⟩ := h <;> cases h
    · cases he
    · cases he with
      | tail _ h' => cases h'

/-- `position <rejected fen> moves …`: the move list is NOT applied to the old position -/
theorem doPosition_rejected_moves {ops : EngineOps} {st : UciState} {cmd : Bytes} {i : Nat} {e : FenError}
    (hi : indexOf Gen.uMoves_bytes cmd = some i)
    (hs : hasPrefix (ops.str.trimSpace (cmd.take i)) Gen.uStartpos_bytes = false)
    (hf : hasPrefix (ops.str.trimSpace (cmd.take i)) (Gen.uFen_bytes ++ [32]) = false)
    (hp : parseFen (ops.str.trimSpace (cmd.take i)) = .ok (.error e)) :
    doPosition ops st cmd = .ok (st, [.invalidFen e]) := by
  have hb := indexOf_bound _ _ _ hi
  unfold doPosition positionHead
  simp only [hi, sliceTo_total (show i ≤ cmd.length by omega), ok_bind]
  unfold parsePosition
  simp only [hs, hf, Bool.false_eq_true, if_false, hp, ok_bind, pure_bind']
  rfl

/-- what a `go` command can do to the state, exactly as in `doGo`:
    * no position: a message, the state is untouched;
    * a position, the token scanner `return`s: the search object exists now, nothing else changed;
    * a position, a search is started: the search object exists, the killer table is cleared. -/
inductive GoFrame (st : UciState) : UciState → List UOut → Prop where
  | noPosition (h : st.pos = none) : GoFrame st st [.noPositionGo]
  | rejected (p : Position) (h : st.pos = some p) : GoFrame st { st with searchAllocated := true } []
  | started (p : Position) (h : st.pos = some p) (millis depth : Int) :
      GoFrame st { st with searchAllocated := true, killers := Killers.empty } [.searchStarted millis depth]

theorem GoFrame.pos {st st' : UciState} {out : List UOut} (h : GoFrame st st' out) : st'.pos = st.pos := by
  cases h <;> rfl

theorem GoFrame.logInterval {st st' : UciState} {out : List UOut} (h : GoFrame st st' out) :
    st'.logInterval = st.logInterval := by
  cases h <;> rfl

theorem GoFrame.quit {st st' : UciState} {out : List UOut} (h : GoFrame st st' out) : st'.quit = st.quit := by
  cases h <;> rfl

theorem doGo_spec (st : UciState) (cmd : Bytes) : ∃ st' out, doGo st cmd = .ok (st', out) ∧ GoFrame st st' out := by
  cases hp : st.pos with
  | none => exact ⟨_, _, by unfold doGo; rw [hp]; rfl, .noPosition hp⟩
  | some p =>
    obtain ⟨g, hg⟩ := goParams_total (!whiteTurn p) cmd
    cases g with
    | none => exact ⟨_, _, by unfold doGo; rw [hp]; dsimp only; rw [hg]; rfl, .rejected p hp⟩
    | some g => exact ⟨_, _, by unfold doGo; rw [hp]; dsimp only; rw [hg]; rfl, .started p hp g.millis g.depth⟩

theorem setOption_spec (st : UciState) (cmd : Bytes) : ∃ v, setOption st cmd = .ok { st with logInterval := v } ∧
    (v = st.logInterval ∨ ((Gen.currmoveLogIntervalMin : Int) ≤ v ∧ v ≤ (Gen.currmoveLogIntervalMax : Int))) := by
  have same : ∃ v, (.ok st : M UciState) = .ok { st with logInterval := v } ∧
      (v = st.logInterval ∨ ((Gen.currmoveLogIntervalMin : Int) ≤ v ∧ v ≤ (Gen.currmoveLogIntervalMax : Int))) :=
    ⟨_, rfl, .inl rfl⟩
  -- every branch but one returns the state unchanged (`same`); the one that stores `v` has just tested its range
  unfold setOption
  dsimp only
  split
  · exact same
  · next hlen =>
    have h4 : (splitOn 32 cmd).length = 4 := by simpa using hlen
    generalize splitOn 32 cmd = tokens at h4
    simp only [idx_total "tokens" tokens 0 (by omega), idx_total "tokens" tokens 1 (by omega),
      idx_total "tokens" tokens 2 (by omega), idx_total "tokens" tokens 3 (by omega), ok_bind, Magog.Model.orM]
    have hbad : ∃ b, (if (tokens[0] != Gen.uOptionName_bytes) = true then (pure true : M Bool)
        else pure (tokens[2] != Gen.uOptionValue_bytes)) = .ok b := by
      split <;> exact ⟨_, rfl⟩
    obtain ⟨b, hb⟩ := hbad
    simp only [hb, ok_bind]
    split
    · exact same
    split
    · split
      · exact same
      · next v _ =>
        split
        · next hv =>
          simp only [Bool.and_eq_true, decide_eq_true_eq, ge_iff_le] at hv
          exact ⟨v, rfl, .inr hv⟩
        · exact same
    · exact same

/-- `doPerft` leaves the state alone; the only thing that can panic in it is the perft operation, which is run
    on the current position with a depth inside `0 < d < plyBufferCapacity` -/
theorem doPerft_cases (tactical : Bool) (ops : EngineOps) (st : UciState) (arg : Bytes) :
    (∃ out, doPerft tactical ops st arg = .ok (st, out)) ∨
    ∃ p d, st.pos = some p ∧ 0 < d ∧ d < Gen.plyBufferCapacity ∧
      doPerft tactical ops st arg =
        (if tactical then ops.tperftDivOp p d else ops.perftDivOp p d) >>= fun es => pure (st, [.perftDone tactical es]) := by
  unfold doPerft
  split
  · exact .inl ⟨_, rfl⟩
  · next d _ =>
    split
    · exact .inl ⟨_, rfl⟩
    · next hd =>
      simp only [Bool.or_eq_true, decide_eq_true_eq, not_or, ge_iff_le] at hd
      cases hp : st.pos with
      | none => exact .inl ⟨_, rfl⟩
      | some p => exact .inr ⟨p, d.toNat, rfl, by omega, by omega, rfl⟩

/-- the branches of `ParseInputLine` -/
inductive Cmd where
  | isready | eval | quit | position | uci | go | stop | setoption | tostr | perft (tactical : Bool) | help | other

/-- the tests of `ParseInputLine`, in its order -/
def cmdOf (line : Bytes) : Cmd :=
  if line == Gen.uIsReady_bytes then .isready
  else if line == kwEval then .eval
  else if line == kwQuit then .quit
  else if hasPrefix line Gen.uPosition_bytes then .position
  else if line == Gen.uUci_bytes then .uci
  else if hasPrefix line Gen.uGo_bytes then .go
  else if line == kwStop then .stop
  else if hasPrefix line Gen.uOptionSet_bytes then .setoption
  else if line == kwTostr then .tostr
  else if hasPrefix line kwPerft then .perft false
  else if hasPrefix line kwTperft then .perft true
  else if line == kwHelp then .help
  else .other

/-- the branch bodies of `ParseInputLine` -/
def runCmd (ops : EngineOps) (st : UciState) (line : Bytes) : Cmd → M (UciState × List UOut)
  | .isready => pure ({ st with searchAllocated := true }, [.readyok])
  | .eval =>
    match st.pos with
    | none => pure (st, [.noPositionEval])
    | some p => do
      let v ← ops.evalOp p
      pure (st, [.evalValue v])
  | .quit => pure ({ st with quit := true }, [])
  | .position => doPosition ops st (ops.str.trimSpace (trimPrefix line Gen.uPosition_bytes))
  | .uci => pure (st, [.uciInfo])
  | .go => doGo st (ops.str.trimSpace (trimPrefix line Gen.uGo_bytes))
  | .stop => pure (st, if st.searchAllocated then [.stopRequested] else [])
  | .setoption => do
    let st' ← setOption st (ops.str.trimSpace (trimPrefix line Gen.uOptionSet_bytes))
    pure (st', [])
  | .tostr =>
    match st.pos with
    | none => pure (st, [.nilText])
    | some p =>
      match ops.tostrOp p with
      | .ok s => pure (st, [.positionText s])
      | .error _ => pure (st, [.fmtPanic])
  | .perft tactical =>
    doPerft tactical ops st (ops.str.trimSpace (trimPrefix line (if tactical then kwTperft else kwPerft)))
  | .help => pure (st, [.help])
  | .other => pure (st, [])

theorem uciStep_eq (ops : EngineOps) (st : UciState) (line : Bytes) :
    uciStep ops st line = runCmd ops st line (cmdOf line) := by
  unfold uciStep cmdOf
  simp only [apply_ite (runCmd ops st line)]
  rfl

theorem not_beq_of_prefix {pre line kw : Bytes} (h : hasPrefix line pre = true) (hk : hasPrefix kw pre = false) :
    ¬ (line == kw) = true := by
  intro e
  rw [eq_of_beq e, hk] at h
  cases h

theorem cmdOf_position {line : Bytes} : cmdOf line = .position ↔ hasPrefix line Gen.uPosition_bytes = true := by
  unfold cmdOf
  by_cases h : hasPrefix line Gen.uPosition_bytes = true
  · rw [if_neg (not_beq_of_prefix h (by decide)), if_neg (not_beq_of_prefix h (by decide)),
      if_neg (not_beq_of_prefix h (by decide)), if_pos h]
    exact ⟨fun _ => h, fun _ => rfl⟩
  · refine ⟨fun hc => ?_, fun h' => absurd h' h⟩
    simp only [apply_ite (· = Cmd.position), reduceCtorEq, if_neg h, ite_self] at hc

theorem cmdOf_go {line : Bytes} (h : hasPrefix line Gen.uGo_bytes = true) : cmdOf line = .go := by
  have hnp : ¬ hasPrefix line Gen.uPosition_bytes = true := by
    intro hp
    unfold hasPrefix at hp h
    match line, hp, h with
    | c :: _, hp, h =>
      simp only [Gen.uPosition_bytes, Gen.uGo_bytes, List.isPrefixOf, Bool.and_eq_true, beq_iff_eq] at hp h
      omega
  unfold cmdOf
  rw [if_neg (not_beq_of_prefix h (by decide)), if_neg (not_beq_of_prefix h (by decide)),
    if_neg (not_beq_of_prefix h (by decide)), if_neg hnp, if_neg (not_beq_of_prefix h (by decide)), if_pos h]

theorem uciStep_position {ops : EngineOps} {st : UciState} {line : Bytes}
    (h : hasPrefix line Gen.uPosition_bytes = true) :
    uciStep ops st line = doPosition ops st (ops.str.trimSpace (trimPrefix line Gen.uPosition_bytes)) := by
  rw [uciStep_eq, cmdOf_position.2 h]
  rfl

theorem uciStep_go {ops : EngineOps} {st : UciState} {line : Bytes} (hgo : hasPrefix line Gen.uGo_bytes = true) :
    uciStep ops st line = doGo st (ops.str.trimSpace (trimPrefix line Gen.uGo_bytes)) := by
  rw [uciStep_eq, cmdOf_go hgo]
  rfl

theorem uciStep_total_F {ops : EngineOps} {G : Position → Prop} {Legal : Position → Move → Prop}
    {FenOk : Position → Prop} (ho : OpsTotalF ops G Legal FenOk) {st : UciState} (hst : StateOk G st) (line : Bytes)
    (hpre : PreF ops Legal FenOk st line) :
    ∃ st' out, uciStep ops st line = .ok (st', out) ∧ StateOk G st' := by
  have same : ∀ out, ∃ st' out', (.ok (st, out) : M (UciState × List UOut)) = .ok (st', out') ∧ StateOk G st' :=
    fun out => ⟨st, out, rfl, hst⟩
  have perft : ∀ t arg, ∃ st' out, doPerft t ops st arg = .ok (st', out) ∧ StateOk G st' := by
    intro t arg
    rcases doPerft_cases t ops st arg with ⟨out, h⟩ | ⟨p, d, hp, h0, hd, h⟩
    · exact ⟨_, _, h, hst⟩
    · obtain ⟨es, hes⟩ : ∃ es, (if t then ops.tperftDivOp p d else ops.perftDivOp p d) = .ok es := by
        cases t
        · exact ho.perft p d (hst.1 p hp) h0 hd
        · exact ho.tperft p d (hst.1 p hp) h0 hd
      rw [h, hes]
      exact same _
  rw [uciStep_eq]
  cases hc : cmdOf line with
  | isready => exact ⟨_, _, rfl, hst.1, hst.2⟩
  | quit => exact ⟨_, _, rfl, hst.1, hst.2⟩
  | uci => exact same _
  | stop => exact same _
  | help => exact same _
  | other => exact same _
  | eval =>
    unfold runCmd
    cases hp : st.pos with
    | none => exact same _
    | some p =>
      obtain ⟨v, hv⟩ := ho.eval p (hst.1 p hp)
      simp only [hv, ok_bind]
      exact same _
  | tostr =>
    unfold runCmd
    cases hp : st.pos with
    | none => exact same _
    | some p =>
      dsimp only
      cases ops.tostrOp p <;> exact same _
  | position =>
    have hp := cmdOf_position.1 hc
    obtain ⟨r, hr, hk⟩ := doPosition_total_F ho st hst.1 _ (hpre.1 hp) (hpre.2 hp)
    exact ⟨r.1, r.2, hr, hk.stateOk hst⟩
  | go =>
    obtain ⟨st', out, h, hf⟩ := doGo_spec st (ops.str.trimSpace (trimPrefix line Gen.uGo_bytes))
    exact ⟨st', out, h, Keeps.stateOk hst ⟨fun p hp => hst.1 p (hf.pos ▸ hp), hf.logInterval⟩⟩
  | setoption =>
    obtain ⟨v, h, hv⟩ := setOption_spec st (ops.str.trimSpace (trimPrefix line Gen.uOptionSet_bytes))
    refine ⟨{ st with logInterval := v }, [], by unfold runCmd; rw [h]; rfl, hst.1, ?_⟩
    rcases hv with rfl | hv
    · exact hst.2
    · simp only [Gen.currmoveLogIntervalMin, Gen.currmoveLogIntervalMax] at hv ⊢
      exact ⟨by omega, hv⟩
  | perft t => exact perft t _

theorem uciRun_total_F {ops : EngineOps} {G : Position → Prop} {Legal : Position → Move → Prop}
    {FenOk : Position → Prop} (ho : OpsTotalF ops G Legal FenOk) (lines : List Bytes) :
    ∀ st : UciState, StateOk G st → SessionPreF ops Legal FenOk st lines →
      ∃ st' outs, uciRun ops st lines = .ok (st', outs) ∧ StateOk G st' ∧ outs.length = lines.length := by
  induction lines with
  | nil => intro st hst _; exact ⟨st, [], rfl, hst, rfl⟩
  | cons l ls ih =>
    intro st hst hpre
    obtain ⟨hp, hrest⟩ := hpre
    obtain ⟨st1, out, h1, hst1⟩ := uciStep_total_F ho hst l hp
    obtain ⟨st2, outs, h2, hst2, hlen⟩ := ih st1 hst1 (hrest st1 out h1)
    unfold uciRun
    simp only [h1, h2, ok_bind]
    exact ⟨st2, out :: outs, rfl, hst2, by simp [hlen]⟩

theorem uciStep_total {ops : EngineOps} {G : Position → Prop} {Legal : Position → Move → Prop}
    (ho : OpsTotal ops G Legal) {st : UciState} (hst : StateOk G st) {line : Bytes} (hpre : Pre ops Legal st line) :
    ∃ st' out, uciStep ops st line = .ok (st', out) ∧ StateOk G st' :=
  uciStep_total_F (FenOk := fun _ => True) (opsTotalF_of_opsTotal ho) hst line (preF_true_iff.2 hpre)

theorem uciRun_total {ops : EngineOps} {G : Position → Prop} {Legal : Position → Move → Prop}
    (ho : OpsTotal ops G Legal) (lines : List Bytes) (st : UciState) (hst : StateOk G st)
    (hpre : SessionPre ops Legal st lines) :
    ∃ st' outs, uciRun ops st lines = .ok (st', outs) ∧ StateOk G st' ∧ outs.length = lines.length :=
  uciRun_total_F (FenOk := fun _ => True) (opsTotalF_of_opsTotal ho) lines st hst
    ((sessionPreF_true_iff lines st).2 hpre)

end Magog.UciTotal
