import Magog.Lemmas.Count

/-! The four hand-copied move loops (`genPseudo`, `genPseudoTactical`, `countMoves`, `countTacticalMoves`) as ONE
    traversal `walk E p`: pawns, the `switch piece` with knight steps and slider rays, king steps, castling. An
    `Emitter` says what a loop does at a candidate site and how it combines results; the four loops are `walk` at
    four emitters by equations without hypotheses. A property of a whole run is lifted from the sites: `Resp.walk`
    for a relation between two runs (`Rel2 R`: successful results are related; `RelT T R`: moreover, under the side
    condition `T`, success of the first run transfers to the second); the totality rule `walk_total` is in `TotalCount`. -/

namespace Magog.Count
open Magog Magog.Model

/-- one target square of a knight or king loop: the eight bodies (`knightGen`, `kingGen`, their tactical versions
    and the four counters) unfold to this with different tests and emissions -/
def stepBody {β} (B : Array Nat) (test : Nat → M Bool) (emit : M β) (zero : β) (to : Nat) : M β := do
  let ok ← andM (isValid to) (do let x ← bget B to; test x)
  if ok then emit else pure zero

theorem stepBody_ok {β} {B : Array Nat} {test : Nat → M Bool} {emit : M β} {zero : β} {to : Nat} {r : β} :
    stepBody B test emit zero to = .ok r ↔
      (isValid to = false ∧ r = zero) ∨ ∃ x, isValid to = true ∧ B[to]? = some x ∧
        ((test x = .ok false ∧ r = zero) ∨ (test x = .ok true ∧ emit = .ok r)) := by
  unfold stepBody
  cases isValid to
  · simp only [andM_false, ok_bind, Bool.false_eq_true, if_false, pure_eq_ok, Except.ok.injEq, true_and, false_and,
      exists_false, or_false, eq_comm]
  · simp only [andM_true, bind_ok, bget_ok_iff, Bool.true_eq_false, false_and, false_or, true_and]
    constructor
    · rintro ⟨ok, ⟨x, hx, ht⟩, h⟩
      cases ok
      · exact ⟨x, hx, .inl ⟨ht, (Except.ok.inj h).symm⟩⟩
      · exact ⟨x, hx, .inr ⟨ht, h⟩⟩
    · rintro ⟨x, hx, ⟨ht, rfl⟩ | ⟨ht, h⟩⟩
      · exact ⟨false, ⟨x, hx, ht⟩, rfl⟩
      · exact ⟨true, ⟨x, hx, ht⟩, h⟩

theorem stepBody_total {β} {B : Array Nat} {test : Nat → M Bool} {emit : M β} {zero : β} {to : Nat}
    (h : isValid to = true → ∃ x, B[to]? = some x ∧ IsOk (test x) ∧ (test x = .ok true → IsOk emit)) :
    IsOk (stepBody B test emit zero to) := by
  cases hv : isValid to
  · exact ⟨zero, stepBody_ok.2 (.inl ⟨hv, rfl⟩)⟩
  · obtain ⟨x, hx, ⟨b, hb⟩, he⟩ := h hv
    cases b
    · exact ⟨zero, stepBody_ok.2 (.inr ⟨x, hv, hx, .inl ⟨hb, rfl⟩⟩)⟩
    · obtain ⟨r, hr⟩ := he hb
      exact ⟨r, stepBody_ok.2 (.inr ⟨x, hv, hx, .inr ⟨hb, hr⟩⟩)⟩

/-- the `switch piece` shared by the four loops -/
def pieceSwitch {β} (pc frm : Nat) (kn : M β) (sl : List Nat → M β) : M β :=
  if pc == Gen.WKnight || pc == Gen.BKnight then kn
  else if pc == Gen.WBishop || pc == Gen.BBishop then sl bishopDirs
  else if pc == Gen.WRook || pc == Gen.BRook then sl rookDirs
  else if pc == Gen.WQueen || pc == Gen.BQueen then sl kingDirs
  else throw (.explicit s!"Unexpected piece found: {pc} at {frm}")

/-- which branch is taken depends on the cell code only, not on the loop -/
theorem pieceSwitch_cases (pc frm : Nat) :
    (∀ β (kn : M β) sl, pieceSwitch pc frm kn sl = kn) ∨
    (∃ dirs, (dirs = bishopDirs ∨ dirs = rookDirs ∨ dirs = kingDirs) ∧
      ∀ β (kn : M β) sl, pieceSwitch pc frm kn sl = sl dirs) ∨
    (∃ e, ∀ β (kn : M β) sl, pieceSwitch pc frm kn sl = .error e) := by
  unfold pieceSwitch
  by_cases h1 : (pc == Gen.WKnight || pc == Gen.BKnight) = true
  · exact .inl fun _ _ _ => if_pos h1
  · by_cases h2 : (pc == Gen.WBishop || pc == Gen.BBishop) = true
    · exact .inr (.inl ⟨_, .inl rfl, fun _ _ _ => by rw [if_neg h1, if_pos h2]⟩)
    · by_cases h3 : (pc == Gen.WRook || pc == Gen.BRook) = true
      · exact .inr (.inl ⟨_, .inr (.inl rfl), fun _ _ _ => by rw [if_neg h1, if_neg h2, if_pos h3]⟩)
      · by_cases h4 : (pc == Gen.WQueen || pc == Gen.BQueen) = true
        · exact .inr (.inl ⟨_, .inr (.inr rfl), fun _ _ _ => by rw [if_neg h1, if_neg h2, if_neg h3, if_pos h4]⟩)
        · exact .inr (.inr ⟨_, fun _ _ _ => by rw [if_neg h1, if_neg h2, if_neg h3, if_neg h4]; rfl⟩)

/-! ### the castling block of `countMoves`, one side at a time -/

/-- `castle_cnt` (file `CountGen`) states its hypothesis on this body written out (`if flag then … else pure 0`); a
    fact about `castleQCnt` / `castleKCnt` is passed for it and fits by unfolding. -/
def castleQCnt (p : Position) (c : Ctx) : M Nat :=
  if c.qOk then do let ok ← castleQOk p c; pure (b2n ok) else pure 0

def castleKCnt (p : Position) (c : Ctx) : M Nat :=
  if c.kOk then do let ok ← castleKOk p c; pure (b2n ok) else pure 0

theorem countMoves_eq (p : Position) : countMoves p = (do
    let a ← sumM' (pawnCount p p.ctx) p.ctx.cur.pawns
    let b ← sumM' (pieceCount p p.ctx) p.ctx.cur.pieces
    let k ← kingCount p p.ctx
    let q ← castleQCnt p p.ctx
    let ks ← castleKCnt p p.ctx
    pure (a + b + k + q + ks)) := by
  unfold castleQCnt castleKCnt
  simp only [M.ite_bind, bind_assoc, pure_bind]
  rfl

end Magog.Count

namespace Magog.Walk
open Magog Magog.Model Magog.Count

/-- `flatMapM'` and `sumM'` at once -/
def foldMon {α β} (zero : β) (add : β → β → β) (f : α → M β) : List α → M β
  | [] => pure zero
  | x :: xs => do
    let a ← f x
    let b ← foldMon zero add f xs
    pure (add a b)

theorem flatMapM'_eq {α β} (f : α → M (List β)) (l : List α) : flatMapM' f l = foldMon [] (· ++ ·) f l := by
  induction l with
  | nil => rfl
  | cons x xs ih => simp only [flatMapM', foldMon, ih]

theorem sumM'_eq {α} (f : α → M Nat) (l : List α) : sumM' f l = foldMon 0 (· + ·) f l := by
  induction l with
  | nil => rfl
  | cons x xs ih => simp only [sumM', foldMon, ih]

theorem foldMon_total {α β} {zero : β} {add : β → β → β} {f : α → M β} {l : List α} (h : ∀ x ∈ l, IsOk (f x)) :
    IsOk (foldMon zero add f l) := by
  induction l with
  | nil => exact ⟨zero, rfl⟩
  | cons y ys ih =>
    obtain ⟨a, ha⟩ := h y List.mem_cons_self
    obtain ⟨r, hr⟩ := ih fun x hx => h x (List.mem_cons_of_mem _ hx)
    exact ⟨add a r, by simp only [foldMon, ha, hr, ok_bind, pure_eq_ok]⟩

theorem _root_.Magog.Count.sumM'_total {α} {f : α → M Nat} {l : List α} (h : ∀ x ∈ l, IsOk (f x)) :
    IsOk (sumM' f l) :=
  sumM'_eq f l ▸ foldMon_total h

/-- what one of the four loops does at a candidate site, and how it combines -/
structure Emitter (β : Type) where
  zero : β
  add : β → β → β
  /-- payload of the slider's out-of-fuel panic -/
  what : String
  /-- the whole body for one pawn (the four bodies differ in their guards: `pawnGen_eq` in `CountTac`,
      `pawnCount_eq` in `CountGen`, …) -/
  pawn : Nat → M β
  /-- knight: test on the target cell, emission for `frm to` -/
  knTest : Nat → M Bool
  knEmit : Nat → Nat → M β
  /-- slider: emission on a square `to` holding `x` (no man of the mover), for the piece `pc` on `frm` -/
  here : Nat → Nat → Nat → Nat → M β
  /-- king: test on the cell `x` of the target `to` (may ask `isUnderCheck`), emission for `to` -/
  kgTest : Nat → Nat → M Bool
  kgEmit : Nat → M β
  castle : M β

variable {β γ : Type}

def ray (E : Emitter β) (B : Array Nat) (c : Ctx) (frm pc dir : Nat) : Nat → Nat → M β
  | 0, _ => throw (.hang E.what)
  | fuel + 1, to =>
    if !isValid to then pure E.zero else do
      let x ← bget B to
      if x &&& c.curBit != 0 then pure E.zero else do
        let v ← E.here frm pc to x
        if x &&& c.enBit != 0 then pure v else do
          let rest ← ray E B c frm pc dir fuel (addb to dir)
          pure (E.add v rest)

def piece (E : Emitter β) (p : Position) (c : Ctx) (frm : Nat) : M β := do
  let pc ← bget p.board frm
  pieceSwitch pc frm
    (foldMon E.zero E.add (fun d => stepBody p.board E.knTest (E.knEmit frm (addb frm d)) E.zero (addb frm d))
      knightDirs)
    (fun dirs => foldMon E.zero E.add (fun d => ray E p.board c frm pc d 8 (addb frm d)) dirs)

def king (E : Emitter β) (p : Position) (c : Ctx) : M β :=
  foldMon E.zero E.add (fun d => stepBody p.board (E.kgTest (addb c.cur.king d)) (E.kgEmit (addb c.cur.king d))
    E.zero (addb c.cur.king d)) kingDirs

def walk (E : Emitter β) (p : Position) : M β := do
  let c := p.ctx
  let a ← foldMon E.zero E.add E.pawn c.cur.pawns
  let b ← foldMon E.zero E.add (piece E p c) c.cur.pieces
  let k ← king E p c
  let cs ← E.castle
  pure (E.add (E.add (E.add a b) k) cs)

/-- Asymmetric: a failing `x` is related to every `y`. If `x` succeeds with `a`, every result of `y` is `R`-related to
    `a`, and under `T` success transfers from `x` to `y` (not back). -/
def RelT (T : Prop) (R : β → γ → Prop) (x : M β) (y : M γ) : Prop :=
  ∀ a, x = .ok a → (T → ∃ b, y = .ok b) ∧ ∀ b, y = .ok b → R a b

/-- `RelT` without the transfer of success: only pairs of successful results are constrained -/
abbrev Rel2 (R : β → γ → Prop) (x : M β) (y : M γ) : Prop := RelT False R x y

theorem Rel2.of {R : β → γ → Prop} {x : M β} {y : M γ} (h : ∀ a b, x = .ok a → y = .ok b → R a b) : Rel2 R x y :=
  fun a ha => ⟨False.elim, fun b => h a b ha⟩

section rules
variable {T : Prop} {R : β → γ → Prop}

theorem RelT.out {x : M β} {y : M γ} {a : β} {b : γ} (h : RelT T R x y) (ha : x = .ok a) (hb : y = .ok b) : R a b :=
  (h a ha).2 b hb

theorem RelT.pure {a : β} {b : γ} (h : R a b) : RelT T R (pure a) (pure b) := by
  intro a' ha
  cases ha
  exact ⟨fun _ => ⟨b, rfl⟩, fun b' hb => by cases hb; exact h⟩

theorem RelT.bind {α α' : Type} {S : α → α' → Prop} {x : M α} {y : M α'} {f : α → M β} {g : α' → M γ}
    (hx : RelT T S x y) (hf : ∀ a b, S a b → RelT T R (f a) (g b)) : RelT T R (x >>= f) (y >>= g) := by
  intro c hc
  obtain ⟨a, hxa, hc⟩ := bind_ok.1 hc
  obtain ⟨hx1, hx2⟩ := hx a hxa
  refine ⟨fun hT => ?_, fun d hd => ?_⟩
  · obtain ⟨b, hb⟩ := hx1 hT
    obtain ⟨d, hd⟩ := (hf a b (hx2 b hb) c hc).1 hT
    exact ⟨d, bind_ok.2 ⟨b, hb, hd⟩⟩
  · obtain ⟨b, hyb, hd⟩ := bind_ok.1 hd
    exact (hf a b (hx2 b hyb) c hc).2 d hd

theorem RelT.bind_same {α : Type} {x : M α} {f : α → M β} {g : α → M γ}
    (hf : ∀ a, x = .ok a → RelT T R (f a) (g a)) : RelT T R (x >>= f) (x >>= g) :=
  RelT.bind (S := fun a b => a = b ∧ x = .ok a)
    (fun a ha => ⟨fun _ => ⟨a, ha⟩, fun _ hb => ⟨Except.ok.inj (ha.symm.trans hb), ha⟩⟩) fun a _ h => h.1 ▸ hf a h.2

theorem RelT.ite {c : Prop} [Decidable c] {x x' : M β} {y y' : M γ} (h1 : c → RelT T R x y)
    (h2 : ¬c → RelT T R x' y') : RelT T R (if c then x else x') (if c then y else y') := by
  split
  · exact h1 ‹_›
  · exact h2 ‹_›

theorem RelT.step {B : Array Nat} {test : Nat → M Bool} {e : M β} {e' : M γ} {z : β} {z' : γ} {to : Nat}
    (h : RelT T R e e') (hz : R z z') : RelT T R (stepBody B test e z to) (stepBody B test e' z' to) :=
  RelT.bind_same fun _ _ => RelT.ite (fun _ => h) fun _ => RelT.pure hz

theorem RelT.diag {P : β → β → Prop} {x : M β} (h : ∀ a, x = .ok a → P a a) : RelT T P x x :=
  fun a ha => ⟨fun _ => ⟨a, ha⟩, fun _ hb => Except.ok.inj (ha.symm.trans hb) ▸ h a ha⟩

end rules

/-- `R` respects the units and the combining operations of the two emitters: what lifts a relation between the sites
    of two walks to the two runs (`Resp.fold`, `Resp.ray`, `Resp.walk`) -/
structure Resp (E : Emitter β) (F : Emitter γ) (R : β → γ → Prop) : Prop where
  zero : R E.zero F.zero
  add : ∀ {a b c d}, R a b → R c d → R (E.add a c) (F.add b d)

section rel
variable {E : Emitter β} {F : Emitter γ} {T : Prop} {R : β → γ → Prop}

theorem Resp.fold {α} (hR : Resp E F R) {f : α → M β} {g : α → M γ} {l : List α}
    (h : ∀ x ∈ l, RelT T R (f x) (g x)) : RelT T R (foldMon E.zero E.add f l) (foldMon F.zero F.add g l) := by
  induction l with
  | nil => exact RelT.pure hR.zero
  | cons x xs ih =>
    exact RelT.bind (h x List.mem_cons_self) fun a b hab =>
      RelT.bind (ih fun y hy => h y (List.mem_cons_of_mem _ hy)) fun c d hcd => RelT.pure (hR.add hab hcd)

theorem Resp.ray (hR : Resp E F R) {B : Array Nat} {c : Ctx} {frm pc dir : Nat}
    (h : ∀ to x, B[to]? = some x → x &&& c.curBit = 0 → RelT T R (E.here frm pc to x) (F.here frm pc to x)) :
    ∀ fuel to, RelT T R (ray E B c frm pc dir fuel to) (ray F B c frm pc dir fuel to) := by
  intro fuel
  induction fuel with
  | zero => intro to a ha; cases ha
  | succ fuel ih =>
    intro to
    unfold Walk.ray
    refine RelT.ite (fun _ => RelT.pure hR.zero) fun _ => RelT.bind_same fun x hx => ?_
    refine RelT.ite (fun _ => RelT.pure hR.zero) fun hown =>
      RelT.bind (h to x (bget_ok_iff.1 hx) (by simpa using hown)) fun v w hvw => ?_
    exact RelT.ite (fun _ => RelT.pure hvw) fun _ => RelT.bind (ih _) fun r s hrs => RelT.pure (hR.add hvw hrs)

/-- The site hypotheses are asked for every `pc` (`hhere`) and every `to` (`hkn`): the proof drops
    `bget p.board frm = .ok pc` and `to = addb frm d`, so a relation that needs "`pc` stands on `frm`" cannot be lifted
    by this rule. (The totality rule `Total.walk_total` does hand these facts to its sites.) -/
theorem Resp.walk (hR : Resp E F R) {p : Position}
    (hpawn : ∀ frm ∈ p.ctx.cur.pawns, RelT T R (E.pawn frm) (F.pawn frm))
    (hkn : ∀ frm ∈ p.ctx.cur.pieces, ∀ to, RelT T R (stepBody p.board E.knTest (E.knEmit frm to) E.zero to)
      (stepBody p.board F.knTest (F.knEmit frm to) F.zero to))
    (hhere : ∀ frm ∈ p.ctx.cur.pieces, ∀ pc to x, p.board[to]? = some x → x &&& p.ctx.curBit = 0 →
      RelT T R (E.here frm pc to x) (F.here frm pc to x))
    (hkg : ∀ d ∈ kingDirs, RelT T R
      (stepBody p.board (E.kgTest (addb p.ctx.cur.king d)) (E.kgEmit (addb p.ctx.cur.king d)) E.zero
        (addb p.ctx.cur.king d))
      (stepBody p.board (F.kgTest (addb p.ctx.cur.king d)) (F.kgEmit (addb p.ctx.cur.king d)) F.zero
        (addb p.ctx.cur.king d)))
    (hcastle : RelT T R E.castle F.castle) : RelT T R (Walk.walk E p) (Walk.walk F p) := by
  unfold Walk.walk
  refine RelT.bind (hR.fold hpawn) fun a a' ha => RelT.bind (hR.fold fun frm hfrm => ?_) fun b b' hb =>
    RelT.bind (hR.fold hkg) fun k k' hk => RelT.bind hcastle fun cs cs' hcs =>
      RelT.pure (hR.add (hR.add (hR.add ha hb) hk) hcs)
  refine RelT.bind_same fun pc _ => ?_
  rcases pieceSwitch_cases pc frm with h | ⟨dirs, _, h⟩ | ⟨e, h⟩
  · rw [h, h]; exact hR.fold fun d _ => hkn frm hfrm _
  · rw [h, h]; exact hR.fold fun d _ => hR.ray (hhere frm hfrm pc) 8 _
  · rw [h]; intro a ha; cases ha

end rel

/-- `generatePseudoLegalMoves`. The context `c` is a parameter of the four emitters, as it is of the model's per-piece
    functions (`pieceGen p c kt`, `slideDir p.board c …`): the site equations (`pieceGen_eq`, `slideDir_eq`, …) and
    site lemmas hold for any `c`. The equations of the four loops (`genPseudo_eq`, …) take `c := p.ctx`, which is the
    context `walk` computes. -/
def genE (kt : Killers) (p : Position) (c : Ctx) : Emitter (List RMove) where
  zero := []
  add := (· ++ ·)
  what := "appendSlidingPieceMoves"
  pawn := pawnGen p c kt
  knTest x := pure (x &&& c.curBit == 0)
  knEmit frm to := do
    let x ← bget p.board to
    let a ← bget p.board frm
    let mv ← moveOrCapture kt p.ply frm to (a &&& Colorless) (x &&& Colorless)
    pure [mv]
  here frm pc to x := do
    let mv ← moveOrCapture kt p.ply frm to (pc &&& Colorless) (x &&& Colorless)
    pure [mv]
  kgTest to x := andM (x &&& c.curBit == 0) (do
    let chk ← isUnderCheck p.board c.en to
    pure (!chk))
  kgEmit to := do
    let x ← bget p.board to
    let a ← bget p.board c.cur.king
    let mv ← moveOrCapture kt p.ply c.cur.king to (a &&& Colorless) (x &&& Colorless)
    pure [mv]
  castle := castleGen p c kt

/-- the tactical generator -/
def tacE (p : Position) (c : Ctx) : Emitter (List RMove) where
  zero := []
  add := (· ++ ·)
  what := "appendSlidingPieceCaptures"
  pawn := pawnGenTactical p c
  knTest x := pure (x &&& c.enBit != 0)
  knEmit frm to := do
    let x ← bget p.board to
    let mv ← captureRM ⟨frm, to, 0, InvalidSq⟩ Knight (x &&& Colorless)
    pure [mv]
  here frm _ to x :=
    if x &&& c.enBit != 0 then do
      let a ← bget p.board frm
      let mv ← captureRM ⟨frm, to, 0, InvalidSq⟩ (a &&& Colorless) (x &&& Colorless)
      pure [mv]
    else pure []
  kgTest to x := andM (x &&& c.enBit != 0) (do
    let chk ← isUnderCheck p.board c.en to
    pure (!chk))
  kgEmit to := do
    let x ← bget p.board to
    let mv ← captureRM ⟨c.cur.king, to, 0, InvalidSq⟩ King (x &&& Colorless)
    pure [mv]
  castle := pure []

def legalN (p : Position) (m : Move) : M Nat := do
  let l ← isLegal p m
  pure (b2n l)

/-- `countMoves` -/
def cntE (p : Position) (c : Ctx) : Emitter Nat where
  zero := 0
  add := (· + ·)
  what := "countSlidingPieceMoves"
  pawn := pawnCount p c
  knTest x := pure (x &&& c.curBit == 0)
  knEmit frm to := legalN p ⟨frm, to, 0, InvalidSq⟩
  here frm _ to _ := legalN p ⟨frm, to, 0, InvalidSq⟩
  kgTest _ x := pure (x &&& c.curBit == 0)
  kgEmit to := legalN p ⟨c.cur.king, to, 0, InvalidSq⟩
  castle := do
    let q ← castleQCnt p c
    let ks ← castleKCnt p c
    pure (q + ks)

/-- `countTacticalMoves` -/
def tcntE (p : Position) (c : Ctx) : Emitter Nat where
  zero := 0
  add := (· + ·)
  what := "countSlidingPieceTacticalMoves"
  pawn := pawnCountTactical p c
  knTest x := pure (x &&& c.enBit != 0)
  knEmit frm to := legalN p ⟨frm, to, 0, InvalidSq⟩
  here frm _ to x := if x &&& c.enBit != 0 then legalN p ⟨frm, to, 0, InvalidSq⟩ else pure 0
  kgTest _ x := pure (x &&& c.enBit != 0)
  kgEmit to := legalN p ⟨c.cur.king, to, 0, InvalidSq⟩
  castle := pure 0

/-! The rays, by induction on the fuel. `rw` unfolds one step of each side; then `ih` and the emitter's definition go
    into one `simp only`. For the two tactical loops the model's ray and `ray` differ on an empty square (see
    `slideDirTactical_eq`): the proof first goes under the common tests by congruence and splits on the capture test. -/

theorem slideDir_eq (kt : Killers) (p : Position) (c : Ctx) (frm pc dir : Nat) : ∀ fuel to,
    slideDir p.board c kt p.ply frm (pc &&& Colorless) dir fuel to
      = ray (genE kt p c) p.board c frm pc dir fuel to := by
  intro fuel
  induction fuel with
  | zero => intro to; rfl
  | succ n ih =>
    intro to
    rw [slideDir, ray]
    simp only [ih, genE, bind_assoc, pure_bind]
    rfl

/-- the tactical ray returns the recursive call itself on an empty square, the generic ray `[] ++ rest` -/
theorem slideDirTactical_eq (p : Position) (c : Ctx) (frm pc dir : Nat) : ∀ fuel to,
    slideDirTactical p.board c frm dir fuel to = ray (tacE p c) p.board c frm pc dir fuel to := by
  intro fuel
  induction fuel with
  | zero => intro to; rfl
  | succ n ih =>
    intro to
    rw [slideDirTactical, ray]
    refine ite_congr rfl (fun _ => rfl) fun _ => bind_congr fun x => ite_congr rfl (fun _ => rfl) fun _ => ?_
    cases he : (x &&& c.enBit != 0) <;>
      simp only [ih, tacE, he, Bool.false_eq_true, if_false, if_true, pure_bind, bind_pure, List.nil_append]

theorem slideDirCount_eq (p : Position) (c : Ctx) (frm pc dir : Nat) : ∀ fuel to,
    slideDirCount p c frm dir fuel to = ray (cntE p c) p.board c frm pc dir fuel to := by
  intro fuel
  induction fuel with
  | zero => intro to; rfl
  | succ n ih =>
    intro to
    rw [slideDirCount, ray]
    simp only [ih, cntE, legalN, bind_assoc, pure_bind]

theorem slideDirCountTactical_eq (p : Position) (c : Ctx) (frm pc dir : Nat) : ∀ fuel to,
    slideDirCountTactical p c frm dir fuel to = ray (tcntE p c) p.board c frm pc dir fuel to := by
  intro fuel
  induction fuel with
  | zero => intro to; rfl
  | succ n ih =>
    intro to
    rw [slideDirCountTactical, ray]
    refine ite_congr rfl (fun _ => rfl) fun _ => bind_congr fun x => ite_congr rfl (fun _ => rfl) fun _ => ?_
    cases he : (x &&& c.enBit != 0) <;>
      simp only [ih, tcntE, legalN, he, Bool.false_eq_true, if_false, if_true, pure_bind, bind_pure, Nat.zero_add]

/-- `slideGen` reads `board[frm]` a second time -/
theorem slideGen_eq (kt : Killers) {p : Position} (c : Ctx) {frm pc : Nat} (h : bget p.board frm = .ok pc)
    (dirs : List Nat) : slideGen p c kt frm dirs
      = foldMon [] (· ++ ·) (fun d => ray (genE kt p c) p.board c frm pc d 8 (addb frm d)) dirs := by
  simp only [slideGen, h, ok_bind, flatMapM'_eq, slideDir_eq]

theorem pieceGen_eq (kt : Killers) (p : Position) (c : Ctx) (frm : Nat) :
    pieceGen p c kt frm = piece (genE kt p c) p c frm := by
  unfold pieceGen piece
  cases h : bget p.board frm with
  | error e => rfl
  | ok pc =>
    simp only [ok_bind, slideGen_eq kt c h, knightGen, flatMapM'_eq]
    rfl

theorem pieceGenTactical_eq (p : Position) (c : Ctx) (frm : Nat) :
    pieceGenTactical p c frm = piece (tacE p c) p c frm := by
  unfold pieceGenTactical piece
  refine bind_congr fun pc => ?_
  simp only [knightGenTactical, flatMapM'_eq, slideDirTactical_eq p c frm pc]
  rfl

theorem pieceCount_eq (p : Position) (c : Ctx) (frm : Nat) : pieceCount p c frm = piece (cntE p c) p c frm := by
  unfold pieceCount piece
  refine bind_congr fun pc => ?_
  simp only [knightCount, sumM'_eq, slideDirCount_eq p c frm pc]
  rfl

theorem pieceCountTactical_eq (p : Position) (c : Ctx) (frm : Nat) :
    pieceCountTactical p c frm = piece (tcntE p c) p c frm := by
  unfold pieceCountTactical piece
  refine bind_congr fun pc => ?_
  simp only [knightCountTactical, sumM'_eq, slideDirCountTactical_eq p c frm pc]
  rfl

theorem genPseudo_eq (kt : Killers) (p : Position) : genPseudo kt p = walk (genE kt p p.ctx) p := by
  unfold genPseudo walk king
  simp only [flatMapM'_eq, kingGen, funext (pieceGen_eq kt p p.ctx)]
  rfl

theorem genPseudoTactical_eq (p : Position) : genPseudoTactical p = walk (tacE p p.ctx) p := by
  unfold genPseudoTactical walk king
  simp only [flatMapM'_eq, kingGenTactical, funext (pieceGenTactical_eq p p.ctx), tacE, pure_bind, List.append_nil]
  rfl

theorem countMoves_eq_walk (p : Position) : countMoves p = walk (cntE p p.ctx) p := by
  rw [countMoves_eq]
  unfold walk king
  simp only [sumM'_eq, kingCount, funext (pieceCount_eq p p.ctx), cntE, bind_assoc, pure_bind, Nat.add_assoc]
  rfl

theorem countTacticalMoves_eq (p : Position) : countTacticalMoves p = walk (tcntE p p.ctx) p := by
  unfold countTacticalMoves walk king
  simp only [sumM'_eq, kingCountTactical, funext (pieceCountTactical_eq p p.ctx), tcntE, pure_bind, Nat.add_zero]
  rfl

end Magog.Walk
