import Magog.Lemmas.Count
import Magog.Lemmas.KillerIndep

/-! The move loops run on the start position (all but `countTacticalMoves`) and on `c06Witness` (all four), each
evaluated once; the run of `generateMoves` on the start position is evaluated in `KillerIndep.start_views` and only
read here.

A run of a generator or counter on a full board costs the kernel about thirty legality tests (`makeMove` +
`isUnderCheck`), and nothing is shared between two evaluations. The non-vacuity examples of C01, C05, C06 and
C18 ask about the same few runs again and again; they take them from here. Facts about one run that are read
off the same list (`pathsM … 1`, `tpathsF … 0`) are stated together, so that the kernel meets the run once. -/

namespace Magog.Witness
open Magog Magog.Model Magog.Count

theorem start_countMoves : countMoves startPosition = .ok 20 :=
  okVal_eq_some (by rw [startPosition_eq]; decide +kernel)

/-- the full generator's run is the one `KillerIndep.start_views` evaluates -/
theorem start_generate : okVal ((generateMoves Killers.empty startPosition).map (·.length)) = some 20 ∧
    okVal ((generateTacticalMoves startPosition).map (·.length)) = some 0 := by
  obtain ⟨l, h, hl, -⟩ := Lemmas.KillerIndep.okView_some Lemmas.KillerIndep.start_empty_view
  exact ⟨by rw [h]; exact congrArg some hl, by rw [startPosition_eq]; decide +kernel⟩

theorem c06Witness_countMoves : countMoves c06Witness = .ok 35 :=
  okVal_eq_some (by rw [c06Witness_eq]; decide +kernel)

theorem c06Witness_countTactical : countTacticalMoves c06Witness = .ok 4 :=
  okVal_eq_some (by rw [c06Witness_eq]; decide +kernel)

/-- a5xb6 e.p., Bxf7+, Bxb5, Nxe5 -/
theorem c06Witness_tactical : ∃ ts, generateTacticalMoves c06Witness = .ok ts ∧ ts.map (·.mov) =
    [⟨Gen.A5, Gen.B6, 0, InvalidSq⟩, ⟨Gen.C4, Gen.F7, 0, InvalidSq⟩, ⟨Gen.C4, Gen.B5, 0, InvalidSq⟩,
     ⟨Gen.F3, Gen.E5, 0, InvalidSq⟩] :=
  okVal_map_eq_some (by rw [c06Witness_eq]; decide +kernel)

theorem c06Witness_generate : okVal ((generateMoves Killers.empty c06Witness).map (·.length)) = some 35 ∧
    okVal (pathsM Killers.empty 1 c06Witness) = some 35 ∧ okVal (tpathsF Killers.empty 0 c06Witness) = some 4 := by
  rw [c06Witness_eq]; decide +kernel

end Magog.Witness
