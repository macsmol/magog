import Magog.Model.Defs

/-! Model of engine/position.go (attack detection, MakeMove) and engine/attackLookup.go (lookup). -/

namespace Magog.Model
open Magog

/-- the tables as arrays (constant-time lookup when the model is executed); proofs go through
    `List.getElem?_toArray` to the generated lists -/
def attackTable : Array Nat := Gen.attackTable.toArray
def directionTable : Array Nat := Gen.directionTable.toArray

/-- `moveIndex(from, to)`: int16 arithmetic, no panic by itself -/
@[inline] def moveIndex (frm to : Nat) : Int := (Gen.lastValidSquare : Int) + (to : Int) - (frm : Int)

/-- `checkedBySlidingPiece`: walk from the slider towards `dest`. The Go loop has no bound; it ends at
    `dest`, at a blocker, or by an index panic when the byte walks off the 128-slot array. With a zero
    direction on an empty slot it would spin forever: `hang`. Fuel 8 is enough on the board
    (`Geo.pairOk` walks with fuel 8, `Atk.sliderWalk_eq` carries it to `sliderWalk`). -/
def sliderWalk (board : Array Nat) (dir dest : Nat) : Nat → Nat → M Bool
  | 0, _ => throw (.hang "checkedBySlidingPiece")
  | fuel + 1, sq =>
    if sq == dest then pure true else do
      let c ← bget board sq
      if c != 0 then pure false else sliderWalk board dir dest fuel (addb sq dir)

def pieceAttacks (board : Array Nat) (dest : Nat) (a : Nat) : M Bool := do
  let i := moveIndex a dest
  let pc ← bget board a
  let attacker := pc &&& Colorless
  let t ← tget attackTable "attackTable" i
  if t &&& attacker == 0 then pure false
  else if attacker &&& Knight != 0 then pure true
  else do
    let dir ← tget directionTable "directionTable" i
    sliderWalk board dir dest 8 (addb a dir)

def pawnAttacks (pawnFlag dest : Nat) (a : Nat) : M Bool := do
  let t ← tget attackTable "attackTable" (moveIndex a dest)
  pure (t &&& pawnFlag != 0)

/-- `isUnderCheck(enemyPieces, enemyPawns, enemyKingSq, destSquare)` -/
def isUnderCheck (board : Array Nat) (enemy : Side) (dest : Nat) : M Bool := do
  let kpc ← bget board enemy.king
  let pawnFlag := if kpc &&& BlackBit == 0 then Gen.WPawnAttacks else Gen.BPawnAttacks
  let byPawn ← anyM' (pawnAttacks pawnFlag dest) enemy.pawns
  if byPawn then pure true else do
    let byPiece ← anyM' (pieceAttacks board dest) enemy.pieces
    if byPiece then pure true else do
      let t ← tget attackTable "attackTable" (moveIndex enemy.king dest)
      pure (t &&& Gen.KingAttacks != 0)

def isCurrentKingUnderCheck (p : Position) : M Bool :=
  let w := whiteTurn p
  isUnderCheck p.board (p.side (!w)) (p.side w).king

/-- `killPiece` / `killPawn`: swap-remove of the first entry equal to `sq`; explicit panic if absent -/
def kill (l : List Nat) (sq : Nat) (what : String) : M (List Nat) :=
  match l.idxOf? sq with
  | some i => pure ((l.set i (l.getLastD 0)).dropLast)
  | none => throw (.explicit s!"Didn't find square {sq} on {what}")

/-- overwrite the first entry equal to `a` by `b` (the `for … break` loops of MakeMove / moveRook) -/
def replaceFirst (l : List Nat) (a b : Nat) : List Nat :=
  match l.idxOf? a with
  | some i => l.set i b
  | none => l

/-- `appendPiece` with the fixed array's bound made explicit -/
def appendCap (l : List Nat) (cap : Nat) (sq : Nat) (what : String) : M (List Nat) :=
  if l.length < cap then pure (l ++ [sq]) else throw (.index what l.length)

structure MMState where
  board : Array Nat
  cur : Side
  en : Side
  flags : Nat

/-- first part of MakeMove: the three-way branch on the moving piece -/
def mmMover (board : Array Nat) (flags : Nat) (cur : Side) (m : Move)
    (curColor curRank curK curQ : Nat) : M (Array Nat × Nat × Side) := do
  let fromPiece ← bget board m.frm
  if fromPiece == (Pawn ||| curColor) then
    if m.promo == 0 then
      pure (board, flags, { cur with pawns := replaceFirst cur.pawns m.frm m.to })
    else
      match cur.pawns.idxOf? m.frm with
      | some i => do
        let pawns := (cur.pawns.set i (cur.pawns.getLastD 0)).dropLast
        let pieces ← appendCap cur.pieces pieceCap m.to "pieceList"
        pure (board, flags, { cur with pawns, pieces })
      | none => pure (board, flags, cur)
  else if m.frm == cur.king then
    let flags := clearBits flags (curK ||| curQ)
    let cur := { cur with king := m.to }
    if fileOf m.frm == Gen.E then
      if fileOf m.to == Gen.C then do
        let rf := (Gen.A + curRank) % 256
        let rt := (Gen.D + curRank) % 256
        let pieces := replaceFirst cur.pieces rf rt
        let board ← bset board rf 0
        let board ← bset board rt (Rook ||| curColor)
        pure (board, flags, { cur with pieces })
      else if fileOf m.to == Gen.G then do
        let rf := (Gen.H + curRank) % 256
        let rt := (Gen.F + curRank) % 256
        let pieces := replaceFirst cur.pieces rf rt
        let board ← bset board rf 0
        let board ← bset board rt (Rook ||| curColor)
        pure (board, flags, { cur with pieces })
      else pure (board, flags, cur)
    else pure (board, flags, cur)
  else
    pure (board, flags, { cur with pieces := replaceFirst cur.pieces m.frm m.to })

/-- castling-right clearing by from/to corner squares -/
def mmCorners (flags : Nat) (m : Move) (curRank enRank curK curQ enK enQ : Nat) : Nat :=
  let flags := if fileOf m.frm == Gen.A && rankOf m.frm == curRank then clearBits flags curQ else flags
  let flags := if fileOf m.frm == Gen.H && rankOf m.frm == curRank then clearBits flags curK else flags
  let flags := if fileOf m.to == Gen.A && rankOf m.to == enRank then clearBits flags enQ else flags
  let flags := if fileOf m.to == Gen.H && rankOf m.to == enRank then clearBits flags enK else flags
  flags

/-- capture on the destination square -/
def mmCapture (board : Array Nat) (en : Side) (m : Move) (enColor : Nat) : M Side := do
  let target ← bget board m.to
  if target != 0 then
    if target != (King ||| enColor) then
      if target == (Pawn ||| enColor) then do
        let pawns ← kill en.pawns m.to "enemyPawns"
        pure { en with pawns }
      else do
        let pieces ← kill en.pieces m.to "enemyPieces"
        pure { en with pieces }
    else pure en
  else pure en

/-- board update incl. en-passant removal and promotion -/
def mmBoard (board : Array Nat) (en : Side) (m : Move) (oldEp curColor : Nat) : M (Array Nat × Side) := do
  if m.promo == 0 then do
    let fp ← bget board m.frm
    let board ← bset board m.to fp
    if oldEp == m.to && fp == (Pawn ||| curColor) then do
      let killSq := (fileOf m.to + rankOf m.frm) % 256
      let pawns ← kill en.pawns killSq "enemyPawns(ep)"
      let board ← bset board killSq 0
      let board ← bset board m.frm 0
      pure (board, { en with pawns })
    else do
      let board ← bset board m.frm 0
      pure (board, en)
  else do
    let board ← bset board m.to (m.promo ||| curColor)
    let board ← bset board m.frm 0
    pure (board, en)

/-- `Position.MakeMove`: returns the new position and whether the mover's king is safe -/
def makeMove (p : Position) (m : Move) : M (Position × Bool) := do
  let white := whiteTurn p
  let curColor := if white then WhiteBit else BlackBit
  let enColor := if white then BlackBit else WhiteBit
  let curRank := if white then Gen.Rank1 else Gen.Rank8
  let enRank := if white then Gen.Rank8 else Gen.Rank1
  let curK := if white then FWK else FBK
  let curQ := if white then FWQ else FBQ
  let enK := if white then FBK else FWK
  let enQ := if white then FBQ else FWQ
  let (board, flags, cur) ← mmMover p.board p.flags (p.side white) m curColor curRank curK curQ
  let flags := mmCorners flags m curRank enRank curK curQ enK enQ
  let en ← mmCapture board (p.side (!white)) m enColor
  let (board, en) ← mmBoard board en m p.ep curColor
  let flags := flags ^^^ FWhiteTurn
  let p' : Position :=
    if white then
      { board, whitePieces := cur.pieces, whitePawns := cur.pawns, whiteKing := cur.king,
        blackPieces := en.pieces, blackPawns := en.pawns, blackKing := en.king,
        flags, ep := m.ep, ply := wrap16 (p.ply + 1) }
    else
      { board, blackPieces := cur.pieces, blackPawns := cur.pawns, blackKing := cur.king,
        whitePieces := en.pieces, whitePawns := en.pawns, whiteKing := en.king,
        flags, ep := m.ep, ply := wrap16 (p.ply + 1) }
  let chk ← isUnderCheck board en cur.king
  pure (p', !chk)

/-- `isLegal(pos, move)`: MakeMove on a copy -/
def isLegal (p : Position) (m : Move) : M Bool := do
  let r ← makeMove p m
  pure r.2

end Magog.Model
