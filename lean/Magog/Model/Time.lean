import Magog.Model.Notation

/-! Model of the time-allotment arithmetic and of `doGo`'s token parsing (uci.go), and of score
    formatting. Go `int` is 64-bit; `Int.tdiv` is Go's truncating division; division by zero panics. -/

namespace Magog.Model
open Magog

def wrap64 (x : Int) : Int := (x + 9223372036854775808) % 18446744073709551616 - 9223372036854775808

/-- Go integer division (panics on zero divisor) -/
def goDiv (a b : Int) : M Int := if b == 0 then throw .divZero else pure (wrap64 (Int.tdiv a b))

/-- `calcEndtime`: milliseconds allotted to this move -/
def allot (blackToMove : Bool) (blackLeft blackInc whiteLeft whiteInc movesToGo : Int) : M Int := do
  let left := if blackToMove then blackLeft else whiteLeft
  let inc := if blackToMove then blackInc else whiteInc
  let forMove ← if left > inc then do
                  let q ← goDiv left movesToGo
                  pure (min (wrap64 (q + inc)) left)
                else pure left
  let forMove := wrap64 (forMove - Gen.antiflagMillis)
  pure (max forMove 1)

/-- what `doGo` decides before spawning the search -/
structure GoParams where
  /-- thinking time in milliseconds (deadline − start) -/
  millis : Int
  depth : Int
  deriving Repr, DecidableEq

structure GoAcc where
  moveTime : Int := -1
  blackLeft : Int := 100000000000
  whiteLeft : Int := 100000000000
  blackInc : Int := 0
  whiteInc : Int := 0
  movesToGo : Int := Gen.ExpectedFullMovesToBePlayed
  depth : Int := Gen.MaxSearchDepth

inductive GoScan where
  | done (a : GoAcc)        -- loop finished or `break out`
  | reject                  -- `return` without starting a search

def kwMoveTime : Bytes := Gen.uMoveTime_bytes
def kwInfinite : Bytes := Gen.uInfinite_bytes
def kwWtime : Bytes := Gen.uWtime_bytes
def kwBtime : Bytes := Gen.uBtime_bytes
def kwWinc : Bytes := Gen.uWinc_bytes
def kwBinc : Bytes := Gen.uBinc_bytes
def kwMovesToGo : Bytes := Gen.uMovesToGo_bytes
def kwDepth : Bytes := Gen.uDepth_bytes

/-- the `for i, token := range tokens` loop: the value of a keyword is `tokens[i+1]` when there is one
    (`if i+1 < len(tokens)`), the empty string otherwise -/
def goScan : List Bytes → GoAcc → M GoScan
  | [], a => pure (.done a)
  | tok :: rest, a =>
    -- the value following a keyword; empty (not a number) when the keyword comes last
    let arg : M Bytes := match rest with
      | nxt :: _ => pure nxt
      | [] => pure []
    if tok == kwMoveTime then do
      let s ← arg
      match atoi s with
      | none => pure .reject
      | some v => pure (.done { a with moveTime := v })
    else if tok == kwInfinite then pure (.done a)
    else if tok == kwWtime then do
      let s ← arg
      match atoi s with | none => pure .reject | some v => goScan rest { a with whiteLeft := v }
    else if tok == kwBtime then do
      let s ← arg
      match atoi s with | none => pure .reject | some v => goScan rest { a with blackLeft := v }
    else if tok == kwWinc then do
      let s ← arg
      match atoi s with | none => pure .reject | some v => goScan rest { a with whiteInc := v }
    else if tok == kwBinc then do
      let s ← arg
      match atoi s with | none => pure .reject | some v => goScan rest { a with blackInc := v }
    else if tok == kwMovesToGo then do
      let s ← arg
      match atoi s with
      | none => pure .reject
      | some v => if v < 1 then pure .reject else goScan rest { a with movesToGo := v }
    else if tok == kwDepth then do
      let s ← arg
      match atoi s with
      | none => pure .reject
      | some v => if v < 1 then pure .reject else goScan rest { a with depth := min v Gen.MaxSearchDepth }
    else goScan rest a

/-- `doGo` up to the point where the search goroutine is spawned; `none` = returned without searching.
    `time.Duration(ms * 1e6)` is an int64 multiplication: the millisecond value reported is the wrapped
    nanosecond count divided by 10^6 (truncating), which is what `end.Sub(start).Milliseconds()` gives. -/
def goFinish (blackToMove : Bool) (a : GoAcc) : M GoParams :=
  if a.moveTime != -1 then
    let ms := wrap64 (a.moveTime - Gen.antiflagMillis)
    pure ⟨Int.tdiv (wrap64 (ms * 1000000)) 1000000, a.depth⟩
  else do
    let ms ← allot blackToMove a.blackLeft a.blackInc a.whiteLeft a.whiteInc a.movesToGo
    pure ⟨Int.tdiv (wrap64 (1000000 * ms)) 1000000, a.depth⟩

def goTokens (blackToMove : Bool) (tokens : List Bytes) : M (Option GoParams) := do
  match (← goScan tokens {}) with
  | .reject => pure none
  | .done a => do
    let g ← goFinish blackToMove a
    pure (some g)

def goParams (blackToMove : Bool) (goCommand : Bytes) : M (Option GoParams) :=
  goTokens blackToMove (splitOn 32 goCommand)

/-! score formatting (uci.go) -/

def closeToMate (score : Int) : Bool := score.natAbs > Gen.ScoreCloseToMate

def fullMovesToMate (score : Int) : Int :=
  let sign : Int := if score < 0 then -1 else 1
  let s := if score < 0 then -score else score
  let plies := -Gen.LostScore - s
  Int.tdiv (sign * (plies + 1)) 2

def pliesToMate (score : Int) : Int := -Gen.LostScore - score.natAbs

def natToBytes (n : Nat) : Bytes := (toString n).toUTF8.toList.map (·.toNat)
def intToBytes (i : Int) : Bytes := (toString i).toUTF8.toList.map (·.toNat)

inductive ScoreText where
  | mate (n : Int)
  | cp (n : Int)
  deriving Repr, DecidableEq

def formatScore (score : Int) : ScoreText :=
  if closeToMate score then .mate (fullMovesToMate score) else .cp score

end Magog.Model
