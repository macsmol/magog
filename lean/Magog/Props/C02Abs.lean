import Magog.Lemmas.MakeMoveAbsWitness

/-! Property C02, second part — "the engine's position is exactly the position the rules of chess
    define": the model's `makeMove` commutes with the abstraction `abs` to the specification,
    `abs p' = Spec.apply (abs p) (absMove m)`, for every move `m` the engine's generator emits
    (`MMAbs.Generated`) on a well-formed position (`Inv`).

    Piece placement (all 64 squares), side to move and en-passant target hold unconditionally.
    The four castling rights need one more hypothesis: the move does not capture the enemy king
    (`m.to ≠ (p.side (!whiteTurn p)).king`). FINDING: without it the equation is false on a well-formed
    position (`makeMove_abs_kingCapture_counterexample`): MakeMove clears an enemy castling right only
    when the destination is that side's a- or h-file corner, so a pseudo-legal capture of a king
    standing on its home square with a right still set keeps the right, while the rules (`touch` on
    e1/e8) remove it. Such a capture exists only when the side not to move is in check, which never
    happens in a position reached by legal play; `Inv` alone does not exclude it.

    How the model's flag clearing and the rules' `touch` coincide otherwise: a set flag implies king
    and rook at home (`Inv.castling`); the origin square holds a man of the mover, the destination
    does not; so `touch` on the mover's king/rook home square can only be the origin (= the model's
    "king moves" / "from own corner" tests), and `touch` on the enemy's king/rook home square can only
    be the destination, where only the rook corner is capturable without capturing the king
    (= the model's "to enemy corner" test). With the flag unset both sides are `false`. -/

namespace Magog.Props.C02Abs
open Magog Magog.Model Magog.MMAbs

variable {p : Position} {m : Move} {p' : Position} {b : Bool}

/-- Piece placement on all 64 squares: moved man, captured man gone, en-passant victim removed, rook
    relocated on castling, promotion piece placed with the mover's colour. -/
theorem makeMove_abs_board (hi : Inv p) (hg : Generated p m) (h : makeMove p m = .ok (p', b)) :
    (abs p').board = (Spec.apply (abs p) (absMove m)).board := by
  have hcase := generated_cases hi hg
  obtain ⟨fp, tp, hc⟩ := gen_common hi hcase
  exact abs_board_eq hi hcase hc h

example : (abs (after startPosition e2e4)).board
    = (Spec.apply (abs startPosition) (absMove e2e4)).board :=
  makeMove_abs_board inv_startPosition generated_e2e4 makeMove_e2e4

/-- The side to move flips. -/
theorem makeMove_abs_turn (hi : Inv p) (hg : Generated p m) (h : makeMove p m = .ok (p', b)) :
    (abs p').turn = (Spec.apply (abs p) (absMove m)).turn := by
  obtain ⟨fp, tp, hc⟩ := gen_common hi (generated_cases hi hg)
  exact abs_turn_flip hc h

example : (abs (after startPosition e2e4)).turn = .black ∧
    (Spec.apply (abs startPosition) (absMove e2e4)).turn = .black := by rw [startPosition_eq]; decide +kernel

/-- The en-passant target: the skipped square after a double push, none otherwise. -/
theorem makeMove_abs_ep (hi : Inv p) (hg : Generated p m) (h : makeMove p m = .ok (p', b)) :
    (abs p').ep = (Spec.apply (abs p) (absMove m)).ep := by
  have hcase := generated_cases hi hg
  obtain ⟨fp, tp, hc⟩ := gen_common hi hcase
  exact abs_ep_eq hi hcase hc h

example : (abs (after startPosition e2e4)).ep = some 20 ∧
    (Spec.apply (abs startPosition) (absMove e2e4)).ep = some 20 := by rw [startPosition_eq]; decide +kernel

/-- The four castling rights, for a move that does not capture the enemy king. -/
theorem makeMove_abs_castling (hi : Inv p) (hg : Generated p m)
    (hk : m.to ≠ (p.side (!whiteTurn p)).king) (h : makeMove p m = .ok (p', b)) :
    (abs p').wk = (Spec.apply (abs p) (absMove m)).wk ∧ (abs p').wq = (Spec.apply (abs p) (absMove m)).wq ∧
    (abs p').bk = (Spec.apply (abs p) (absMove m)).bk ∧ (abs p').bq = (Spec.apply (abs p) (absMove m)).bq := by
  obtain ⟨fp, tp, hc⟩ := gen_common hi (generated_cases hi hg)
  exact abs_castling_eq hi hc h hk

example : e2e4.to ≠ (startPosition.side (!whiteTurn startPosition)).king := by rw [startPosition_eq]; decide +kernel

/-- The mover's own two castling rights, unconditionally (`kFlagOf`/`qFlagOf (whiteTurn p)` are the
    mover's king-side / queen-side flag bits, i.e. the fields `wk, wq` of `abs` when White moves and
    `bk, bq` when Black moves; `touch` is the specification's test on the 0..63 square). -/
theorem makeMove_abs_castling_mover (hi : Inv p) (hg : Generated p m) (h : makeMove p m = .ok (p', b)) :
    (p'.flags &&& kFlagOf (whiteTurn p) != 0) =
      ((p.flags &&& kFlagOf (whiteTurn p) != 0) && !touch m (to64 (kingHome88 (whiteTurn p))) &&
        !touch m (to64 (rookK88 (whiteTurn p)))) ∧
    (p'.flags &&& qFlagOf (whiteTurn p) != 0) =
      ((p.flags &&& qFlagOf (whiteTurn p) != 0) && !touch m (to64 (kingHome88 (whiteTurn p))) &&
        !touch m (to64 (rookQ88 (whiteTurn p)))) := by
  obtain ⟨fp, tp, hc⟩ := gen_common hi (generated_cases hi hg)
  exact ⟨flag_cur_K hi hc h, flag_cur_Q hi hc h⟩

/-- What holds with no hypothesis beyond `Inv` and `Generated` (the full statement
    `abs p' = Spec.apply (abs p) (absMove m)` fails only in the two castling rights of the side *not*
    to move, and only when the move captures that side's king — see
    `makeMove_abs_kingCapture_counterexample`): piece placement, side to move, en-passant target and the
    mover's own two castling rights. -/
theorem makeMove_abs_partial (hi : Inv p) (hg : Generated p m) (h : makeMove p m = .ok (p', b)) :
    (abs p').board = (Spec.apply (abs p) (absMove m)).board ∧
    (abs p').turn = (Spec.apply (abs p) (absMove m)).turn ∧
    (abs p').ep = (Spec.apply (abs p) (absMove m)).ep ∧
    (if whiteTurn p then
      (abs p').wk = (Spec.apply (abs p) (absMove m)).wk ∧ (abs p').wq = (Spec.apply (abs p) (absMove m)).wq
    else
      (abs p').bk = (Spec.apply (abs p) (absMove m)).bk ∧ (abs p').bq = (Spec.apply (abs p) (absMove m)).bq) := by
  obtain ⟨fp, tp, hc⟩ := gen_common hi (generated_cases hi hg)
  exact ⟨makeMove_abs_board hi hg h, makeMove_abs_turn hi hg h, makeMove_abs_ep hi hg h,
    abs_castling_mover_eq hi hc h⟩

/-- non-vacuity, on the king-capture position itself: everything but Black's rights agrees -/
example : (abs (after kingCapturePos kingCaptureMove)).board
      = (Spec.apply (abs kingCapturePos) (absMove kingCaptureMove)).board ∧
    (abs (after kingCapturePos kingCaptureMove)).turn
      = (Spec.apply (abs kingCapturePos) (absMove kingCaptureMove)).turn :=
  let h := makeMove_abs_partial inv_kingCapturePos generated_kingCapture makeMove_kingCapture
  ⟨h.1, h.2.1⟩

/-- **C02 (second half).** On a well-formed position, for a generated move that does not capture the
    enemy king, the position `makeMove` returns abstracts to exactly the position the rules define.

    The statement without `hk` (`Inv p → Generated p m → makeMove p m = .ok (p', b) →
    abs p' = Spec.apply (abs p) (absMove m)`) is false: `makeMove_abs_kingCapture_counterexample`. -/
theorem makeMove_abs (hi : Inv p) (hg : Generated p m) (hk : m.to ≠ (p.side (!whiteTurn p)).king)
    (h : makeMove p m = .ok (p', b)) : abs p' = Spec.apply (abs p) (absMove m) := by
  obtain ⟨h3, h4, h5, h6⟩ := makeMove_abs_castling hi hg hk h
  exact Atk.pos_ext (makeMove_abs_board hi hg h) (makeMove_abs_turn hi hg h) h3 h4 h5 h6 (makeMove_abs_ep hi hg h)

example : abs (after startPosition e2e4) = Spec.apply (abs startPosition) (absMove e2e4) :=
  makeMove_abs inv_startPosition generated_e2e4 (by rw [startPosition_eq]; decide +kernel) makeMove_e2e4

example : (Spec.apply (abs startPosition) (absMove e2e4)).at 28 = some ⟨.white, .pawn⟩ ∧
    (Spec.apply (abs startPosition) (absMove e2e4)).at 12 = none ∧
    (abs (after startPosition e2e4)).at 28 = some ⟨.white, .pawn⟩ ∧
    (abs (after startPosition e2e4)).at 12 = none := by rw [startPosition_eq]; decide +kernel

/-- **Finding.** The hypothesis `hk` of `makeMove_abs` cannot be dropped: on the well-formed position
    `kingCapturePos` (White Ke1 Qe7, Black Ke8 Rh8, Black may still castle king side, White to move) the
    generated move Qe7xe8 is accepted by `makeMove`, and the resulting position keeps Black's king-side
    right while the rules remove it. -/
theorem makeMove_abs_kingCapture_counterexample :
    ∃ (p : Position) (m : Move) (p' : Position) (b : Bool),
      Inv p ∧ Generated p m ∧ makeMove p m = .ok (p', b) ∧ abs p' ≠ Spec.apply (abs p) (absMove m) := by
  refine ⟨kingCapturePos, kingCaptureMove, _, _, inv_kingCapturePos, generated_kingCapture,
    makeMove_kingCapture, fun heq => ?_⟩
  have h := kingCapture_bk
  rw [heq, h.2] at h
  exact absurd h.1 (by decide)

end Magog.Props.C02Abs
