import Magog.Lemmas.Replay
import Magog.Lemmas.LegalLinkProof
import Magog.Props.C02
import Magog.Props.C18

/-! Property C02, specification level — playing a LEGAL MOVE OF THE RULES: the engine has a move for it,
    `makeMove` accepts it, the bookkeeping stays consistent, the new position is exactly the one the rules
    define, the ply counter advances by one; iterated over move lists of any length.

`Spec.legal`, `Spec.apply`, `Spec.play` are the rules (Magog/Spec/Chess.lean), `abs` / `absMove` the
abstraction of engine positions / moves, `Inv` the well-formedness invariant, `OppSafe p` "the side not to move
is not in check". `Replay.LegalLink` is the link between `Spec.legal` and the engine's generator + legality
verdict, stated as a hypothesis of the theorems (it is what `isLegal_spec` / `C01_legal_exact` provide):

    LegalLink := ∀ p, Inv p → OppSafe p → ∀ sm, Spec.legal (abs p) sm = true →
                   ∃ m, MM.Generated p m ∧ absMove m = sm ∧ ∃ p', makeMove p m = .ok (p', true)

`legalLink_holds` proves it (`Replay.legalLink`: from `C01.genPseudo_complete_legal`, `makeMove_spec` and `verdict_spec`,
the verdict half on its own).
All theorems are full (no `_partial`). -/

namespace Magog.Props.C02Spec
open Magog Magog.Model Magog.MM Magog.Replay

/-- **C02, one move of the rules.** On a well-formed position with the opponent not in check, for every move
    `sm` the rules call legal there is an engine move `m` denoting it which the generator emits and `makeMove`
    accepts (no panic, verdict `true`); the new position is well-formed, the opponent (the side that just moved)
    is not in check, it denotes exactly `Spec.apply (abs p) sm`, and the ply counter is `int16(ply + 1)`. -/
theorem C02_step_spec (hL : LegalLink) {p : Position} {sm : Spec.Move} (hI : Inv p) (hS : OppSafe p)
    (hleg : Spec.legal (abs p) sm = true) :
    ∃ m p', MM.Generated p m ∧ absMove m = sm ∧ makeMove p m = .ok (p', true) ∧ Inv p' ∧ OppSafe p' ∧
      abs p' = Spec.apply (abs p) sm ∧ p'.ply = wrap16 (p.ply + 1) :=
  step_spec hL hI hS hleg

/-- **C02, a game of the rules.** For every list `sms` of moves the rules allow in sequence from `abs p` (any
    length) there is a game `ms` of generated, accepted engine moves denoting them, and after EVERY prefix of
    `k` moves `playM` has not panicked, the position `q` is well-formed with the opponent not in check, and
    `abs q` is exactly the position the rules define after the first `k` moves. -/
theorem C02_history_spec (hL : LegalLink) {p : Position} (hI : Inv p) (hS : OppSafe p) {sms : List Spec.Move}
    {P' : Spec.Pos} (hplay : Spec.play (abs p) sms = some P') :
    ∃ ms, ms.map absMove = sms ∧ GameOk p ms ∧
      ∀ k, k ≤ sms.length → ∃ q, playM p (ms.take k) = .ok q ∧ Inv q ∧ OppSafe q ∧
        Spec.play (abs p) (sms.take k) = some (abs q) :=
  play_spec_prefix hL sms hI hS hplay

/-- the end of the game: the final position denotes `P'` -/
theorem C02_play_spec (hL : LegalLink) {p : Position} (hI : Inv p) (hS : OppSafe p) {sms : List Spec.Move}
    {P' : Spec.Pos} (hplay : Spec.play (abs p) sms = some P') :
    ∃ ms p', ms.map absMove = sms ∧ GameOk p ms ∧ playM p ms = .ok p' ∧ Inv p' ∧ OppSafe p' ∧ abs p' = P' :=
  play_spec hL sms hI hS hplay

/-- The verdict `makeMove` returns for a generated move is the rules' "the mover's king is not attacked in the
    new position" (the engine-side half of `LegalLink`). -/
theorem verdict_spec {p p' : Position} {m : Move} {b : Bool} (hI : Inv p) (hS : OppSafe p) (hG : MM.Generated p m)
    (h : makeMove p m = .ok (p', b)) :
    b = !Spec.inCheck (Spec.apply (abs p) (absMove m)).board (abs p).turn :=
  Replay.verdict_spec hI hS hG h

theorem legalLink_holds : LegalLink := legalLink

/-- `C02_step_spec` with `LegalLink` discharged -/
theorem C02_step_spec_unconditional {p : Position} {sm : Spec.Move} (hI : Inv p) (hS : OppSafe p)
    (hleg : Spec.legal (abs p) sm = true) :
    ∃ m p', MM.Generated p m ∧ absMove m = sm ∧ makeMove p m = .ok (p', true) ∧ Inv p' ∧ OppSafe p' ∧
      abs p' = Spec.apply (abs p) sm ∧ p'.ply = wrap16 (p.ply + 1) :=
  C02_step_spec legalLink_holds hI hS hleg

/-- `C02_history_spec` with `LegalLink` discharged -/
theorem C02_history_spec_unconditional {p : Position} (hI : Inv p) (hS : OppSafe p) {sms : List Spec.Move}
    {P' : Spec.Pos} (hplay : Spec.play (abs p) sms = some P') :
    ∃ ms, ms.map absMove = sms ∧ GameOk p ms ∧
      ∀ k, k ≤ sms.length → ∃ q, playM p (ms.take k) = .ok q ∧ Inv q ∧ OppSafe q ∧
        Spec.play (abs p) (sms.take k) = some (abs q) :=
  C02_history_spec legalLink_holds hI hS hplay

/-! ### non-vacuity: 1.e4 e5 2.Nf3 from the start position -/

theorem start_e2e4_legal : Spec.legal (abs startPosition) ⟨12, 28, none⟩ = true := GenExamples.start_e2e4_legal

example : ∃ m p', absMove m = ⟨12, 28, none⟩ ∧ makeMove startPosition m = .ok (p', true) ∧ Inv p' ∧ OppSafe p' ∧
    abs p' = Spec.apply (abs startPosition) ⟨12, 28, none⟩ ∧ p'.ply = 1 := by
  obtain ⟨m, p', _, h1, h2, h3, h4, h5, h6⟩ :=
    C02_step_spec legalLink_holds inv_startPosition C02.oppSafe_start start_e2e4_legal
  exact ⟨m, p', h1, h2, h3, h4, h5, by rw [h6]; decide +kernel⟩

theorem start_game_legal :
    (Spec.play (abs startPosition) [⟨12, 28, none⟩, ⟨52, 36, none⟩, ⟨6, 21, none⟩]).isSome = true := by
  rw [abs_startPosition]
  exact startPos_e4e5Nf3

example : ∃ ms, ms.map absMove = [⟨12, 28, none⟩, ⟨52, 36, none⟩, ⟨6, 21, none⟩] ∧ GameOk startPosition ms ∧
    ∀ k, k ≤ 3 → ∃ q, playM startPosition (ms.take k) = .ok q ∧ Inv q ∧ OppSafe q ∧
      Spec.play (abs startPosition) (([⟨12, 28, none⟩, ⟨52, 36, none⟩, ⟨6, 21, none⟩] : List Spec.Move).take k)
        = some (abs q) := by
  obtain ⟨P', hP⟩ := Option.isSome_iff_exists.mp start_game_legal
  exact C02_history_spec legalLink_holds inv_startPosition C02.oppSafe_start hP

/-- the verdict on 1.e4 -/
example : ∃ p' b, makeMove startPosition ⟨0x14, 0x34, 0, 0x24⟩ = .ok (p', b) ∧
    b = !Spec.inCheck (Spec.apply (abs startPosition) (absMove ⟨0x14, 0x34, 0, 0x24⟩)).board (abs startPosition).turn := by
  obtain ⟨⟨p', b⟩, h⟩ := C02.makeMove_ok inv_startPosition C02.oppSafe_start C02.generated_e2e4
  exact ⟨p', b, h, verdict_spec inv_startPosition C02.oppSafe_start C02.generated_e2e4 h⟩

/-- **The ply counter is exact.** From a position the FEN loader accepts, with `n` the full-move number of the
    text (sixth field), after ANY `k` moves played with `makeMove` the ply counter is
    `2(n−1) + [Black to move] + k`, as long as this stays below 2^15 (the counter is a Go `int16`). -/
theorem ply_exact {s : Bytes} {p : Position} (h : parseFen s = .ok (.ok p)) :
    ∃ (full : Bytes) (n : Int), (splitOn 32 s)[5]? = some full ∧ atoi full = some n ∧ 1 ≤ n ∧
      n ≤ (Gen.maxFullMoveCounter : Int) ∧
      p.ply = 2 * (n - 1) + (if whiteTurn p then 0 else 1) ∧
      ∀ (ms : List Move) (q : Position), playM p ms = .ok q →
        2 * (n - 1) + (if whiteTurn p then 0 else 1) + ms.length < 32768 →
        q.ply = 2 * (n - 1) + (if whiteTurn p then 0 else 1) + ms.length := by
  obtain ⟨_, _pl, _tu, _ca, _ep, _ha, full, hsplit, _a2, _a3, _a4, _a5, _a6, _a7, _a8, _a9, _a10, _a11, _a12,
    n, hat, hn1, hn2, hply⟩ := C08.fen_faithful h
  refine ⟨full, n, by rw [hsplit]; rfl, hat, hn1, hn2, hply, ?_⟩
  intro ms q hq hlt
  rw [← hply] at hlt ⊢
  refine playM_ply hq ?_ hlt
  rw [hply]
  split <;> omega

/-- no wrap-around in practice (C18 `ply_no_wrap`): the loader accepts move numbers up to
    `maxFullMoveCounter`, so the formula holds for at least 12 100 further plies, whatever the text -/
theorem ply_exact_12100 {s : Bytes} {p : Position} (h : parseFen s = .ok (.ok p)) {ms : List Move} {q : Position}
    (hq : playM p ms = .ok q) (hk : ms.length ≤ 12100) : q.ply = p.ply + ms.length := by
  obtain ⟨full, n, _, _, hn1, hn2, hply, hall⟩ := ply_exact h
  rw [hply]
  refine hall ms q hq ?_
  have hw := C18.ply_no_wrap n (ms.length : Int) ⟨hn1, hn2⟩ ⟨by omega, by omega⟩
  simp only [Gen.maxFullMoveCounter] at hn2
  split <;> omega

/-- the spec-level game from an accepted FEN: ply after `k` legal moves of the rules. (In a position the loader
    accepts the side not to move is not in check: `C08.fen_oppSafe`.) -/
theorem ply_exact_spec (hL : LegalLink) {s : Bytes} {p : Position} (h : parseFen s = .ok (.ok p))
    {sms : List Spec.Move} {P' : Spec.Pos} (hplay : Spec.play (abs p) sms = some P') (hk : sms.length ≤ 12100) :
    ∃ ms q, ms.map absMove = sms ∧ playM p ms = .ok q ∧ abs q = P' ∧ q.ply = p.ply + sms.length := by
  obtain ⟨ms, q, hmap, _, hq, _, _, habs⟩ := play_spec hL sms (C02.fen_inv h) (C08.fen_oppSafe h) hplay
  have hlen : ms.length = sms.length := by rw [← hmap, List.length_map]
  refine ⟨ms, q, hmap, hq, habs, ?_⟩
  rw [← hlen]
  exact ply_exact_12100 h hq (hlen ▸ hk)

set_option maxRecDepth 100000 in
/-- non-vacuity: `4k3/8/8/8/8/8/4P3/4K3 b - - 0 10` (Black to move, move 10) has ply 19, and 20 after …Kd8 -/
example : ∃ p, parseFen (FenSpec.strBytes "4k3/8/8/8/8/8/4P3/4K3 b - - 0 10") = .ok (.ok p) ∧ p.ply = 19 ∧
    ∀ q, playM p [⟨Gen.E8, Gen.D8, 0, InvalidSq⟩] = .ok q → q.ply = 20 := by
  obtain ⟨p, hp, h19⟩ := okAnd'_elim₂ (show okAnd' (okAnd' fun p : Position => p.ply == 19)
    (parseFen (FenSpec.strBytes "4k3/8/8/8/8/8/4P3/4K3 b - - 0 10")) = true by decide +kernel)
  have h19' : p.ply = 19 := beq_iff_eq.1 h19
  refine ⟨p, hp, h19', fun q hq => ?_⟩
  rw [ply_exact_12100 hp hq (by decide), h19']
  rfl

end Magog.Props.C02Spec
