import Magog.Lemmas.GoArith

/-! C02 - castling rights spent by a move: the four corner tests of Go's `Position.MakeMove` (the statements between the
    mover update and the capture handling), translated as a function of the flags byte, the move's squares and the
    six context values.

    Tie theorem: `Magog.Gen.Fn.MakeMove_corners` is printed by the Go→Lean translator `harness/cmd/go2lean` from the
    current Go source on every run (T0); `corners_tie` equates it with the model's `mmCorners` for all flags and ranks,
    squares below 128 and flag masks below 256. -/

namespace Magog.Props.C02Tie
open Magog Magog.Lemmas.GoArith Magog.Gen.Fn

theorem getFile_nat (s : Nat) (h : s < 256) : Gen.Fn.square_getFile (s : Int) = (Model.fileOf s : Int) := by
  have : ∀ s : Fin 256, Gen.Fn.square_getFile (s.val : Int) = (Model.fileOf s.val : Int) := by decide +kernel
  exact this ⟨s, h⟩
theorem getRank_nat (s : Nat) (h : s < 128) : Gen.Fn.square_getRank (s : Int) = (Model.rankOf s : Int) := by
  have : ∀ s : Fin 128, Gen.Fn.square_getRank (s.val : Int) = (Model.rankOf s.val : Int) := by decide +kernel
  exact this ⟨s, h⟩
theorem band_clear (x m : Nat) (hm : m < 256) : band (x : Int) (255 - (m : Int)) = (Model.clearBits x m : Int) := by
  have h255 : ∀ m : Fin 256, 255 - m.val = 255 ^^^ m.val := by decide +kernel
  have e : (255 - (m : Int)) = ((255 - m : Nat) : Int) := by omega
  unfold band Model.clearBits
  rw [e]
  simp only [Int.toNat_natCast, Int.ofNat_eq_natCast]
  rw [h255 ⟨m, hm⟩]

theorem corners_tie (flags : Nat) (m : Model.Move) (curRank enRank curK curQ enK enQ : Nat)
    (hf : m.frm < 128) (ht : m.to < 128) (h1 : curK < 256) (h2 : curQ < 256) (h3 : enK < 256) (h4 : enQ < 256) :
    Gen.Fn.MakeMove_corners flags curRank curQ curK enRank enQ enK m.frm m.to
      = (Model.mmCorners flags m curRank enRank curK curQ enK enQ : Int) := by
  unfold Gen.Fn.MakeMove_corners Model.mmCorners
  rw [getFile_nat m.frm (by omega), getFile_nat m.to (by omega), getRank_nat m.frm hf, getRank_nat m.to ht]
  simp only [band_clear _ _ h1, band_clear _ _ h2, band_clear _ _ h3, band_clear _ _ h4, Gen.A, Gen.H]
  have k : ∀ a b : Nat, (((a : Int) == (b : Int)) = (a == b)) := by
    intro a b; rw [Bool.eq_iff_iff]; simp only [beq_iff_eq]; omega
  have k0 : ∀ a : Nat, (((a : Int) == 0) = (a == 0)) := by intro a; exact k a 0
  have k7 : ∀ a : Nat, (((a : Int) == 7) = (a == 7)) := by intro a; exact k a 7
  simp only [k, k0, k7]
  rcases Bool.eq_false_or_eq_true (Model.fileOf m.frm == 0 && Model.rankOf m.frm == curRank) with ha | ha <;>
  rcases Bool.eq_false_or_eq_true (Model.fileOf m.frm == 7 && Model.rankOf m.frm == curRank) with hb | hb <;>
  rcases Bool.eq_false_or_eq_true (Model.fileOf m.to == 0 && Model.rankOf m.to == enRank) with hc | hc <;>
  rcases Bool.eq_false_or_eq_true (Model.fileOf m.to == 7 && Model.rankOf m.to == enRank) with hd | hd <;>
  simp only [ha, hb, hc, hd, Bool.false_eq_true, ↓reduceIte]

/-- Rh1xh8 with all four rights: both king-side rights go -/
example : Gen.Fn.MakeMove_corners 31 0 4 2 112 16 8 7 119 = 21 := by decide

end Magog.Props.C02Tie
