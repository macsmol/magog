import Magog.Lemmas.GoForms

/-! Property C03, the forms of `go` — with a position set, every form of the `go` command starts a search:
    `go depth N` (N ≥ 1), `go movetime T`, `go wtime a btime b [winc c binc d] [movestogo m]` (m ≥ 1),
    `go infinite`, bare `go`; and `go` does NOT start a search exactly when a keyword's value is missing, not a
    number, or below 1 for `movestogo` / `depth`.

The statements are about whole input lines (byte strings) handed to `Model.uciStep` (`ParseInputLine`):
`goLine [t₁, …, tₖ]` is the line `go t₁ … tₖ` (single blanks), `Gen.uGo_bytes` the bare line `go`. A numeral is ANY
byte string `s` that `strconv.Atoi` accepts (`atoi s = some v`: optional sign, digits, leading zeros allowed);
`intText v` is a particular one for every `int64` value (`atoi_intText`). The only assumption on the engine
operations: `ops.str.trimSpace` is the model of `strings.TrimSpace` (`Model.trimSpace`, exact on all byte strings).

Result of a started search: `.ok (UciState.started st, [.searchStarted millis depth])` — the search object exists, the
killer table is cleared, everything else is as before; `millis` / `depth` are what `doGo` hands to
`StartIterativeDeepening`:
* depth: `min N MaxSearchDepth`, default `MaxSearchDepth` (= 40);
* `movetime T`: `T − antiflagMillis` (for `|T| ≤ 2^42`; in general the `int64` formula of the model);
* clock: `allotPure left inc movestogo` of the side to move (Props/C13), defaults 10¹¹ ms, increment 0,
  `ExpectedFullMovesToBePlayed` (= 30) moves; no clock at all: `defaultMillis = 10¹¹ / 30 − 50`. -/

namespace Magog.Props.C03Forms
open Magog Magog.Model Magog.UciFrame Magog.FenSpec Magog.PosCmd

variable {ops : EngineOps} {st : UciState} {p : Position}

/-- **C03, `go` with any list of well-formed fields** (`wtime`, `btime`, `winc`, `binc`, `movestogo`, `depth`, in any
    order, repetitions allowed; each followed by a numeral; `movestogo` and `depth` at least 1): a search is
    started, with the deadline `goFinish` computes from the assigned values and a depth in `1 … MaxSearchDepth`. -/
theorem C03_go_fields (hts : ops.str.trimSpace = trimSpace) (hp : st.pos = some p)
    (fs : List GoField) (hfs : ∀ f ∈ fs, f.Ok) (hne : fs ≠ []) :
    ∃ g, goFinish (!whiteTurn p) (storeAll fs {}) = .ok g ∧
      uciStep ops st (goLine (fieldTokens fs)) = .ok (UciState.started st, [.searchStarted g.millis g.depth]) ∧
      g.depth = (storeAll fs {}).depth ∧ 1 ≤ g.depth ∧ g.depth ≤ Gen.MaxSearchDepth := by
  obtain ⟨g, hg, hd, h1, h2⟩ := goFinish_fields (!whiteTurn p) hfs
  refine ⟨g, hg, ?_, hd, h1, h2⟩
  have hs : goScan (fieldTokens fs) {} = .ok (.done (storeAll fs {})) := by
    have := goScan_fields fs hfs [] {}
    rw [List.append_nil] at this
    rw [this]; rfl
  refine goLine_started hts hp ?_ (fieldTokens_words fs hfs) hs hg
  cases fs with
  | nil => exact absurd rfl hne
  | cons f fs => simp [fieldTokens]

/-- … followed by `infinite` (and then by any further words, which are not looked at) -/
theorem C03_go_fields_infinite (hts : ops.str.trimSpace = trimSpace) (hp : st.pos = some p)
    (fs : List GoField) (hfs : ∀ f ∈ fs, f.Ok) (junk : List Bytes) (hj : ∀ t ∈ junk, Word t) :
    ∃ g, goFinish (!whiteTurn p) (storeAll fs {}) = .ok g ∧
      uciStep ops st (goLine (fieldTokens fs ++ kwInfinite :: junk)) =
        .ok (UciState.started st, [.searchStarted g.millis g.depth]) ∧
      g.depth = (storeAll fs {}).depth ∧ 1 ≤ g.depth ∧ g.depth ≤ Gen.MaxSearchDepth := by
  obtain ⟨g, hg, hd, h1, h2⟩ := goFinish_fields (!whiteTurn p) hfs
  refine ⟨g, hg, ?_, hd, h1, h2⟩
  have hs : goScan (fieldTokens fs ++ kwInfinite :: junk) {} = .ok (.done (storeAll fs {})) := by
    rw [goScan_fields fs hfs, goScan_infinite]
  refine goLine_started hts hp (by simp) ?_ hs hg
  intro t ht
  rcases List.mem_append.1 ht with ht | ht
  · exact fieldTokens_words fs hfs t ht
  rcases List.mem_cons.1 ht with rfl | ht
  · exact goKeywords_word _ (by decide)
  · exact hj t ht

/-- … followed by `movetime T` (and then by any further words, which are not looked at): the clock values are
    ignored, the thinking time comes from `T` (`T = -1` is the engine's "not given" marker: clock mode) -/
theorem C03_go_fields_movetime (hts : ops.str.trimSpace = trimSpace) (hp : st.pos = some p)
    (fs : List GoField) (hfs : ∀ f ∈ fs, f.Ok) {s : Bytes} {T : Int} (hs : atoi s = some T)
    (junk : List Bytes) (hj : ∀ t ∈ junk, Word t) :
    ∃ g, goFinish (!whiteTurn p) { storeAll fs {} with moveTime := T } = .ok g ∧
      uciStep ops st (goLine (fieldTokens fs ++ kwMoveTime :: s :: junk)) =
        .ok (UciState.started st, [.searchStarted g.millis g.depth]) ∧
      g.depth = (storeAll fs {}).depth ∧ 1 ≤ g.depth ∧ g.depth ≤ Gen.MaxSearchDepth ∧
      (T ≠ -1 → g.millis = Int.tdiv (wrap64 (wrap64 (T - Gen.antiflagMillis) * 1000000)) 1000000) ∧
      (T ≠ -1 → C13.InRange T → g.millis = T - (Gen.antiflagMillis : Int)) := by
  have hm := storeAll_movesToGo fs hfs {} default_movesToGo
  obtain ⟨g, hg⟩ := UciTotal.goFinish_total (!whiteTurn p) { storeAll fs {} with moveTime := T }
    (by show (storeAll fs {}).movesToGo ≠ 0; omega)
  have hd : g.depth = (storeAll fs {}).depth := by have := goFinish_depth hg; exact this
  have hdd := storeAll_depth fs hfs {} default_depth
  refine ⟨g, hg, ?_, hd, by rw [hd]; exact hdd.1, by rw [hd]; exact hdd.2, ?_, ?_⟩
  · have hsc : goScan (fieldTokens fs ++ kwMoveTime :: s :: junk) {} =
        .ok (.done { storeAll fs {} with moveTime := T }) := by
      rw [goScan_fields fs hfs, C13.goScan_movetime s junk _ T hs]
    refine goLine_started hts hp (by simp) ?_ hsc hg
    intro t ht
    rcases List.mem_append.1 ht with ht | ht
    · exact fieldTokens_words fs hfs t ht
    rcases List.mem_cons.1 ht with rfl | ht
    · exact goKeywords_word _ (by decide)
    rcases List.mem_cons.1 ht with rfl | ht
    · exact atoi_word hs
    · exact hj t ht
  · intro hne
    have h1 : (T != -1) = true := by simp [hne]
    unfold goFinish at hg
    simp only [h1, if_true] at hg
    cases hg
    rfl
  · intro hne hT
    rw [C13.goFinish_movetime _ _ hne hT] at hg
    cases hg
    rfl

/-- **`go depth N`**, `N ≥ 1` (any numeral `s` for `N`): a search to depth `min N MaxSearchDepth` with the default
    thinking time -/
theorem C03_go_depth (hts : ops.str.trimSpace = trimSpace) (hp : st.pos = some p) {s : Bytes} {N : Int}
    (hs : atoi s = some N) (hN : 1 ≤ N) :
    uciStep ops st (goLine [kwDepth, s]) =
      .ok (UciState.started st, [.searchStarted defaultMillis (min N Gen.MaxSearchDepth)]) := by
  have hfs : ∀ f ∈ [(⟨.depth, s, N⟩ : GoField)], f.Ok := by
    intro f hf
    rw [List.mem_singleton.1 hf]
    exact ⟨hs, hN⟩
  obtain ⟨g, hg, h, _⟩ := C03_go_fields hts hp [⟨.depth, s, N⟩] hfs (by simp)
  have : goFinish (!whiteTurn p) (storeAll [(⟨.depth, s, N⟩ : GoField)] {}) =
      .ok ⟨defaultMillis, min N Gen.MaxSearchDepth⟩ := goFinish_default _ _
  rw [this] at hg
  cases hg
  exact h

/-- for every `N` from 1 to `2^63 − 1` there is such a line: the one with the decimal text of `N` -/
theorem C03_go_depth_every (hts : ops.str.trimSpace = trimSpace) (hp : st.pos = some p) (N : Int)
    (hN : 1 ≤ N) (hN' : N ≤ 9223372036854775807) :
    uciStep ops st (goLine [kwDepth, intText N]) =
      .ok (UciState.started st, [.searchStarted defaultMillis (min N Gen.MaxSearchDepth)]) :=
  C03_go_depth hts hp (atoi_intText (by omega) hN') hN

/-- the rendered lines are what one expects, and the theorem applies to them: `go depth 7` on the start position -/
example : goLine [kwDepth, intText 7] = strBytes "go depth 7" ∧ atoi (strBytes "007") = some 7 ∧
    defaultMillis = 3333333283 ∧
    ∀ (ops : EngineOps), ops.str.trimSpace = trimSpace → ∀ sa li q k,
      uciStep ops ⟨some startPosition, sa, li, q, k⟩ (strBytes "go depth 7") =
        .ok (⟨some startPosition, true, li, q, Killers.empty⟩, [.searchStarted 3333333283 7]) := by
  have e : goLine [kwDepth, intText 7] = strBytes "go depth 7" := by decide +kernel
  refine ⟨e, by decide +kernel, by decide +kernel, fun ops hts sa li q k => ?_⟩
  rw [← e, C03_go_depth_every hts rfl 7 (by decide) (by decide)]
  have : defaultMillis = 3333333283 := by decide +kernel
  rw [this]
  rfl

/-- **`go movetime T`** (any numeral `s` for `T`; `T ≠ -1`, the engine's "not given" marker; `|T| ≤ 2^42`): a search
    to the maximal depth with `T − antiflagMillis` milliseconds -/
theorem C03_go_movetime (hts : ops.str.trimSpace = trimSpace) (hp : st.pos = some p) {s : Bytes} {T : Int}
    (hs : atoi s = some T) (hne : T ≠ -1) (hT : C13.InRange T) :
    uciStep ops st (goLine [kwMoveTime, s]) =
      .ok (UciState.started st, [.searchStarted (T - (Gen.antiflagMillis : Int)) Gen.MaxSearchDepth]) := by
  obtain ⟨g, _, h, hd, _, _, _, hm⟩ := C03_go_fields_movetime hts hp [] (by simp) hs [] (by simp)
  rw [← hm hne hT]
  have : (Gen.MaxSearchDepth : Int) = g.depth := by rw [hd]; rfl
  rw [this]
  exact h

/-- `go movetime T` for EVERY numeral (no range condition): a search is started; the thinking time is the model's
    `int64` arithmetic (`T = -1`: as if no `movetime` was given) -/
theorem C03_go_movetime_any (hts : ops.str.trimSpace = trimSpace) (hp : st.pos = some p) {s : Bytes} {T : Int}
    (hs : atoi s = some T) :
    ∃ millis, uciStep ops st (goLine [kwMoveTime, s]) =
        .ok (UciState.started st, [.searchStarted millis Gen.MaxSearchDepth]) ∧
      (T ≠ -1 → millis = Int.tdiv (wrap64 (wrap64 (T - Gen.antiflagMillis) * 1000000)) 1000000) ∧
      (T = -1 → millis = defaultMillis) := by
  obtain ⟨g, hg, h, hd, _, _, hm, _⟩ := C03_go_fields_movetime hts hp [] (by simp) hs [] (by simp)
  have : (Gen.MaxSearchDepth : Int) = g.depth := by rw [hd]; rfl
  refine ⟨g.millis, by rw [this]; exact h, hm, ?_⟩
  rintro rfl
  have h2 := goFinish_default (!whiteTurn p) ((Gen.MaxSearchDepth : Nat) : Int)
  have : ({ storeAll [] {} with moveTime := -1 } : GoAcc) = { depth := ((Gen.MaxSearchDepth : Nat) : Int) } := rfl
  rw [this, h2] at hg
  cases hg
  rfl

example : goLine [kwMoveTime, intText 1000] = strBytes "go movetime 1000" ∧ atoi (intText 1000) = some 1000 ∧
    (1000 : Int) ≠ -1 ∧ C13.InRange 1000 := by
  refine ⟨by decide +kernel, by decide +kernel, by decide, ?_⟩
  unfold C13.InRange; omega

/-- **`go wtime a btime b [winc c binc d] [movestogo m]`**, `m ≥ 1` (numerals `wt.1` … for the values `wt.2` …; all
    values `|x| ≤ 2^42`): a search to the maximal depth; the thinking time is `allotPure` (Props/C13) of the clock and
    the increment of the side to move (`clockInc`: 0 when not given), and of `m` (`clockMtg`: default
    `ExpectedFullMovesToBePlayed`). -/
theorem C03_go_clock (hts : ops.str.trimSpace = trimSpace) (hp : st.pos = some p)
    (wt bt : Bytes × Int) (inc : Option ((Bytes × Int) × (Bytes × Int))) (mtg : Option (Bytes × Int))
    (hwt : atoi wt.1 = some wt.2) (hbt : atoi bt.1 = some bt.2)
    (hinc : ∀ wi bi, inc = some (wi, bi) → atoi wi.1 = some wi.2 ∧ atoi bi.1 = some bi.2)
    (hmtg : ∀ m, mtg = some m → atoi m.1 = some m.2 ∧ 1 ≤ m.2)
    (rwt : C13.InRange wt.2) (rbt : C13.InRange bt.2) (rinc : ∀ wi bi, inc = some (wi, bi) → C13.InRange wi.2 ∧ C13.InRange bi.2) :
    uciStep ops st (goLine (fieldTokens (clockFields wt bt inc mtg))) =
      .ok (UciState.started st, [.searchStarted
        (C13.allotPure (if whiteTurn p then wt.2 else bt.2) (clockInc (whiteTurn p) inc) (clockMtg mtg))
        Gen.MaxSearchDepth]) := by
  have hfs : ∀ f ∈ clockFields wt bt inc mtg, f.Ok := by
    intro f hf
    unfold clockFields at hf
    simp only [List.mem_append, List.mem_cons, List.not_mem_nil, or_false] at hf
    rcases hf with ((rfl | rfl) | hf) | hf
    · exact ⟨hwt, trivial⟩
    · exact ⟨hbt, trivial⟩
    · cases inc with
      | none => cases hf
      | some ib =>
        obtain ⟨wi, bi⟩ := ib
        simp only [List.mem_cons, List.not_mem_nil, or_false] at hf
        rcases hf with rfl | rfl
        · exact ⟨(hinc wi bi rfl).1, trivial⟩
        · exact ⟨(hinc wi bi rfl).2, trivial⟩
    · cases mtg with
      | none => cases hf
      | some m =>
        simp only [List.mem_cons, List.not_mem_nil, or_false] at hf
        subst hf
        exact ⟨(hmtg m rfl).1, (hmtg m rfl).2⟩
  have r0 : C13.InRange 0 := by unfold C13.InRange; omega
  -- compute the accumulated parameters for the four shapes
  have key : goFinish (!whiteTurn p) (storeAll (clockFields wt bt inc mtg) {}) = .ok ⟨
      C13.allotPure (if whiteTurn p then wt.2 else bt.2) (clockInc (whiteTurn p) inc) (clockMtg mtg),
      Gen.MaxSearchDepth⟩ := by
    cases inc with
    | none =>
      cases mtg with
      | none =>
        rw [goFinish_clock _ _ rfl rbt r0 rwt r0 (by show (0 : Int) < ((Gen.ExpectedFullMovesToBePlayed : Nat) : Int); decide)]
        cases whiteTurn p <;> rfl
      | some m =>
        rw [goFinish_clock _ _ rfl rbt r0 rwt r0 (by have := (hmtg m rfl).2; show (0 : Int) < m.2; omega)]
        cases whiteTurn p <;> rfl
    | some ib =>
      obtain ⟨wi, bi⟩ := ib
      cases mtg with
      | none =>
        rw [goFinish_clock _ _ rfl rbt (rinc wi bi rfl).2 rwt (rinc wi bi rfl).1
          (by show (0 : Int) < ((Gen.ExpectedFullMovesToBePlayed : Nat) : Int); decide)]
        cases whiteTurn p <;> rfl
      | some m =>
        rw [goFinish_clock _ _ rfl rbt (rinc wi bi rfl).2 rwt (rinc wi bi rfl).1
          (by have := (hmtg m rfl).2; show (0 : Int) < m.2; omega)]
        cases whiteTurn p <;> rfl
  obtain ⟨g, hg, h, _⟩ := C03_go_fields hts hp (clockFields wt bt inc mtg) hfs (by simp [clockFields])
  rw [h]
  rw [key] at hg
  cases hg
  rfl

/-- non-vacuity: `go wtime 60000 btime 50000 winc 1000 binc 2000 movestogo 30` on the start position (White to move):
    `60000 / 30 + 1000 − 50 = 2950` ms -/
example (ops : EngineOps) (hts : ops.str.trimSpace = trimSpace) (sa : Bool) (li : Int) (q : Bool) (k : Killers) :
    goLine (fieldTokens (clockFields (intText 60000, 60000) (intText 50000, 50000)
      (some ((intText 1000, 1000), (intText 2000, 2000))) (some (intText 30, 30)))) =
      strBytes "go wtime 60000 btime 50000 winc 1000 binc 2000 movestogo 30" ∧
    uciStep ops ⟨some startPosition, sa, li, q, k⟩
      (strBytes "go wtime 60000 btime 50000 winc 1000 binc 2000 movestogo 30") =
      .ok (⟨some startPosition, true, li, q, Killers.empty⟩, [.searchStarted 2950 40]) := by
  have e : goLine (fieldTokens (clockFields (intText 60000, 60000) (intText 50000, 50000)
      (some ((intText 1000, 1000), (intText 2000, 2000))) (some (intText 30, 30)))) =
      strBytes "go wtime 60000 btime 50000 winc 1000 binc 2000 movestogo 30" := by decide +kernel
  refine ⟨e, ?_⟩
  have rng : ∀ x : Int, 0 ≤ x → x ≤ 100000 → C13.InRange x := fun x h1 h2 => by unfold C13.InRange; omega
  rw [← e, C03_go_clock hts (p := startPosition) rfl (intText 60000, 60000) (intText 50000, 50000)
    (some ((intText 1000, 1000), (intText 2000, 2000))) (some (intText 30, 30)) (by decide +kernel) (by decide +kernel)
    (fun wi bi h => by cases h; exact ⟨by decide +kernel, by decide +kernel⟩)
    (fun m h => by cases h; exact ⟨by decide +kernel, by decide⟩)
    (rng _ (by decide) (by decide)) (rng _ (by decide) (by decide))
    (fun wi bi h => by cases h; exact ⟨rng _ (by decide) (by decide), rng _ (by decide) (by decide)⟩)]
  have : C13.allotPure (if whiteTurn startPosition then (60000 : Int) else 50000)
      (clockInc (whiteTurn startPosition) (some ((intText 1000, 1000), (intText 2000, 2000))))
      (clockMtg (some (intText 30, 30))) = 2950 := by decide +kernel
  simp only [this]
  rfl

/-- **`go infinite`**: a search to the maximal depth with the default thinking time (10¹¹ ms / 30 − 50 ms ≈ 38 days;
    the engine has no separate "infinite" mode) -/
theorem C03_go_infinite (hts : ops.str.trimSpace = trimSpace) (hp : st.pos = some p) :
    uciStep ops st (goLine [kwInfinite]) =
      .ok (UciState.started st, [.searchStarted defaultMillis Gen.MaxSearchDepth]) := by
  obtain ⟨g, hg, h, _⟩ := C03_go_fields_infinite hts hp [] (by simp) [] (by simp)
  have h2 := goFinish_default (!whiteTurn p) ((Gen.MaxSearchDepth : Nat) : Int)
  have : (storeAll [] {} : GoAcc) = { depth := ((Gen.MaxSearchDepth : Nat) : Int) } := rfl
  rw [this, h2] at hg
  cases hg
  exact h

/-- **bare `go`**: the same -/
theorem C03_go_bare (hts : ops.str.trimSpace = trimSpace) (hp : st.pos = some p) :
    uciStep ops st Gen.uGo_bytes = .ok (UciState.started st, [.searchStarted defaultMillis Gen.MaxSearchDepth]) := by
  rw [uciStep_goBare hts]
  have hs : goScan (splitOn 32 []) {} = .ok (.done {}) := by
    show goScan [[]] {} = _
    rw [goScan_empty]; rfl
  exact doGo_done hp hs (goFinish_default (!whiteTurn p) ((Gen.MaxSearchDepth : Nat) : Int))

example : goLine [kwInfinite] = strBytes "go infinite" ∧ Gen.uGo_bytes = strBytes "go" ∧
    (∀ (ops : EngineOps), ops.str.trimSpace = trimSpace → ∀ sa li q k,
      uciStep ops ⟨some startPosition, sa, li, q, k⟩ (strBytes "go infinite") =
        .ok (⟨some startPosition, true, li, q, Killers.empty⟩, [.searchStarted defaultMillis 40]) ∧
      uciStep ops ⟨some startPosition, sa, li, q, k⟩ (strBytes "go") =
        .ok (⟨some startPosition, true, li, q, Killers.empty⟩, [.searchStarted defaultMillis 40])) := by
  have e1 : goLine [kwInfinite] = strBytes "go infinite" := by decide +kernel
  have e2 : Gen.uGo_bytes = strBytes "go" := by decide +kernel
  refine ⟨e1, e2, fun ops hts sa li q k => ⟨?_, ?_⟩⟩
  · rw [← e1, C03_go_infinite hts rfl]; rfl
  · rw [← e2, C03_go_bare hts rfl]; rfl

/-- **C03, rejection.** With a position set, a `go` line (ANY byte string with the prefix `go`) starts a search
    unless its token list is rejected, and then it changes nothing but the existence of the search object and prints
    nothing. `GoRejected toks`: at some token that the scan reaches (no `movetime` / `infinite` token before it) stands
    a value keyword (`movetime`, `wtime`, `btime`, `winc`, `binc`, `movestogo`, `depth`) whose value — the next
    token — is missing or not a number, or, for `movestogo` / `depth`, below 1 (`BadValue`). -/
theorem C03_go_started_iff {st' : UciState} {line : Bytes} {out : List UOut} (hp : st.pos = some p)
    (hgo : hasPrefix line Gen.uGo_bytes = true) (h : uciStep ops st line = .ok (st', out)) :
    let toks := splitOn 32 (ops.str.trimSpace (trimPrefix line Gen.uGo_bytes))
    (GoRejected toks ↔ ∀ millis depth, UOut.searchStarted millis depth ∉ out) ∧
    (GoRejected toks → st' = { st with searchAllocated := true } ∧ out = []) ∧
    (¬ GoRejected toks → ∃ millis depth, st' = UciState.started st ∧ out = [.searchStarted millis depth]) := by
  intro toks
  rw [UciTotal.uciStep_go hgo] at h
  obtain ⟨a, b⟩ := doGo_started_iff hp h
  refine ⟨⟨fun hr => ?_, fun hn => ?_⟩, a, b⟩
  · rw [(a hr).2]; simp
  · refine Classical.byContradiction fun hnr => ?_
    obtain ⟨m, d, _, ho⟩ := b hnr
    exact hn m d (by rw [ho]; exact List.mem_cons_self)

/-- a keyword in last position (value missing) is a bad value; so is a value that is not a number; so are
    `movestogo 0` and `depth 0` -/
theorem badValue_examples :
    (∀ tok ∈ valueKeywords, BadValue tok []) ∧
    (∀ tok ∈ valueKeywords, ∀ x rest, atoi x = none → BadValue tok (x :: rest)) ∧
    (∀ x rest v, atoi x = some v → v < 1 → BadValue kwMovesToGo (x :: rest) ∧ BadValue kwDepth (x :: rest)) :=
  ⟨fun tok h => ⟨h, .inl rfl⟩, fun tok h x rest hx => ⟨h, .inl hx⟩,
   fun x rest v hx hv => ⟨⟨by decide, .inr ⟨.inl rfl, v, hx, hv⟩⟩, ⟨by decide, .inr ⟨.inr rfl, v, hx, hv⟩⟩⟩⟩

/-- non-vacuity of both directions on the start position: `go depth`, `go depth 0`, `go depth x`, `go wtime`,
    `go movestogo 0 wtime 1000`, `go depth  3` (two blanks: the value is the empty token) are rejected (nothing
    printed); `go movetime 100 depth` is NOT (the scan ends at
    `movetime` before it reaches the keyword without a value) -/
example (ops : EngineOps) (hts : ops.str.trimSpace = trimSpace) (sa : Bool) (li : Int) (q : Bool) (k : Killers) :
    (∀ line ∈ [strBytes "go depth", strBytes "go depth 0", strBytes "go depth x", strBytes "go wtime",
        strBytes "go movestogo 0 wtime 1000", strBytes "go depth  3"],
      hasPrefix line Gen.uGo_bytes = true ∧ GoRejected (splitOn 32 (trimSpace (trimPrefix line Gen.uGo_bytes))) ∧
      uciStep ops ⟨some startPosition, sa, li, q, k⟩ line = .ok (⟨some startPosition, true, li, q, k⟩, [])) ∧
    ¬ GoRejected (splitOn 32 (trimSpace (trimPrefix (strBytes "go movetime 100 depth") Gen.uGo_bytes))) := by
  have rej : ∀ line, hasPrefix line Gen.uGo_bytes = true →
      (match goScan (splitOn 32 (trimSpace (trimPrefix line Gen.uGo_bytes))) {} with
        | .ok .reject => true | _ => false) = true →
      hasPrefix line Gen.uGo_bytes = true ∧ GoRejected (splitOn 32 (trimSpace (trimPrefix line Gen.uGo_bytes))) ∧
      uciStep ops ⟨some startPosition, sa, li, q, k⟩ line = .ok (⟨some startPosition, true, li, q, k⟩, []) := by
    intro line hgo hb
    have hs : goScan (splitOn 32 (trimSpace (trimPrefix line Gen.uGo_bytes))) {} = .ok .reject := by
      split at hb
      · assumption
      · cases hb
    have hr := (goScan_reject_iff _ _).1 hs
    refine ⟨hgo, hr, ?_⟩
    obtain ⟨s', o, hrun, -⟩ := UciTotal.doGo_spec ⟨some startPosition, sa, li, q, k⟩
      (ops.str.trimSpace (trimPrefix line Gen.uGo_bytes))
    rw [← UciTotal.uciStep_go hgo] at hrun
    have := (C03_go_started_iff (p := startPosition) rfl hgo hrun).2.1 (by rw [hts]; exact hr)
    rw [hrun, this.1, this.2]
  refine ⟨?_, ?_⟩
  · intro line hl
    simp only [List.mem_cons, List.not_mem_nil, or_false] at hl
    rcases hl with rfl | rfl | rfl | rfl | rfl | rfl <;> exact rej _ (by decide +kernel) (by decide +kernel)
  · intro hr
    have h1 := (goScan_reject_iff _ {}).2 hr
    have h2 : (match goScan (splitOn 32 (trimSpace (trimPrefix (strBytes "go movetime 100 depth") Gen.uGo_bytes))) {} with
      | .ok (.done _) => true | _ => false) = true := by decide +kernel
    rw [h1] at h2
    cases h2

end Magog.Props.C03Forms
