import Magog.Lemmas.GoArith
import Magog.Model.MoveGen

/-! C04 - move ordering inputs: Go's `pieceToScore` and the capture ranking expression at its three call sites (`appendCapture`, `appendMoveOrCapture`, `appendSlidingPieceMoveOrCapture`), int16 conversions included.

    Tie theorems: `Magog.Gen.Fn.*` is printed by the Go→Lean translator `harness/cmd/go2lean` from the current Go
    source on every run (T0); these theorems equate the translation with the hand-written model for **all**
    arguments, so the model's theorems about these functions hold of the code as translated. A change of the Go
    function changes the generated definition and this module is re-checked. -/

namespace Magog.Props.C04Tie
open Magog Magog.Lemmas.GoArith Magog.Gen.Fn

theorem pieceToScore_tie (p : Nat) :
    Gen.Fn.pieceToScore (p : Int) = (Model.pieceToScore p).mapError (fun _ => "panic") := by
  by_cases h : p = 1 ∨ p = 2 ∨ p = 4 ∨ p = 8 ∨ p = 16 ∨ p = 32
  · rcases h with h|h|h|h|h|h <;> subst h <;> rfl
  · have e1 : Gen.Fn.pieceToScore (p : Int) = .error "panic" := by
      unfold Gen.Fn.pieceToScore
      simp only [beq_iff_eq]
      repeat (rw [if_neg (by omega)])
      rfl
    have e2 : ∃ m, Model.pieceToScore p = .error m := by
      unfold Model.pieceToScore
      simp only [beq_iff_eq, Model.Pawn, Model.Knight, Model.Bishop, Model.Rook, Model.Queen, Model.King,
        Gen.Pawn, Gen.Knight, Gen.Bishop, Gen.Rook, Gen.Queen, Gen.King]
      repeat (rw [if_neg (by omega)])
      exact ⟨_, rfl⟩
    obtain ⟨m, e2⟩ := e2
    rw [e1, e2]; rfl

theorem pieceToScore_range {p : Nat} {v : Int} (h : Model.pieceToScore p = .ok v) : 0 ≤ v ∧ v ≤ 900 := by
  unfold Model.pieceToScore at h
  simp only [Gen.MaterialPawnScore, Gen.MaterialKnightScore, Gen.MaterialBishopScore, Gen.MaterialRookScore, Gen.MaterialQueenScore] at h
  repeat' split at h
  all_goals first | (cases h; omega) | (cases h)

/-- the capture ranking computed at the Go call sites is the model's (`captureRM`), int16 conversions included -/
theorem captureRanking_tie (mov : Model.Move) (attacker attacked : Nat) :
    Gen.Fn.appendCapture_ranking (attacked : Int) (attacker : Int)
      = ((Model.captureRM mov attacker attacked).mapError (fun _ => "panic")).map (·.ranking) := by
  unfold Gen.Fn.appendCapture_ranking Model.captureRM
  rw [pieceToScore_tie, pieceToScore_tie]
  cases ha : Model.pieceToScore attacked with
  | error e => rfl
  | ok a =>
    cases hb : Model.pieceToScore attacker with
    | error e => rfl
    | ok b =>
      have ra := pieceToScore_range ha
      have rb := pieceToScore_range hb
      simp only [Except.mapError, bind, Except.bind, pure, Except.pure, Except.map, Gen.rankingBonusTactical]
      rw [wrapS64_id (by omega) (by omega), wrapS16_id (x := a - b) (by omega) (by omega), wrapS16_id (by omega) (by omega)]
      rfl

theorem captureRanking_sites_agree (a b : Int) :
    Gen.Fn.appendMoveOrCapture_ranking a b = Gen.Fn.appendCapture_ranking a b ∧
    Gen.Fn.appendSlidingPieceMoveOrCapture_ranking a b = Gen.Fn.appendCapture_ranking a b := ⟨rfl, rfl⟩

example : Gen.Fn.appendCapture_ranking 16 1 = .ok 9800 ∧ Gen.Fn.appendCapture_ranking 1 16 = .ok 8200 := ⟨rfl, rfl⟩

end Magog.Props.C04Tie
