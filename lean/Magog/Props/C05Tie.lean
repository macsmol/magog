import Magog.Lemmas.GoArith
import Magog.Model.Eval
import Magog.Lemmas.EvalDecision
import Magog.Model.Search

/-! C05 - mate-score arithmetic and score formatting: the Go functions `nextMoveWins`, `closeToMate`, `pliesToMate`, `fullMovesToMate`.

    Tie theorems: `Magog.Gen.Fn.*` is printed by the Go→Lean translator `harness/cmd/go2lean` from the current Go
    source on every run (T0); these theorems equate the translation with the hand-written model on the ranges stated
    (`nextMoveWins`: every `Int`; scores with `|s| < 2^63`, for `fullMovesToMate` and `formatScore` `2^62`; `Small` = ±10¹²,
    move counts below 10⁶, for the search values of `LazyEvaluate` and `terminalNodeScore`), so the model's theorems
    about these functions hold of the code as translated. A change of the Go function changes the generated definition
    and this module is re-checked. -/

namespace Magog.Props.C05Tie
open Magog Magog.Lemmas.GoArith Magog.Gen.Fn

theorem nextMoveWins_tie (s : Int) : Gen.Fn.nextMoveWins s = Model.nextMoveWins s := by
  unfold Gen.Fn.nextMoveWins Model.nextMoveWins
  simp only [Gen.LostScore]
  rw [wrapS64_id (by decide) (by decide)]
  rfl

theorem closeToMate_tie (s : Int) (h1 : -9223372036854775808 < s) (h2 : s < 9223372036854775808) :
    Gen.Fn.closeToMate s = Model.closeToMate s := by
  unfold Gen.Fn.closeToMate Model.closeToMate
  rw [abs_eq h1 h2]
  simp only [Gen.ScoreCloseToMate]
  apply decide_eq_decide.mpr
  omega
theorem pliesToMate_tie (s : Int) (h1 : -9223372036854775808 < s) (h2 : s < 9223372036854775808) :
    Gen.Fn.pliesToMate s = Model.pliesToMate s := by
  unfold Gen.Fn.pliesToMate Model.pliesToMate
  rw [abs_eq h1 h2]
  simp only [Gen.LostScore]
  rw [wrapS64_id (by omega) (by omega)]
  omega

theorem fullMovesToMate_tie (s : Int) (h1 : -4611686018427387904 < s) (h2 : s < 4611686018427387904) :
    Gen.Fn.fullMovesToMate s = Model.fullMovesToMate s := by
  unfold Gen.Fn.fullMovesToMate Model.fullMovesToMate
  simp only [Gen.LostScore, decide_eq_true_eq]
  split
  · rw [wrapS64_id (x := -s) (by omega) (by omega)]
    rw [wrapS64_id (x := 100000 - -s) (by omega) (by omega)]
    rw [wrapS64_id (x := 100000 - -s + 1) (by omega) (by omega)]
    rw [wrapS64_id (x := -1 * (100000 - -s + 1)) (by omega) (by omega)]
    rw [wrapS64_tdiv (by omega) (by omega)]
    congr 1
  · rw [wrapS64_id (x := 100000 - s) (by omega) (by omega)]
    rw [wrapS64_id (x := 100000 - s + 1) (by omega) (by omega)]
    rw [wrapS64_id (x := 1 * (100000 - s + 1)) (by omega) (by omega)]
    rw [wrapS64_tdiv (by omega) (by omega)]
    congr 1

/-- the text the model prints for a score is determined by the translated Go functions -/
theorem formatScore_tie (s : Int) (h1 : -4611686018427387904 < s) (h2 : s < 4611686018427387904) :
    Model.formatScore s = if Gen.Fn.closeToMate s then .mate (Gen.Fn.fullMovesToMate s) else .cp s := by
  unfold Model.formatScore
  rw [closeToMate_tie s (by omega) (by omega), fullMovesToMate_tie s h1 h2]

/-- Go's `abs` overflows at the least int64 (the one argument excluded above): the translated code says so -/
theorem abs_minInt64 : Gen.Fn.abs (-9223372036854775808) = -9223372036854775808 := by decide

example : Gen.Fn.fullMovesToMate 99997 = 2 ∧ Gen.Fn.fullMovesToMate (-99996) = -2 ∧ Gen.Fn.closeToMate 99997 = true
    ∧ Gen.Fn.closeToMate 20650 = false ∧ Gen.Fn.pliesToMate (-99996) = 4 ∧ Gen.Fn.nextMoveWins 99999 = true := by decide

/-- values that occur in a search: far inside int64 -/
def Small (x : Int) : Prop := -1000000000000 < x ∧ x < 1000000000000

/-- the translated Go decision is `Lemmas.lazyDecision`, for all values a search can produce -/
theorem LazyEvaluate_decision_eq (depth alpha beta : Int) (mate : Bool) (cheap : Int) (own enemy : Nat)
    (hd : Small depth) (ha : Small alpha) (hb : Small beta) (hc : Small cheap) (ho : own < 1000000) (he : enemy < 1000000) :
    Gen.Fn.LazyEvaluate_decision depth alpha beta mate cheap own enemy = Lemmas.lazyDecision depth alpha beta mate cheap own enemy := by
  unfold Small at *
  unfold Gen.Fn.LazyEvaluate_decision Lemmas.lazyDecision
  cases mate with
  | true =>
    simp only [↓reduceIte, Gen.LostScore]
    rw [wrapS64_id (by omega) (by omega)]
  | false =>
    simp only [Bool.false_eq_true, ↓reduceIte, Gen.fullEvalScoreMargin, Gen.MobilityScoreFactor, Gen.DrawScore]
    rw [wrapS64_id (x := beta + 320) (by omega) (by omega), wrapS64_id (x := alpha - 320) (by omega) (by omega),
      wrapS64_id (x := (own:Int) * 5) (by omega) (by omega), wrapS64_id (x := (enemy:Int) * 5) (by omega) (by omega),
      wrapS64_id (x := (own:Int) * 5 - (enemy:Int) * 5) (by omega) (by omega),
      wrapS64_id (x := cheap + ((own:Int) * 5 - (enemy:Int) * 5)) (by omega) (by omega)]
    have c320 : ((320 : Nat) : Int) = 320 := rfl
    have c0 : ((0 : Nat) : Int) = 0 := rfl
    simp only [c320, c0]
    by_cases hcut : cheap > beta + 320 ∨ cheap < alpha - 320
    · have hb' : (decide (cheap > beta + 320) || decide (cheap < alpha - 320)) = true := by
        rcases hcut with h | h
        · simp [h]
        · simp [h]
      rw [if_pos hb', if_pos hb']
    · have hb' : ¬ ((decide (cheap > beta + 320) || decide (cheap < alpha - 320)) = true) := by
        intro h
        rw [Bool.or_eq_true, decide_eq_true_eq, decide_eq_true_eq] at h
        exact hcut h
      rw [if_neg hb', if_neg hb']
      by_cases h0 : own = 0
      · subst h0; rfl
      · have a1 : ¬ ((own * 5 == 0) = true) := by rw [beq_iff_eq]; omega
        have a2 : ¬ ((((own:Int) * 5) == 0) = true) := by rw [beq_iff_eq]; omega
        rw [if_neg a1, if_neg a2]
        have e1 : ((own * 5 : Nat) : Int) = (own : Int) * 5 := by omega
        have e2 : ((enemy * 5 : Nat) : Int) = (enemy : Int) * 5 := by omega
        rw [e1, e2]
        omega

/-- the decision structure of the lazy evaluation: given the same four sub-results (mate test, cheap score, the two
    mobility counts) the hand-written model returns what the translated Go code returns -/
theorem lazyEvaluate_tie (blend : Model.Blend) (p : Model.Position) (depth alpha beta : Int)
    (mate : Bool) (cheap : Int) (own enemy : Nat)
    (hd : Small depth) (ha : Small alpha) (hb : Small beta) (hc : Small cheap) (ho : own < 1000000) (he : enemy < 1000000)
    (h1 : Model.isCheckMate p = .ok mate)
    (h2 : mate = false → Model.pieceSquareScore blend p = .ok cheap)
    (h3 : mate = false → Model.countMoves p = .ok own)
    (h4 : mate = false → Model.countMoves (Model.flipTurn p) = .ok enemy) :
    Model.lazyEvaluate blend p depth alpha beta = .ok (Gen.Fn.LazyEvaluate_decision depth alpha beta mate cheap own enemy) := by
  rw [Lemmas.lazyEvaluate_decision h1 h2 h3 h4, LazyEvaluate_decision_eq depth alpha beta mate cheap own enemy hd ha hb hc ho he]

theorem terminalNodeScore_tie (p : Model.Position) (depth : Int) (hd : Small depth) (chk : Bool)
    (h : Model.isCurrentKingUnderCheck p = .ok chk) :
    Model.terminalNodeScore p depth = .ok (Gen.Fn.terminalNodeScore_decision depth chk) := by
  unfold Small at hd
  unfold Model.terminalNodeScore Gen.Fn.terminalNodeScore_decision
  simp only [h, bind, Except.bind, pure, Except.pure, Gen.LostScore, Gen.DrawScore]
  rw [wrapS64_id (by omega) (by omega)]
  cases chk <;> rfl

example : Gen.Fn.LazyEvaluate_decision 3 (-50) 50 true 0 0 0 = -99997 ∧ Gen.Fn.LazyEvaluate_decision 3 (-50) 50 false 900 20 20 = 900
    ∧ Gen.Fn.LazyEvaluate_decision 3 (-50) 50 false 10 0 5 = 0 ∧ Gen.Fn.LazyEvaluate_decision 3 (-50) 50 false 10 30 20 = 60 := by decide

end Magog.Props.C05Tie
