import Magog.Lemmas.LegalWitness
import Magog.Props.C06
import Magog.Lemmas.LegalCount

/-! Property C06, specification-level corollaries. `Props/C06.lean` proves that the four hand-copied move
    loops and the two perft drivers agree with EACH OTHER (model-internal), under named side conditions and
    on the assumption that they run without panic. Here they are tied to the rules of chess
    (`Spec.legalMoves`, `Spec.isTactical`, `Spec.paths`, `Spec.tacticalPaths`), for every well-formed
    position (`Inv`) in which the side not to move is not in check (`OppSafe`, see `C01.oppSafe_iff`):

    * all side conditions of C06 follow from `Inv` + `OppSafe` (`countOk_of_inv`; `CastleSafe` by the
      castling-geometry argument of `Lemmas/CastleSpec.lean`);
    * none of the loops panics (`generateTacticalMoves_ok`, `countMoves_spec`, `countTactical_spec` are stated
      as `… = .ok …`; the no-panic proofs are in `Lemmas/CountNoPanic.lean` and `Lemmas/TotalCount.lean`);
    * the tactical generator lists exactly the legal captures (incl. en passant) and promotions, each once;
    * `countMoves` / `countTacticalMoves` return the number of legal / legal tactical moves;
    * `perft d` returns `Spec.paths d`, `perftTactical d` returns `Spec.tacticalPaths (d - 1)` whenever they
      return (they panic by design when the position stack is exhausted, `idx + 1 ≥ cap`).

    All statements are FULL. -/

set_option autoImplicit false

namespace Magog.Props.C06Spec
open Magog Magog.Model Magog.Count Magog.MM Magog.LegalWitness

/-- Every side condition of the C06 counting theorems (`BoardSize`, `EpRankOk`, `PawnsOk`, `CaptureOk`,
    `KingStepSafe`, `CastleSafe`) and `CellsOk` hold on a well-formed position with the opponent not in
    check. -/
theorem countOk_of_inv {p : Position} (inv : Inv p) (hS : OppSafe p) : CountOk p ∧ CellsOk p ∧ KingsOk p :=
  ⟨CountInv.countOk_of_inv inv hS, CountInv.cellsOk_of_inv inv, CountInv.kingsOk_of_inv inv hS⟩

example : Inv startPosition ∧ OppSafe startPosition := ⟨inv_startPosition, Props.C02.oppSafe_start⟩

/-- The tactical generator never panics. -/
theorem generateTacticalMoves_ok {p : Position} (inv : Inv p) (hS : OppSafe p) :
    ∃ ts, generateTacticalMoves p = .ok ts :=
  CountNoPanic.generateTacticalMoves_ok inv hS

/-- **The tactical generator lists exactly the legal tactical moves** (captures incl. en passant, and all
    promotions), each exactly once: a permutation of `(Spec.legalMoves P).filter (Spec.isTactical P)`. -/
theorem tactical_exact {p : Position} {ts : List RMove} (inv : Inv p) (hS : OppSafe p)
    (h : generateTacticalMoves p = .ok ts) :
    (ts.map fun rm => absMove rm.mov).Perm
      ((Spec.legalMoves (abs p)).filter (Spec.isTactical (abs p))) :=
  LegalCount.tactical_perm inv hS h

set_option maxRecDepth 100000 in
/-- instantiated on `c06Witness` (en passant, captures and castling available): hypotheses hold, the tactical
    generator returns 4 moves, hence the rules give exactly 4 legal captures/promotions there -/
example : ∃ ts, generateTacticalMoves c06Witness = .ok ts ∧ ts.length = 4 ∧
    ((Spec.legalMoves (abs c06Witness)).filter (Spec.isTactical (abs c06Witness))).length = 4 := by
  obtain ⟨ts, h⟩ := generateTacticalMoves_ok GenExamples.inv_c06Witness oppSafe_c06Witness
  have hl' : ts.length = 4 := by
    obtain ⟨ts', h', hm⟩ := Witness.c06Witness_tactical
    cases h.symm.trans h'
    exact (List.length_map _).symm.trans (congrArg List.length hm)
  have hp := tactical_exact GenExamples.inv_c06Witness oppSafe_c06Witness h
  exact ⟨ts, h, hl', by rw [← hp.length_eq, List.length_map, hl']⟩

/-- **`countMoves` never panics and returns the number of legal moves.** -/
theorem countMoves_spec {p : Position} (inv : Inv p) (hS : OppSafe p) :
    countMoves p = .ok (Spec.legalMoves (abs p)).length :=
  LegalCount.countMoves_spec inv hS

set_option maxRecDepth 100000 in
/-- instantiated: 20 legal moves in the start position, 35 in `c06Witness` (incl. O-O and a5xb6 e.p.) — the
    right-hand sides are obtained through the theorem from the model's count -/
example : (Spec.legalMoves (abs startPosition)).length = 20 ∧ (Spec.legalMoves (abs c06Witness)).length = 35 := by
  have h1 := countMoves_spec inv_startPosition Props.C02.oppSafe_start
  have h2 := countMoves_spec GenExamples.inv_c06Witness oppSafe_c06Witness
  rw [Witness.start_countMoves] at h1
  rw [Witness.c06Witness_countMoves] at h2
  exact ⟨(ok_inj h1).symm, (ok_inj h2).symm⟩

/-- **`countTacticalMoves` never panics and returns the number of legal tactical moves.** -/
theorem countTactical_spec {p : Position} (inv : Inv p) (hS : OppSafe p) :
    countTacticalMoves p =
      .ok ((Spec.legalMoves (abs p)).filter (Spec.isTactical (abs p))).length :=
  LegalCount.countTactical_spec inv hS

set_option maxRecDepth 100000 in
/-- the promotion witness (White Ke1 Pa7, Black Kh6 Rb8): 8 legal tactical moves (a8 and axb8, four pieces each) -/
example : ((Spec.legalMoves (abs c06PromoWitness)).filter (Spec.isTactical (abs c06PromoWitness))).length = 8 := by
  have h := countTactical_spec Props.C02.inv_promoWitness oppSafe_c06PromoWitness
  have e : countTacticalMoves c06PromoWitness = .ok 8 := okVal_eq_some (by decide +kernel)
  rw [e] at h
  exact (ok_inj h).symm

/-- **perft counts the legal move paths of the rules**: whenever `Perft(d)` returns, it returns
    `Spec.paths (abs p) d`. -/
theorem perft_spec {p : Position} {kt : Killers} {cap d idx n : Nat} (inv : Inv p) (hS : OppSafe p)
    (h : perft kt cap d idx p = .ok n) : n = Spec.paths (abs p) d :=
  LegalCount.perft_spec inv hS h

/-- the generator-tree count `pathsM` of C06 (the intermediate of `perft_eq_paths`) is the rules' count -/
theorem pathsM_spec {p : Position} {kt : Killers} {d n : Nat} (inv : Inv p) (hS : OppSafe p)
    (h : pathsM kt d p = .ok n) : n = Spec.paths (abs p) d :=
  LegalCount.pathsM_spec d p n inv hS h

/-- instantiated (recursive branch, depths 2 and 3) on king and pawn against king (White Ka1 Pa2, Black Kh8):
    the model's perft runs and returns 12 and 69, hence the rules give 12 two-ply and 69 three-ply paths.
    (The start position gives 20 / 400 by `#eval`; kernel evaluation of depth 2 there takes minutes and is
    not part of the build.) -/
example : Inv Lemmas.AlphaBeta.kpaPos ∧ OppSafe Lemmas.AlphaBeta.kpaPos ∧
    Spec.paths (abs Lemmas.AlphaBeta.kpaPos) 2 = 12 ∧ Spec.paths (abs Lemmas.AlphaBeta.kpaPos) 3 = 69 :=
  ⟨inv_kpaPos, oppSafe_kpaPos, (perft_spec inv_kpaPos oppSafe_kpaPos kpa_perft2).symm,
   (perft_spec inv_kpaPos oppSafe_kpaPos kpa_perft3).symm⟩

set_option maxRecDepth 100000 in
example : Spec.paths (abs startPosition) 1 = 20 := by
  exact (perft_spec (kt := Killers.empty) (cap := 200) (idx := 0) inv_startPosition Props.C02.oppSafe_start
    ((perft_one).trans Witness.start_countMoves)).symm

/-- **`PerftTactical(d)`** (depths 0 and 1 both mean "count the tactical moves here") returns the number of
    paths of `d - 1` legal moves followed by one legal tactical move. -/
theorem perftTactical_spec {p : Position} {kt : Killers} {cap d idx n : Nat} (inv : Inv p) (hS : OppSafe p)
    (h : perftTactical kt cap d idx p = .ok n) : n = Spec.tacticalPaths (abs p) (d - 1) :=
  LegalCount.perftTactical_spec inv hS h

set_option maxRecDepth 100000 in
example : Spec.tacticalPaths (abs c06Witness) 0 = 4 := by
  exact (perftTactical_spec (kt := Killers.empty) (cap := 200) (idx := 0) GenExamples.inv_c06Witness
    oppSafe_c06Witness ((perftTactical_one).trans Witness.c06Witness_countTactical)).symm

end Magog.Props.C06Spec
