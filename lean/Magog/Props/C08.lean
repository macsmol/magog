import Magog.Lemmas.FenCount
import Magog.Lemmas.FenFaithful
import Magog.Spec.FenRoundTrip
import Magog.Lemmas.FenWriteWitness

/-! Property C08 — FEN loading is total (error, not crash) and sound.

`Model.parseFen : Bytes → M (Except FenError Position)` models `NewPositionFromFen` (engine/fen.go) over
arbitrary byte strings (`Bytes = List Nat`, also values > 255). The outer `M = Except Panic` layer is a Go
run-time panic, the inner `Except FenError` the engine's orderly rejection. Nothing is assumed about the input.

For every byte string the loader returns normally (accept or reject). An accepted position satisfies
`FenSpec.FenInv` (board size, list caps, every listed square holds a man of the right colour and class, exactly
one king each and the king squares point at them, no pawn on a back rank, off-board slots empty, castling flags
consistent, en-passant square consistent, ply in range without int16 wrap and of the right parity) and its
converse `FenSpec.FenLists`, is the position the six input fields denote (`FenSpec.FenFaithful`), holds no more
men than the engine can represent, and its side NOT to move is not in check (`MM.OppSafe`,
Magog/Spec/MakeMove.lean). The vocabulary is in `Magog/Spec/FenInv.lean`.

`fen_oppSafe` is the loader's `isOpponentKingUnderCheck` test (engine/fen.go): a loader without it accepts
`4k3/8/8/8/8/8/8/4RK2 w - - 0 1`, and `perft 3` on that position panics (capture of the king; DESIGN.md 11.2,
11.3). The `isUnderCheck` call of the test is itself covered by `fen_total`: at that point the piece lists and
the board agree, so it cannot panic (`FenLemmas.oppCheck_total`).

The round trips against the independent writer `Spec.toFen` here are kernel evaluations on concrete strings;
the general theorem is in `Magog/Props/C08RoundTrip.lean` (`fen_roundtrip`, `fen_roundtrip_string`). That only legal
positions are accepted, in whatever lenient spelling the loader admits, is `Props.C08Legal.fen_accepts_only_legal`; that a
rejected `position` command leaves the engine state as it is, `Props.C17.position_keeps_old`. -/

namespace Magog.Props.C08
open Magog Magog.Model Magog.FenSpec Magog.FenLemmas

/-- The loader is total: on EVERY byte string it returns normally (accepts or rejects); it never panics
    (no index out of range on the board, no overflow of the fixed-size piece / pawn lists). -/
theorem fen_total : ∀ s : Bytes, ∃ r, parseFen s = .ok r := by
  intro s
  obtain ⟨r, hr, _⟩ := parseFen_spec s
  exact ⟨r, hr⟩

/-- Whatever the loader accepts satisfies the position invariant `FenInv`. -/
theorem fen_sound {s : Bytes} {p : Position} (h : parseFen s = .ok (.ok p)) : FenInv p :=
  (sound_of_accepts (accepts_of_ok h)).1

/-- Converse direction: the piece lists of an accepted position are complete and duplicate-free and the
    board holds nothing but the twelve piece codes. -/
theorem fen_sound_lists {s : Bytes} {p : Position} (h : parseFen s = .ok (.ok p)) : FenLists p :=
  (sound_of_accepts (accepts_of_ok h)).2.1

/-- The accepted position is the one the input denotes (`FenSpec.FenFaithful`): six fields, eight rank
    strings; the board holds on every one of the 64 squares exactly the code the placement field denotes
    (`expandRank`); side to move, the four castling flags, the en-passant square and the ply are the ones
    the other fields denote. Together with `fen_sound` (off-board slots empty) this determines the whole
    accepted position from the input. -/
theorem fen_faithful {s : Bytes} {p : Position} (h : parseFen s = .ok (.ok p)) : FenFaithful s p :=
  faithful_of_accepts (accepts_of_ok h)

/-- In an accepted position the list lengths ARE the numbers of such men on the board. -/
theorem fen_counts {s : Bytes} {p : Position} (h : parseFen s = .ok (.ok p)) :
    p.whitePawns.length = countCodes p.board [Gen.WPawn] ∧
    p.blackPawns.length = countCodes p.board [Gen.BPawn] ∧
    p.whitePieces.length = countCodes p.board whitePieceCodes ∧
    p.blackPieces.length = countCodes p.board blackPieceCodes ∧
    p.whitePawns.length + p.whitePieces.length = countCodes p.board (Gen.WPawn :: whitePieceCodes) ∧
    p.blackPawns.length + p.blackPieces.length = countCodes p.board (Gen.BPawn :: blackPieceCodes) :=
  counts_of_inv (fen_sound h) (fen_sound_lists h)

/-- What the engine cannot represent is not accepted: an accepted board has exactly one king of each
    colour, at most `pawnCap` (8) pawns and at most `pieceCap` (15) non-king men of each colour — counted
    on the board, not on the lists — and no pawn on rank 1 or 8. -/
theorem fen_rejects_unrepresentable {s : Bytes} {p : Position} (h : parseFen s = .ok (.ok p)) :
    countCodes p.board [Gen.WKing] = 1 ∧ countCodes p.board [Gen.BKing] = 1 ∧
    countCodes p.board [Gen.WPawn] ≤ pawnCap ∧ countCodes p.board [Gen.BPawn] ≤ pawnCap ∧
    countCodes p.board (Gen.WPawn :: whitePieceCodes) ≤ pieceCap ∧
    countCodes p.board (Gen.BPawn :: blackPieceCodes) ≤ pieceCap ∧
    ∀ i : Nat, (p.board[i]? = some Gen.WPawn ∨ p.board[i]? = some Gen.BPawn) →
      rankOf i ≠ Gen.Rank1 ∧ rankOf i ≠ Gen.Rank8 := by
  have hI := fen_sound h
  obtain ⟨c1, c2, _, _, c5, c6⟩ := fen_counts h
  refine ⟨?_, ?_, ?_, ?_, ?_, ?_, hI.noBackPawn⟩
  · rw [← countKings_eq_countCodes]; exact hI.wKing1
  · rw [← countKings_eq_countCodes]; exact hI.bKing1
  · rw [← c1]; exact hI.wpLen
  · rw [← c2]; exact hI.bpLen
  · rw [← c5]; exact hI.wLen
  · rw [← c6]; exact hI.bLen

/-- In an accepted position the side NOT to move is not in check: the generator cannot produce the capture
    of a king. (`MM.OppSafe p` is literally the loader's test:
    `isUnderCheck p.board (p.side (whiteTurn p)) (p.side (!whiteTurn p)).king = .ok false`.) -/
theorem fen_oppSafe {s : Bytes} {p : Position} (h : parseFen s = .ok (.ok p)) : MM.OppSafe p :=
  (sound_of_accepts (accepts_of_ok h)).2.2

/-- White to move, Black in check on the e-file: rejected in an orderly way … -/
example : parseFen (strBytes "4k3/8/8/8/8/8/8/4RK2 w - - 0 1") =
    .ok (.error (.invalid "side not to move in check")) :=
  FenWrite.checkText_rejected

/-- … while the same placement with BLACK to move (the side to move is in check — legal) is accepted, and
    `fen_oppSafe` applies to it -/
example : ∃ p, parseFen (strBytes "4k3/8/8/8/8/8/8/4RK2 b - - 0 1") = .ok (.ok p) ∧ MM.OppSafe p :=
  FenWrite.checkTextBlack_accepted.imp fun _ hp => ⟨hp, fen_oppSafe hp⟩

example : ∃ p, parseFen (strBytes "rnbqkbnr/pppppppp/8/8/8/8/PPPPPPPP/RNBQKBNR w KQkq - 0 1") = .ok (.ok p) ∧
    MM.OppSafe p :=
  FenWrite.startFen_accepted.imp fun _ hp => ⟨hp.1, fen_oppSafe hp.1⟩

example : ∃ p, parseFen (strBytes "rnbqkbnr/pppppppp/8/8/8/8/PPPPPPPP/RNBQKBNR w KQkq - 0 1") = .ok (.ok p) :=
  FenWrite.startFen_accepted.imp fun _ hp => hp.1

/-- a position with an en-passant square (after 1. e4) is accepted -/
example : ∃ p, parseFen (strBytes "rnbqkbnr/pppppppp/8/8/4P3/8/PPPP1PPP/RNBQKBNR b KQkq e3 0 1") = .ok (.ok p) :=
  accepted_iff.1 (by decide +kernel)

/-- the accepted start position: the hypotheses of `fen_sound` … `fen_rejects_unrepresentable` are satisfiable,
    and their conclusions are not trivially about empty lists (8 pawns, 7 pieces per side) -/
example : ∃ p, parseFen (strBytes "rnbqkbnr/pppppppp/8/8/8/8/PPPPPPPP/RNBQKBNR w KQkq - 0 1") = .ok (.ok p) ∧
    FenInv p ∧ FenLists p ∧ countCodes p.board [Gen.WPawn] = 8 ∧ countCodes p.board blackPieceCodes = 7 := by
  obtain ⟨p, hp, h8, h7, _⟩ := FenWrite.startFen_accepted
  exact ⟨p, hp, fen_sound hp, fen_sound_lists hp, by rw [← (fen_counts hp).1]; exact h8,
    by rw [← (fen_counts hp).2.2.2.1]; exact h7⟩

example : ∃ p, FenFaithful (strBytes "rnbqkbnr/pppppppp/8/8/8/8/PPPPPPPP/RNBQKBNR w KQkq - 0 1") p :=
  FenWrite.startFen_accepted.imp fun _ hp => fen_faithful hp.1

-- the second argument of `roundTrips` is the full-move number handed to the writer (the last field of the text)
example : roundTrips "rnbqkbnr/pppppppp/8/8/8/8/PPPPPPPP/RNBQKBNR w KQkq - 0 1" 1 = true := by decide +kernel
example : roundTrips "r3k2r/p1ppqpb1/bn2pnp1/3PN3/1p2P3/2N2Q1p/PPPBBPPP/R3K2R w KQkq - 0 1" 1 = true :=
  FenWrite.roundTrips_of_sameTextOn FenWrite.kiwipete_sameText
example : roundTrips "rnbqkbnr/ppp1pppp/8/8/3pP3/8/PPPP1PPP/RNBQKBNR b KQkq e3 0 3" 3 = true :=
  FenWrite.roundTrips_of_sameTextOn FenWrite.epText_sameText
example : roundTrips "8/2p5/3p4/KP5r/1R3p1k/8/4P1P1/8 w - - 0 57" 57 = true := by decide +kernel

theorem not_accepted_of_rejectedWith {s : Bytes} {e : FenError} (h : rejectedWith (parseFen s) e = true) :
    ∀ p, parseFen s ≠ .ok (.ok p) := by
  intro p hp; rw [rejectedWith_iff.1 h] at hp; cases hp

example : parseFen [300, 47, 1000] = .ok (.error .nonAscii) := rejectedWith_iff.1 (by decide +kernel)

example : parseFen [] = .ok (.error .fields) := rejectedWith_iff.1 (by decide +kernel)

/-- no white king -/
example : ∀ p, parseFen (strBytes "rnbqkbnr/pppppppp/8/8/8/8/PPPPPPPP/RNBQ1BNR w kq - 0 1") ≠ .ok (.ok p) :=
  not_accepted_of_rejectedWith (e := .invalid "kings") (by decide +kernel)

/-- two black kings -/
example : ∀ p, parseFen (strBytes "rnbqkbnr/pppppppp/8/8/8/k7/PPPPPPPP/RNBQKBNR w KQkq - 0 1") ≠ .ok (.ok p) :=
  not_accepted_of_rejectedWith (e := .invalid "kings") (by decide +kernel)

/-- a pawn on a back rank -/
example : ∀ p, parseFen (strBytes "rnbqkbnP/pppppppp/8/8/8/8/PPPPPPP1/RNBQKBNR w KQq - 0 1") ≠ .ok (.ok p) :=
  not_accepted_of_rejectedWith (e := .invalid "pawn on back rank") (by decide +kernel)

/-- nine white pawns -/
example : ∀ p, parseFen (strBytes "rnbqkbnr/pppppppp/8/8/8/P7/PPPPPPPP/RNBQKBNR w KQkq - 0 1") ≠ .ok (.ok p) :=
  not_accepted_of_rejectedWith (e := .invalid "too many pieces") (by decide +kernel)

/-- sixteen non-king white men (8 pawns, 8 pieces) -/
example : ∀ p, parseFen (strBytes "rnbqkbnr/pppppppp/8/8/8/Q7/PPPPPPPP/RNBQKBNR w KQkq - 0 1") ≠ .ok (.ok p) :=
  not_accepted_of_rejectedWith (e := .invalid "too many pieces") (by decide +kernel)

/-- a ninth file in a rank (the file counter is a Go byte) -/
example : ∀ p, parseFen (strBytes "rnbqkbnrr/pppppppp/8/8/8/8/PPPPPPPP/RNBQKBNR w KQkq - 0 1") ≠ .ok (.ok p) :=
  not_accepted_of_rejectedWith (e := .invalid "more than 8 files") (by decide +kernel)

/-- en-passant square that does not match the position -/
example : ∀ p, parseFen (strBytes "rnbqkbnr/pppppppp/8/8/8/8/PPPPPPPP/RNBQKBNR b KQkq e3 0 1") ≠ .ok (.ok p) :=
  not_accepted_of_rejectedWith (e := .invalid "en passant") (by decide +kernel)

/-- full-move counter beyond the int16-safe bound -/
example : ∀ p, parseFen (strBytes "rnbqkbnr/pppppppp/8/8/8/8/PPPPPPPP/RNBQKBNR w KQkq - 0 10000") ≠ .ok (.ok p) :=
  not_accepted_of_rejectedWith (e := .invalid "full move counter too large") (by decide +kernel)

end Magog.Props.C08
