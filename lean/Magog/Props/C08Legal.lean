import Magog.Lemmas.FenLegal
import Magog.Props.C08RoundTrip
import Magog.Props.C08
import Magog.Props.C02

/-! Property C08, converse of the round trip — "the loader accepts ONLY legal positions".

`Props/C08RoundTrip.lean` shows that every legal position of the rules specification (`Spec.Legal`,
Magog/Spec/Chess.lean) is accepted when written as FEN text, and loaded with exactly its meaning. Here the other
direction, for ARBITRARY input bytes (not only text produced by the writer): the abstraction `abs p` of an accepted
position satisfies `Spec.Legal`, so the positions the loader can produce are, up to the ply counter, EXACTLY the
legal positions of the specification. No clause of `Spec.Legal` fails and no extra hypothesis is needed: every
clause is one of the loader's tests (`hasRoomFor`, king count, back-rank pawns, `castlingConsistent`,
`epConsistent`, `isOpponentKingUnderCheck`), read through the list/board bijection of the invariant `Inv`. The
same holds for any model position satisfying `Inv` (so for every position reached by generated moves,
`Props.C02.history_inv`): it is `Spec.Legal` iff the side not to move is not in check (`MM.OppSafe`). The ply of
an accepted position ranges over exactly `0 … 2·maxFullMoveCounter − 1` (= 19997). -/

namespace Magog.Props.C08Legal
open Magog Magog.Model Magog.FenSpec Magog.FenLemmas Magog.FenWrite

/-- **C08, only legal positions are accepted.** Whatever byte string the loader accepts, the loaded position
    is a legal position of the rules-of-chess specification. -/
theorem fen_accepts_only_legal {s : Bytes} {p : Position} (h : parseFen s = .ok (.ok p)) :
    Spec.Legal (abs p) = true :=
  FenLegal.legal_of_inv (C02.fen_inv h) (C08.fen_oppSafe h)

private theorem epText_accepted :
    ∃ p, parseFen (strBytes "rnbqkbnr/pppppppp/8/8/4P3/8/PPPP1PPP/RNBQKBNR b Kq e3 0 3") = .ok (.ok p) := by
  rw [← epWitness_text]
  exact (C08RoundTrip.fen_roundtrip epWitness_legal (by decide : 1 ≤ 3) (by decide)).imp fun _ h => h.1

example : ∃ p, parseFen (strBytes "rnbqkbnr/pppppppp/8/8/8/8/PPPPPPPP/RNBQKBNR w KQkq - 0 1") = .ok (.ok p) ∧
    Spec.Legal (abs p) = true :=
  startFen_accepted.imp fun _ hp => ⟨hp.1, fen_accepts_only_legal hp.1⟩

/-- a position with an en-passant square, partial castling rights and Black to move … -/
example : ∃ p, parseFen (strBytes "rnbqkbnr/pppppppp/8/8/4P3/8/PPPP1PPP/RNBQKBNR b Kq e3 0 3") = .ok (.ok p) ∧
    Spec.Legal (abs p) = true :=
  epText_accepted.imp fun _ hp => ⟨hp, fen_accepts_only_legal hp⟩

/-- … also when the text is not what the writer would produce (castling letters in another order and repeated,
    a half-move clock that is not a number, a signed full-move number with leading zeros): the theorem is about
    all accepted byte strings. -/
example : ∃ p, parseFen (strBytes "r3k2r/8/8/3pP3/8/8/8/R3K2R w qkQKq d6 x +007") = .ok (.ok p) ∧
    Spec.Legal (abs p) = true :=
  (accepted_iff.1 (by decide +kernel)).imp fun _ hp => ⟨hp, fen_accepts_only_legal hp⟩

/-- **C08, the accepted positions are exactly the legal ones.** -/
theorem fen_accepted_positions_exact (P : Spec.Pos) :
    (∃ s p, parseFen s = .ok (.ok p) ∧ abs p = P) ↔ Spec.Legal P = true := by
  constructor
  · rintro ⟨s, p, h, rfl⟩
    exact fen_accepts_only_legal h
  · intro hL
    obtain ⟨p, hp, ha, _⟩ := C08RoundTrip.fen_roundtrip hL (Nat.le_refl 1) (by decide)
    exact ⟨_, p, hp, ha⟩

/-- both sides of the equivalence occur: the en-passant witness is produced by the loader … -/
example : ∃ s p, parseFen s = .ok (.ok p) ∧ abs p = epWitness :=
  (fen_accepted_positions_exact epWitness).2 epWitness_legal

/-- … while no input at all makes the loader produce the start placement with an en-passant square e3
    (no pawn has just made a double step) -/
example : ¬ ∃ s p, parseFen s = .ok (.ok p) ∧ abs p = { Spec.startPos with turn := .black, ep := some 20 } := by
  rw [fen_accepted_positions_exact]
  decide +kernel

/-- **Every well-formed model position in which the side not to move is not in check is a legal position of the
    specification** — not only the loaded ones: `Inv` and `OppSafe` are preserved along every game of generated,
    accepted moves (`Props.C02.history_inv`). -/
theorem inv_oppSafe_legal {p : Position} (hI : Inv p) (hS : MM.OppSafe p) : Spec.Legal (abs p) = true :=
  FenLegal.legal_of_inv hI hS

/-- … and for a well-formed model position this is an equivalence. -/
theorem inv_legal_iff_oppSafe {p : Position} (hI : Inv p) : Spec.Legal (abs p) = true ↔ MM.OppSafe p :=
  FenLegal.legal_iff_oppSafe hI

/-- non-vacuity: the engine's initial position (built by `Model.startPosition`, not loaded from FEN) -/
example : Inv startPosition ∧ MM.OppSafe startPosition ∧ Spec.Legal (abs startPosition) = true :=
  ⟨inv_startPosition, C02.oppSafe_start, inv_oppSafe_legal inv_startPosition C02.oppSafe_start⟩

/-- The ply of an accepted position is in the range of the move counter:
    `0 ≤ ply ≤ 2 · maxFullMoveCounter − 1` (= 19997; `FenInv.plyRange` has the weaker bound `2 · maxFullMoveCounter`). -/
theorem fen_accepted_ply_range {s : Bytes} {p : Position} (h : parseFen s = .ok (.ok p)) :
    0 ≤ p.ply ∧ p.ply ≤ 2 * (Gen.maxFullMoveCounter : Int) - 1 := by
  obtain ⟨n, h1, h2, h3⟩ := FenLegal.ply_of_faithful (C08.fen_faithful h)
  rw [h3]
  cases whiteTurn p <;> simp <;> omega

/-- … more precisely it is `2 (n − 1)` (White to move) or `2 (n − 1) + 1` (Black to move) for a full-move number
    `1 ≤ n ≤ maxFullMoveCounter`. -/
theorem fen_accepted_ply_exact {s : Bytes} {p : Position} (h : parseFen s = .ok (.ok p)) :
    ∃ n : Int, 1 ≤ n ∧ n ≤ (Gen.maxFullMoveCounter : Int) ∧
      p.ply = 2 * (n - 1) + (if (abs p).turn = .white then 0 else 1) := by
  obtain ⟨n, h1, h2, h3⟩ := FenLegal.ply_of_faithful (C08.fen_faithful h)
  refine ⟨n, h1, h2, ?_⟩
  rw [h3]
  show _ = 2 * (n - 1) + (if (if whiteTurn p then Spec.Color.white else Spec.Color.black) = .white then 0 else 1)
  cases whiteTurn p <;> rfl

example : ∃ p, parseFen (strBytes "rnbqkbnr/pppppppp/8/8/4P3/8/PPPP1PPP/RNBQKBNR b Kq e3 0 3") = .ok (.ok p) ∧
    0 ≤ p.ply ∧ p.ply ≤ 2 * (Gen.maxFullMoveCounter : Int) - 1 :=
  epText_accepted.imp fun _ hp => ⟨hp, fen_accepted_ply_range hp⟩

/-- The range of `fen_accepted_ply_range` is exact: every ply `0 … 2 · maxFullMoveCounter − 1` is the ply of some
    accepted position. -/
theorem fen_accepted_ply_range_tight (k : Nat) (hk : (k : Int) ≤ 2 * (Gen.maxFullMoveCounter : Int) - 1) :
    ∃ s p, parseFen s = .ok (.ok p) ∧ p.ply = k := by
  have hk' : k ≤ 19997 := by simp only [Gen.maxFullMoveCounter] at hk; omega
  rcases Nat.mod_two_eq_zero_or_one k with h0 | h1
  · obtain ⟨p, hp, _, hply⟩ := C08RoundTrip.fen_roundtrip (n := k / 2 + 1) startPos_legal (by omega)
      (by simp only [Gen.maxFullMoveCounter]; omega)
    refine ⟨_, p, hp, ?_⟩
    have ht : Spec.startPos.turn = .white := rfl
    rw [hply, if_pos ht]
    omega
  · obtain ⟨p, hp, _, hply⟩ := C08RoundTrip.fen_roundtrip (n := k / 2 + 1) epWitness_legal (by omega)
      (by simp only [Gen.maxFullMoveCounter]; omega)
    refine ⟨_, p, hp, ?_⟩
    have ht : ¬ epWitness.turn = .white := by decide
    rw [hply, if_neg ht]
    omega

/-- the two ends of the range, on concrete texts -/
example : (match parseFen (strBytes "rnbqkbnr/pppppppp/8/8/8/8/PPPPPPPP/RNBQKBNR w KQkq - 0 1") with
    | .ok (.ok p) => p.ply == 0 | _ => false) = true := by
  obtain ⟨p, hp, _, _, h0⟩ := startFen_accepted
  rw [hp]
  exact beq_iff_eq.2 h0
example : (match parseFen (strBytes "rnbqkbnr/pppppppp/8/8/4P3/8/PPPP1PPP/RNBQKBNR b Kq e3 0 9999") with
    | .ok (.ok p) => p.ply == 19997 | _ => false) = true := by decide +kernel

end Magog.Props.C08Legal
