import Magog.Lemmas.FenWriteTail
import Magog.Lemmas.FenWriteString
import Magog.Lemmas.FenWriteWitness

/-! Property C08, first sentence — "every syntactically valid FEN describing a legal position is loaded
    with exactly its meaning": the GENERAL round trip against the independent writer, for ALL legal
    positions (`Props/C08.lean` has it on four sample positions only).

`Spec.toFenBytes : Spec.Pos → Nat → Bytes` (Magog/Spec/FenBytes.lean) is the byte-level twin of the independent
writer `Spec.toFen` (Magog/Spec/Fen.lean): same structure (ranks 8 → 1 with run-length encoded gaps, side,
castling letters, en-passant square, half-move clock `0`, full-move number in decimal), producing the loader's
input type `List Nat` directly. `Spec.Legal` (Magog/Spec/Chess.lean) is the specification's "legal position".

For every `Spec.Legal` position `P` and full-move number `1 ≤ n ≤ maxFullMoveCounter` the written text is
ACCEPTED and the loaded position abstracts to exactly `P`. No extra hypothesis is needed: every test of the loader
(`hasRoomFor`, king count, pawns on back ranks, `castlingConsistent`, `epConsistent`, side-not-to-move-in-check,
counter range) is implied by the corresponding clause of `Spec.Legal`, resp. by `1 ≤ n ≤ maxFullMoveCounter`; the
range condition on `n` is also necessary, and the written text determines the position. The tie to the `String`
writer (`toFen_bytes`, hence `fen_roundtrip_string` on `strBytes (Spec.toFen P n)`) is a general proof through core's
`String.toList_*`, `Nat.toDigits`, `utf8EncodeChar` lemmas (the text is pure ASCII), and is checked once more by
kernel evaluation on seven texts at the end. -/

namespace Magog.Props.C08RoundTrip
open Magog Magog.Model Magog.FenSpec Magog.FenWrite

/-- **General FEN round trip.** For every legal position `P` (in the sense of the rules specification) and
    every full-move number the engine can represent, the FEN text written by the independent writer is
    accepted by the loader (`parseFen … = .ok (.ok p)`: no panic, no rejection), and the loaded position `p`
    has exactly the meaning of the text: `abs p = P` (all 64 squares, side to move, the four castling rights,
    the en-passant square) and the ply the full-move number and side denote. -/
theorem fen_roundtrip {P : Spec.Pos} {n : Nat} :
    Spec.Legal P = true → 1 ≤ n → n ≤ Gen.maxFullMoveCounter →
    ∃ p, parseFen (Spec.toFenBytes P n) = .ok (.ok p) ∧ abs p = P ∧
      p.ply = 2 * ((n : Int) - 1) + (if P.turn = .white then 0 else 1) :=
  roundtrip

/-- the hypotheses are satisfiable: the start position, move 1 … -/
example : ∃ p, parseFen (Spec.toFenBytes Spec.startPos 1) = .ok (.ok p) ∧ abs p = Spec.startPos ∧ p.ply = 0 := by
  obtain ⟨p, h1, h2, h3⟩ := fen_roundtrip startPos_legal (Nat.le_refl 1) (by decide)
  exact ⟨p, h1, h2, by rw [h3]; rfl⟩

/-- … a position with an en-passant square, partial castling rights and Black to move, move 3 (ply 5) … -/
example : ∃ p, parseFen (Spec.toFenBytes epWitness 3) = .ok (.ok p) ∧ abs p = epWitness ∧ p.ply = 5 := by
  obtain ⟨p, h1, h2, h3⟩ := fen_roundtrip epWitness_legal (by decide : 1 ≤ 3) (by decide)
  exact ⟨p, h1, h2, by rw [h3]; rfl⟩

/-- … and a sparse endgame position at the largest representable move number -/
example : ∃ p, parseFen (Spec.toFenBytes sparseWitness Gen.maxFullMoveCounter) = .ok (.ok p) ∧ abs p = sparseWitness :=
  (fen_roundtrip sparseWitness_legal (by decide) (Nat.le_refl _)).imp fun _ h => ⟨h.1, h.2.1⟩

/-- the written text of the en-passant witness, for the reader -/
example : Spec.toFenBytes epWitness 3 = strBytes "rnbqkbnr/pppppppp/8/8/4P3/8/PPPP1PPP/RNBQKBNR b Kq e3 0 3" :=
  epWitness_text

/-- The range condition on the full-move number in `fen_roundtrip` is necessary: for a legal position the
    text written with move number 0 or beyond `maxFullMoveCounter` is NOT accepted. -/
theorem fen_roundtrip_range_necessary {P : Spec.Pos} {n : Nat} :
    Spec.Legal P = true → (n < 1 ∨ Gen.maxFullMoveCounter < n) →
    ∀ p, parseFen (Spec.toFenBytes P n) ≠ .ok (.ok p) :=
  range_necessary

example : ∀ p, parseFen (Spec.toFenBytes Spec.startPos 10000) ≠ .ok (.ok p) :=
  fen_roundtrip_range_necessary startPos_legal (Or.inr (by decide))

/-- **The written FEN determines the position**: two legal positions with the same text are equal (and so
    are the move numbers) — `Spec.toFenBytes` is injective on `Spec.Legal` positions. -/
theorem fen_roundtrip_unique {P Q : Spec.Pos} {n m : Nat} :
    Spec.Legal P = true → Spec.Legal Q = true → Spec.toFenBytes P n = Spec.toFenBytes Q m → P = Q ∧ n = m :=
  toFenBytes_inj

example : Spec.Legal Spec.startPos = true ∧ Spec.Legal epWitness = true ∧
    Spec.toFenBytes Spec.startPos 1 ≠ Spec.toFenBytes epWitness 1 :=
  ⟨startPos_legal, epWitness_legal, by decide +kernel⟩

/-- **The two writers agree.** For every legal position (and every move number) the loader's byte view
    (`strBytes` = UTF-8 bytes) of the text produced by the independent `String` writer `Spec.toFen` is the
    output of the byte writer `Spec.toFenBytes`. General proof, not an evaluation. -/
theorem toFen_bytes {P : Spec.Pos} (n : Nat) :
    Spec.Legal P = true → strBytes (Spec.toFen P n) = Spec.toFenBytes P n :=
  fun h => FenWrite.toFen_bytes h n

/-- **General FEN round trip, on the `String` writer**: the text `Spec.toFen P n` of a legal position is accepted
    and loaded with exactly its meaning. -/
theorem fen_roundtrip_string {P : Spec.Pos} {n : Nat} :
    Spec.Legal P = true → 1 ≤ n → n ≤ Gen.maxFullMoveCounter →
    ∃ p, parseFen (strBytes (Spec.toFen P n)) = .ok (.ok p) ∧ abs p = P ∧
      p.ply = 2 * ((n : Int) - 1) + (if P.turn = .white then 0 else 1) := by
  intro h h1 h2
  rw [toFen_bytes n h]
  exact fen_roundtrip h h1 h2

example : ∃ p, parseFen (strBytes (Spec.toFen epWitness 3)) = .ok (.ok p) ∧ abs p = epWitness ∧ p.ply = 5 := by
  obtain ⟨p, h1, h2, h3⟩ := fen_roundtrip_string epWitness_legal (by decide : 1 ≤ 3) (by decide)
  exact ⟨p, h1, h2, by rw [h3]; rfl⟩

/-! The same equation by kernel evaluation on concrete positions (independent of the general proof).
    `sameTextOn s n` loads `s`, abstracts, and checks `strBytes (Spec.toFen · n) == Spec.toFenBytes · n` on the
    result and that `Spec.toFen` gives back `s`. -/

example : strBytes (Spec.toFen Spec.startPos 1) = Spec.toFenBytes Spec.startPos 1 := by decide +kernel
example : strBytes (Spec.toFen Spec.startPos 9999) = Spec.toFenBytes Spec.startPos 9999 := by decide +kernel
example : strBytes (Spec.toFen epWitness 3) = Spec.toFenBytes epWitness 3 := by decide +kernel
example : strBytes (Spec.toFen sparseWitness 57) = Spec.toFenBytes sparseWitness 57 := by decide +kernel
example : sameTextOn "r3k2r/p1ppqpb1/bn2pnp1/3PN3/1p2P3/2N2Q1p/PPPBBPPP/R3K2R w KQkq - 0 1" 1 = true :=
  kiwipete_sameText
example : sameTextOn "rnbqkbnr/ppp1pppp/8/8/3pP3/8/PPPP1PPP/RNBQKBNR b KQkq e3 0 3" 3 = true := epText_sameText
example : sameTextOn "8/2p5/3p4/KP5r/1R3p1k/8/4P1P1/8 w - - 0 120" 120 = true := by decide +kernel

end Magog.Props.C08RoundTrip
