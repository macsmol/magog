import Magog.Lemmas.Geometry
import Magog.Lemmas.Attack
import Magog.Lemmas.Inv

/-! Property C09 — attack / check detection matches chess geometry. Assumed of the position is only what the test reads:
    `Atk.BoardOk` and `Atk.SideOk` (Lemmas/Attack.lean), the fields `board`, `white`, `black` of `Inv`. -/

namespace Magog.Props.C09
open Magog Magog.Model Magog.Geo Magog.Atk

/-- Every entry of the engine's *initialised* attack table (regenerated from the source each run) is
    exactly the geometric relation of that piece kind, for all ordered pairs of board squares; nothing
    attacks across the board edge. -/
theorem attackTable_geometry (a t : Nat) (ha : a ∈ sq88) (ht : t ∈ sq88) :
    hasBit a t Gen.KnightAttacks = Spec.manAttacks emptyBoard ⟨.white, .knight⟩ (to64 a) (to64 t) ∧
    hasBit a t Gen.KingAttacks = Spec.manAttacks emptyBoard ⟨.white, .king⟩ (to64 a) (to64 t) ∧
    hasBit a t Gen.WPawnAttacks = Spec.manAttacks emptyBoard ⟨.white, .pawn⟩ (to64 a) (to64 t) ∧
    hasBit a t Gen.BPawnAttacks = Spec.manAttacks emptyBoard ⟨.black, .pawn⟩ (to64 a) (to64 t) ∧
    hasBit a t Gen.RookAttacks = Spec.onLine (to64 a) (to64 t) ∧
    hasBit a t Gen.BishopAttacks = Spec.onDiag (to64 a) (to64 t) ∧
    hasBit a t Gen.QueenAttacks = (Spec.onLine (to64 a) (to64 t) || Spec.onDiag (to64 a) (to64 t)) :=
  pair_bits ha ht

/-- Attack detection is the rules-of-chess notion, for EVERY well-formed board and arrangement of men:
    `isUnderCheck` does not panic (no index error, no `hang`) and its answer is `Spec.attacked` — sliders
    are blocked by any man strictly in between, knights / kings / pawns are not, pawns attack in the
    direction of their colour, nothing attacks across the board edge. `BoardOk`: 128 slots, on-board slots
    hold 0 or one of the twelve piece codes. `SideOk`: the side's pawn list, piece list and king square
    describe exactly that colour's men on the board. -/
theorem C09_attacked (board : Array Nat) (enemy : Side) (white : Bool) (dest : Nat) :
    BoardOk board → SideOk board enemy white → dest < 128 → isValid dest = true →
    isUnderCheck board enemy dest
      = .ok (Spec.attacked (absBoard board) (if white then .white else .black) (to64 dest)) :=
  fun hb hs h1 h2 => isUnderCheck_eq hb hs (mem_sq88.2 ⟨h1, h2⟩)

example : BoardOk startPosition.board ∧ SideOk startPosition.board (startPosition.side false) false ∧
    (0x04 < 128 ∧ isValid 0x04 = true) :=
  ⟨inv_startPosition.board, inv_startPosition.black, by decide⟩

/-- a position with a blocked and an unblocked slider (white Ra1 Bf1 Ke1 Pa2, black Rh1 Ka8): the
    hypotheses hold, and through the theorem the model's answers are the rules' answers — the black rook
    h1 attacks f1 (g1 is empty) but not e1 (the bishop on f1 stands in between) -/
private theorem blocked_ok : BoardOk blockedBoard ∧ SideOk blockedBoard blockedBlack false :=
  ⟨boardOk_of_boardOkB (by decide +kernel), sideOk_of_sideOkB (by decide +kernel)⟩

example : BoardOk blockedBoard ∧ SideOk blockedBoard blockedBlack false := blocked_ok

-- f1 = 0x05 is attacked, e1 = 0x04 is not
example : isUnderCheck blockedBoard blockedBlack 0x05 = .ok true := by
  rw [C09_attacked blockedBoard blockedBlack false 0x05 blocked_ok.1 blocked_ok.2 (by decide) (by decide)]
  exact congrArg _ (by decide +kernel)

example : isUnderCheck blockedBoard blockedBlack 0x04 = .ok false := by
  rw [C09_attacked blockedBoard blockedBlack false 0x04 blocked_ok.1 blocked_ok.2 (by decide) (by decide)]
  exact congrArg _ (by decide +kernel)

/-- `isCurrentKingUnderCheck` is the rules' "side to move is in check", for every well-formed position. -/
theorem C09_inCheck (p : Position) :
    BoardOk p.board → SideOk p.board (p.side true) true → SideOk p.board (p.side false) false →
    isCurrentKingUnderCheck p = .ok (Spec.inCheck (abs p).board (abs p).turn) := by
  intro hb hw hbl
  simp only [isCurrentKingUnderCheck, abs]
  cases whiteTurn p
  · exact inCheck_eq (w := false) hb hbl hw
  · exact inCheck_eq (w := true) hb hw hbl

example : BoardOk startPosition.board ∧ SideOk startPosition.board (startPosition.side true) true ∧
    SideOk startPosition.board (startPosition.side false) false :=
  ⟨inv_startPosition.board, inv_startPosition.white, inv_startPosition.black⟩

end Magog.Props.C09
