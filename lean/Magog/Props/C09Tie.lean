import Magog.Lemmas.GoArith

/-! C09 - indexing of the attack / direction tables: Go's `moveIndex`, `square.getFile`, `square.getRank`.

    Tie theorems: `Magog.Gen.Fn.*` is printed by the Go→Lean translator `harness/cmd/go2lean` from the current Go
    source on every run (T0); these theorems equate the translation with the hand-written model for all
    arguments below 256 (`getRank`: below 128), so the model's theorems
    about these functions hold of the code as translated. A change of the Go function changes the generated definition
    and this module is re-checked. -/

namespace Magog.Props.C09Tie
open Magog Magog.Lemmas.GoArith Magog.Gen.Fn

theorem moveIndex_tie (f t : Nat) (hf : f < 256) (ht : t < 256) :
    Gen.Fn.moveIndex f t = Model.moveIndex f t := by
  unfold Gen.Fn.moveIndex Model.moveIndex
  simp only [Gen.lastValidSquare]
  rw [wrapS16_id (x := 119 + (t:Int)) (by omega) (by omega)]
  rw [wrapS16_id (by omega) (by omega)]
  omega

theorem getFile_tie : ∀ s : Fin 256, Gen.Fn.square_getFile (s.val : Int) = (Model.fileOf s.val : Int) := by
  decide +kernel

theorem getRank_tie : ∀ s : Fin 128, Gen.Fn.square_getRank (s.val : Int) = (Model.rankOf s.val : Int) := by
  decide +kernel

/-- for squares of the board the translated index (both squares at most `lastValidSquare`) stays inside the 239-entry tables -/
theorem moveIndex_in_table (f t : Nat) (hf : f ≤ 119) (ht : t ≤ 119) :
    0 ≤ Gen.Fn.moveIndex f t ∧ Gen.Fn.moveIndex f t < 239 := by
  rw [moveIndex_tie f t (by omega) (by omega)]
  unfold Model.moveIndex
  simp only [Gen.lastValidSquare]
  omega

example : Gen.Fn.moveIndex 0 119 = 238 ∧ Gen.Fn.moveIndex 119 0 = 0 ∧ Gen.Fn.square_getRank 0x77 = 0x70 ∧ Gen.Fn.square_getFile 0x77 = 7 := by decide

end Magog.Props.C09Tie
