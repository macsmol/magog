import Magog.Lemmas.Proto

/-! Property C12 — `stop` / `isready` at any moment: no deadlock, no lost stop, engine stays usable; no
    unsynchronised shared state between command handling and the search.

Theorems are about the transition system of `Model/Protocol.lean` instantiated with the handler shape
*extracted from the source on this run* (`sourceShape`), for every reachable state — i.e. every command
history allowed by UCI and every interleaving with the search thread, of any length (induction over
`Reach`). They depend on the shape: for `oldShape` (unbuffered channel, blocking send guarded by the `interrupted` flag,
`isready` allocating a new `Search` every time, `go` not draining) a deadlock, a lost stop and an orphaned search are
proved at the end (DESIGN §6 F9).

The proofs read the transition table of `Lemmas/Proto.lean`: a reachable state is `fresh r b g` (no `Search` object yet) or
`live c fl thr r b g` (one object with `c` queued tokens and flag `fl`; `thr` the phase of the search thread, if any);
`r`, `b`, `g` count the `readyok`s, `bestmove`s and `go`s.

Left to run time: "promptly" — how soon the search thread performs its next poll — and the Go
scheduler are not expressible here; the theorems say the request *is queued for the live search and
stays queued until that search takes it*. -/

namespace Magog.Props.C12
open Magog Magog.Model.Proto

theorem sourceShape_eq : sourceShape =
    { cap := 1, stopNonBlocking := true, stopReadsFlag := false, isreadyAlwaysNew := false, goDrains := true } := by
  decide

/-- inductive invariant of the protocol of `sourceShape`: the command thread is never blocked, at most one
    Search object exists, the global points to it, the search thread (if any) runs on it, the channel
    holds at most one token, and every `go` is matched by exactly one `bestmove` once its thread is done -/
def Inv (s : State) : Prop :=
  s.cmd = .idle ∧
  s.bestmoves + (if alive s then 1 else 0) = s.gos ∧
  ((s.objs = [] ∧ s.cur = 0 ∧ s.thr = none) ∨
   (∃ c b, s.objs = [⟨c, b⟩] ∧ c ≤ 1 ∧ s.cur = 1 ∧ (s.thr = none ∨ ∃ ph, s.thr = some ⟨1, ph⟩)))

private theorem shape_eq : sourceShape = repaired := sourceShape_eq

private def aliveP : Option Phase → Bool
  | some ph => ph != .done
  | none => false

private theorem inv_iff {s : State} : Inv s ↔
    (∃ r b, s = fresh r b b) ∨
    ∃ c fl thr r b g, c ≤ 1 ∧ s = live c fl thr r b g ∧ b + (if aliveP thr then 1 else 0) = g := by
  rcases s with ⟨objs, cur, thr, cmd, r, b, g⟩
  constructor
  · rintro ⟨rfl, hb, ⟨rfl, rfl, rfl⟩ | ⟨c, fl, rfl, hc, rfl, rfl | ⟨ph, rfl⟩⟩⟩
    · exact .inl ⟨r, b, by simp only [alive] at hb; rw [← hb]; rfl⟩
    · exact .inr ⟨c, fl, none, r, b, g, hc, rfl, hb⟩
    · exact .inr ⟨c, fl, some ph, r, b, g, hc, rfl, hb⟩
  · rintro (⟨r', b', h⟩ | ⟨c, fl, thr', r', b', g', hc, h, hb⟩) <;> cases h
    · exact ⟨rfl, rfl, .inl ⟨rfl, rfl, rfl⟩⟩
    · refine ⟨rfl, ?_, .inr ⟨c, fl, rfl, hc, rfl, ?_⟩⟩
      · cases thr' <;> exact hb
      · cases thr' with
        | none => exact .inl rfl
        | some ph => exact .inr ⟨ph, rfl⟩

theorem inv_init : Inv init := inv_iff.2 (.inl ⟨0, 0, rfl⟩)

theorem inv_step (s s' : State) (l : Label) (h : Inv s) (hs : step sourceShape s l = some s') : Inv s' := by
  rw [shape_eq] at hs
  rcases inv_iff.1 h with ⟨r, b, rfl⟩ | ⟨c, fl, thr, r, b, g, hc, rfl, hb⟩
  · rw [step_fresh] at hs
    cases l <;> cases hs
    · exact inv_iff.2 (.inr ⟨0, true, none, _, b, b, Nat.zero_le 1, rfl, rfl⟩)
    · exact h
    · exact inv_iff.2 (.inr ⟨0, true, some .spawned, r, b, b + 1, Nat.zero_le 1, rfl, rfl⟩)
  · rw [step_live hc] at hs
    -- every row of the table keeps `c ≤ 1`; the counters move only with `go` (a thread comes alive) and `tPrint`
    -- (it stops being alive as its `bestmove` is counted)
    have live' : ∀ c' fl' thr' r' b' g', c' ≤ 1 → b' + (if aliveP thr' then 1 else 0) = g' →
        Inv (live c' fl' thr' r' b' g') := fun c' fl' thr' r' b' g' h1 h2 =>
      inv_iff.2 (.inr ⟨c', fl', thr', r', b', g', h1, rfl, h2⟩)
    cases l <;> cases thr <;> (try rename_i ph; cases ph) <;> (try cases fl) <;> cases hs <;>
      exact live' _ _ _ _ _ _ (by omega) (by simp [aliveP] at hb ⊢ <;> omega)

theorem inv_reach {s : State} (h : Reach sourceShape s) : Inv s := by
  induction h with
  | init => exact inv_init
  | step l _ hs ih => exact inv_step _ _ l ih hs

/-- **no deadlock**: in every reachable state the command thread is idle — no handler ever blocks -/
theorem no_block {s : State} (h : Reach sourceShape s) : s.cmd = .idle := (inv_reach h).1

/-- …and therefore `isready`, `stop` and (when no search is alive) `go` are always enabled:
    `isready` is always answered -/
theorem isready_always_answered {s : State} (h : Reach sourceShape s) :
    ∃ s', step sourceShape s .isready = some s' ∧ s'.readyoks = s.readyoks + 1 := by
  rw [shape_eq]
  rcases inv_iff.1 (inv_reach h) with ⟨r, b, rfl⟩ | ⟨c, fl, thr, r, b, g, hc, rfl, -⟩
  · exact ⟨_, step_fresh .., rfl⟩
  · exact ⟨_, step_live hc .., rfl⟩

/-- **isready does not disturb or orphan the search**: once a Search object exists, `isready` changes
    nothing but the answer count -/
theorem isready_keeps_search {s s' : State} (h : Reach sourceShape s) (hcur : s.cur ≠ 0)
    (hs : step sourceShape s .isready = some s') :
    s'.objs = s.objs ∧ s'.cur = s.cur ∧ s'.thr = s.thr ∧ s'.cmd = s.cmd := by
  rw [shape_eq] at hs
  rcases inv_iff.1 (inv_reach h) with ⟨r, b, rfl⟩ | ⟨c, fl, thr, r, b, g, hc, rfl, -⟩
  · exact absurd rfl hcur
  · rw [step_live hc] at hs
    cases hs
    exact ⟨rfl, rfl, rfl, rfl⟩

/-- **the global always addresses the live search**: a search thread runs on the object `stop` writes to -/
theorem isready_safe {s : State} (h : Reach sourceShape s) (t : Thread) (ht : s.thr = some t) :
    t.obj = s.cur ∧ s.cur ≠ 0 := by
  rcases inv_iff.1 (inv_reach h) with ⟨r, b, rfl⟩ | ⟨c, fl, thr, r, b, g, -, rfl, -⟩
  · cases ht
  · cases thr <;> cases ht
    exact ⟨rfl, Nat.one_ne_zero⟩

/-- **no lost stop**: after `stop` is handled while a search thread has not left its loops, a token is
    queued on that thread's own channel -/
theorem no_lost_stop {s s' : State} (h : Reach sourceShape s) (t : Thread) (ht : s.thr = some t)
    (hs : step sourceShape s .stop = some s') :
    s'.thr = some t ∧ (getObj s' t.obj).chan ≥ 1 := by
  rw [shape_eq] at hs
  rcases inv_iff.1 (inv_reach h) with ⟨r, b, rfl⟩ | ⟨c, fl, thr, r, b, g, hc, rfl, -⟩
  · cases ht
  · rw [step_live hc] at hs
    cases hs
    cases thr <;> cases ht
    exact ⟨rfl, Nat.le_refl 1⟩

/-- **the token stays until the search takes it**: no step of anybody else removes it; the thread's own
    steps keep it except the poll that observes it -/
theorem token_persists {s s' : State} (h : Reach sourceShape s) (o : Nat) (ph : Phase) (ht : s.thr = some ⟨o, ph⟩)
    (hph : ph = .spawned ∨ ph = .running) (htok : (getObj s o).chan ≥ 1) (l : Label) (hl : l ≠ .tPoll)
    (hs : step sourceShape s l = some s') :
    ∃ ph', s'.thr = some ⟨o, ph'⟩ ∧ (getObj s' o).chan ≥ 1 := by
  rw [shape_eq] at hs
  rcases inv_iff.1 (inv_reach h) with ⟨r, b, rfl⟩ | ⟨c, fl, thr, r, b, g, hc, rfl, -⟩
  · cases ht
  · cases thr <;> cases ht
    -- the thread's object is the one object, and it holds exactly one token
    have hc1 : c = 1 := Nat.le_antisymm hc htok
    subst hc1
    rw [step_live hc] at hs
    cases l with
    | tPoll => exact absurd rfl hl
    | _ => rcases hph with rfl | rfl <;> cases hs <;> exact ⟨_, rfl, Nat.le_refl 1⟩

/-- **the search observes it at its next poll** (and an interrupted search does not poll again, it can
    only leave its loops and print its single bestmove) -/
theorem stop_observed {s : State} (o : Nat) (ht : s.thr = some ⟨o, .running⟩)
    (hni : (getObj s o).interrupted = false) (htok : (getObj s o).chan ≥ 1) (sh : Shape) :
    ∃ s', step sh s .tPoll = some s' ∧ (getObj s' o).interrupted = true ∧ s'.thr = some ⟨o, .running⟩ ∧
      step sh s' .tPoll = none ∧ ∃ s'', step sh s' .tLeave = some s'' ∧ s''.thr = some ⟨o, .finishing⟩ := by
  have hpos : (getObj s o).chan > 0 := by omega
  have hl : o - 1 < s.objs.length := by
    apply Classical.byContradiction
    intro hn
    have : s.objs[o - 1]? = none := by simp; omega
    simp [getObj, List.getD, this] at htok
  let s1 := setObj s o { chan := (getObj s o).chan - 1, interrupted := true }
  have hget : getObj s1 o = { chan := (getObj s o).chan - 1, interrupted := true } := by
    simp [s1, getObj, setObj, List.getD, hl]
  have hthr : s1.thr = some ⟨o, .running⟩ := by simp [s1, setObj, ht]
  refine ⟨s1, ?_, ?_, hthr, ?_, ?_⟩
  · simp [step, ht, hni, hpos, s1]
  · rw [hget]
  · simp [step, hthr, hget]
  · exact ⟨{ s1 with thr := some ⟨o, .finishing⟩ }, by simp [step, hthr], rfl⟩

/-- **exactly one bestmove per go**: in every reachable state the number of `bestmove`s equals the number
    of `go`s, minus one while the last search is still alive -/
theorem one_bestmove_per_go {s : State} (h : Reach sourceShape s) :
    s.bestmoves + (if alive s then 1 else 0) = s.gos := (inv_reach h).2.1

/-- **a stop that arrives after the search has finished cannot hurt the next search**: `go` starts with
    an empty channel -/
theorem go_starts_clean {s s' : State} (h : Reach sourceShape s) (hs : step sourceShape s .go = some s') :
    (getObj s' s'.cur).chan = 0 ∧ s'.thr = some ⟨s'.cur, .spawned⟩ := by
  rw [shape_eq] at hs
  rcases inv_iff.1 (inv_reach h) with ⟨r, b, rfl⟩ | ⟨c, fl, thr, r, b, g, hc, rfl, -⟩
  · rw [step_fresh] at hs
    cases hs
    exact ⟨rfl, rfl⟩
  · rw [step_live hc] at hs
    cases thr <;> (try rename_i ph; cases ph) <;> cases hs <;> exact ⟨rfl, rfl⟩

/-! ### shared state (static access table regenerated from the source) -/

/-- locations with an unsynchronised access by the search thread and a conflicting (one of them a
    write) unsynchronised access by the `stop` or `isready` handler -/
def conflicts (tbl : List (String × String × String × String)) : List String :=
  (tbl.filter fun (loc, th, k, sy) =>
    th == "search" && sy == "" &&
    tbl.any fun (loc', th', k', sy') =>
      loc' == loc && (th' == "stop" || th' == "isready") && sy' == "" && (k == "W" || k' == "W")).map (·.1)

/-- `conflicts` with the inner test reordered: the thread test, which three rows of the table pass, runs before
    the comparison of the long location names. The kernel evaluates `&&` from the left, so on `Gen.sharedAccess`
    this is a quarter of the work. -/
private def conflicts' (tbl : List (String × String × String × String)) : List String :=
  (tbl.filter fun (loc, th, k, sy) =>
    th == "search" && sy == "" &&
    tbl.any fun (loc', th', k', sy') =>
      (th' == "stop" || th' == "isready") && (sy' == "" && ((k == "W" || k' == "W") && loc' == loc))).map (·.1)

private theorem conflicts_eq (tbl : List (String × String × String × String)) : conflicts tbl = conflicts' tbl := by
  unfold conflicts conflicts'
  congr 1
  refine List.filter_congr fun ⟨loc, th, k, sy⟩ _ => ?_
  dsimp only
  congr 2
  funext ⟨loc', th', k', sy'⟩
  dsimp only
  cases (loc' == loc) <;> cases (th' == "stop" || th' == "isready") <;> cases (sy' == "") <;>
    cases (k == "W" || k' == "W") <;> rfl

/-- **race freedom** (static): code reachable from the `stop` / `isready` handlers and code reachable from
    the search goroutine's entry share no location with conflicting accesses that are not channel
    operations or atomics -/
theorem race_free : conflicts Gen.sharedAccess = [] := by
  rw [conflicts_eq]
  decide +kernel

/-! ### the protocol of `oldShape`: failure witnesses -/

/-- `go`, search runs to completion, `stop`: the command thread blocks in the send and *no* step is
    enabled any more — the "all goroutines are asleep" deadlock -/
theorem old_deadlock : ∃ s, run oldShape init [.go, .tStart, .tLeave, .tPrint, .stop] = some s ∧
    s.cmd = .blockedSend 1 ∧ ∀ l, step oldShape s l = none := by
  refine ⟨_, rfl, rfl, ?_⟩
  intro l; cases l <;> rfl

/-- `go` immediately followed by `stop`: the handler sees the flag still true and drops the request; the
    search then polls an empty channel -/
theorem old_lost_stop : ∃ s, run oldShape init [.go, .stop, .tStart, .tPoll] = some s ∧
    (getObj s 1).interrupted = false ∧ (getObj s 1).chan = 0 ∧ s.thr = some ⟨1, .running⟩ := ⟨_, rfl, rfl, rfl, rfl⟩

/-- `isready` during a search replaces the object: the live search runs on object 1, `stop` addresses 2 -/
theorem old_orphan : ∃ s, run oldShape init [.go, .tStart, .isready, .stop] = some s ∧
    s.thr = some ⟨1, .running⟩ ∧ s.cur = 2 ∧ (getObj s 1).chan = 0 ∧ s.cmd = .idle := ⟨_, rfl, rfl, rfl, rfl, rfl⟩

/-- non-vacuity: a reachable state of the protocol of `sourceShape` with a live search and a queued stop -/
example : (run sourceShape init [.isready, .go, .isready, .tStart, .stop, .stop, .isready]).map
      (fun s => (s.thr, (getObj s 1).chan, s.readyoks, s.cmd)) =
    some (some ⟨1, .running⟩, 1, 3, .idle) := by decide

end Magog.Props.C12
