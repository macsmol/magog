import Magog.Lemmas.Deadline
import Magog.Lemmas.DeadlineGhost
import Magog.Lemmas.SearchExamples

/-! Property C13, "the deadline is honoured" — once the clock says the time is up the search starts no new sibling
    at any level, evaluates at most one more line, and announces the result of the last completed depth.

**The model.** The clock is the oracle `env.timeUp : Nat → Bool` over the consultation counter `s.tick` (one tick per
consultation of any oracle). `ClockMono env`: a clock that has answered `true` answers `true` ever after.
`Late env s`: as seen from `s` the deadline has passed (every clock consultation from now on answers `true`; under
`ClockMono` this is `env.timeUp s.tick = true`). The search reads the clock in five places, each right after a callee
returned: `qLoop`, `abLoop` (`pollAfterMove`), `rootLoop` after a child, `deepenLoop` and `iterDeep` after an
iteration. `s.nodes` counts evaluated nodes; only the node functions increment it (`quiescence` on entry, BEFORE any
clock test; terminal nodes of `alphaBeta` / `startAlphaBeta`), the loops never do.

**The headline statement** is `deadline_honoured`: for a monotone clock and a successful `iterDeep … = .ok s`, with
`n₀` the node count at the moment the consultation counter first reaches a tick at which the clock answers `true`,
`s.nodes ≤ n₀ + max qfuel 1`. `n₀` is the node count of an INTERMEDIATE state of the run, which the functional model
does not expose (its functions return final states only); it is defined by the instrumented search `iterDeepG`
(`Magog/Lemmas/DeadlineGhost.lean`): the functions of `Model/Search.lean` copied with a ghost `g : Option Nat`
threaded through, set by `upd` after EVERY oracle consultation (and on the initial state) to the current node count
the first time `env.timeUp s.tick` holds. The instrumentation is proved inert: whenever the model returns `s`,
`iterDeepG` returns the same `s` (with the ghost) — the conclusion is stated about the model's own result.
The bound `max qfuel 1` is what the code gives, not an artefact: the loops test the clock AFTER a child returns,
not before the next one is entered, and the stop-channel / print-gate consultations advance the same counter; so a
subtree can be entered in a late state, and `quiescence` counts its node on entry before it looks at the clock —
one node per level of the leftmost line down to the end of the quiescence search. In the example below the
deadline falls at 13 nodes and the run ends with 14. The other theorems say the same loop by loop. -/

namespace Magog.Props.C13Deadline
open Magog Magog.Model

/-- **C13, the deadline is honoured.** Monotone clock, a successful search `iterDeep … = .ok s`. The instrumented
    search `iterDeepG` (the same search with a ghost that records the node count `n₀` at the moment the consultation
    counter first reaches a tick at which the clock answers `true`) returns the same final state `s`, and
    * if the deadline was reached during the run (`g = some n₀`): **at most `max qfuel 1` nodes were evaluated after
      it**, `s.nodes ≤ n₀ + max qfuel 1` — whatever the position, the depth limit, the other oracles, the point of
      the search at which the deadline falls;
    * otherwise (`g = none`) the clock would still answer `false` at the end of the run. -/
theorem deadline_honoured {env : Env} (hm : ClockMono env) {qfuel : Nat} {p : Position} {maxDepth : Nat}
    {killers : Killers} {rows : Array (Array Move)} {len0 : Nat} {s : SS}
    (h : iterDeep env qfuel p maxDepth killers rows len0 = .ok s) :
    ∃ g, iterDeepG env qfuel p maxDepth killers rows len0 = .ok (s, g) ∧
      (∀ n₀, g = some n₀ → s.nodes ≤ n₀ + max qfuel 1) ∧ (g = none → env.timeUp s.tick = false) :=
  iterDeepG_spec hm h

open SearchExamples in
set_option maxRecDepth 100000 in
/-- non-vacuity, and the bound is met with one node to spare: `go depth 3` on Ka1 v Kh8 with the clock running out at
    consultation 40 (in the middle of iteration 3): 13 nodes had been evaluated when the deadline was reached, the
    run ends with 14 (`qfuel = 3`); under the quiet oracle the deadline is never reached -/
example : ClockMono timedEnv ∧ (∃ s, iterDeep timedEnv 3 kkPos 3 Killers.empty (newRows 6) 6 = .ok s) ∧
    (∃ s, iterDeepG timedEnv 3 kkPos 3 Killers.empty (newRows 6) 6 = .ok (s, some 13) ∧ s.nodes = 14) ∧
    (∃ s, iterDeepG quietEnv 3 kkPos 2 Killers.empty (newRows 6) 6 = .ok (s, none)) := by
  have hmono : ClockMono timedEnv := fun a b hab h => by
    simp only [timedEnv, exEnv, decide_eq_true_eq] at h ⊢; omega
  obtain ⟨s, _, _, _, _, _, hs, _, _⟩ := endsWithBest_elim timed_run3
  obtain ⟨-, -, -, ht, hq, -⟩ := runs
  obtain ⟨⟨s', g⟩, hr, h⟩ := okAnd'_elim ht
  obtain ⟨⟨s2, g2⟩, hr2, h2⟩ := okAnd'_elim hq
  simp only [Bool.and_eq_true, beq_iff_eq] at h h2
  obtain ⟨h1, rfl⟩ := h
  subst h2
  exact ⟨hmono, ⟨s, hs⟩, ⟨s', hr, h1⟩, s2, hr2⟩

/-- **`qLoop`.** The child entered for `mv` returns in a late state `s1` (`hl`): the loop returns the window `alpha`
    and line length `curLen` it was entered with, in the state `s1.afterBreak` (`s1`, plus the one clock consultation
    unless the stop flag is set); the siblings `rest` are never entered. For every `child`. -/
theorem no_new_sibling_after_timeup_qLoop {env : Env} {child : NodeFn} {p : Position} {idx depth : Nat} {beta : Int}
    {mv : RMove} {rest : List RMove} {alpha : Int} {curLen subLen : Nat} {s : SS} {q : Position}
    {v : Int} {sub' : Nat} {s1 : SS}
    (hcap : ¬ idx + 1 ≥ env.stackCap) (hmk : makeMove p mv.mov = .ok (q, true))
    (hch : child q (idx + 1) (depth + 1) (-beta) (-alpha) subLen s = .ok (v, sub', s1)) (hl : Late env s1) :
    qLoop env child p idx depth beta (mv :: rest) alpha curLen subLen s = .ok ⟨alpha, curLen, s1.afterBreak⟩ ∧
      s1.afterBreak.nodes = s1.nodes ∧ Late env s1.afterBreak :=
  ⟨qLoop_no_new_sibling hcap hmk hch hl, s1.afterBreak_nodes, hl.afterBreak⟩

/-- **`abLoop`.** The child entered for `mv` returns `x` in a late state: the loop returns `abAfterChild … x` — the
    fail-hard cut-off with its killer update, or the improved window followed by the break —; the siblings `rest`
    are never entered; the state returned has the child's node count and is late. For every `child`. -/
theorem no_new_sibling_after_timeup_abLoop {env : Env} {child : NodeFn} {p : Position} {idx depth : Nat} {beta : Int}
    {mv : RMove} {rest : List RMove} {alpha : Int} {curLen subLen : Nat} {s : SS} {q : Position}
    {x : Int × Nat × SS}
    (hni : s.interrupted = false) (hcap : ¬ idx + 1 ≥ env.stackCap) (hmk : makeMove p mv.mov = .ok (q, true))
    (hch : child q (idx + 1) (depth + 1) (-beta) (-alpha) subLen s = .ok x) (hl : Late env x.2.2) :
    abLoop env child p idx depth beta (mv :: rest) alpha curLen subLen s = abAfterChild p depth beta mv alpha curLen x ∧
      ∀ r, abAfterChild p depth beta mv alpha curLen x = .ok r → r.st.nodes = x.2.2.nodes ∧ Late env r.st :=
  ⟨abLoop_no_new_sibling hni hcap hmk hch hl, fun _ hr =>
    ⟨(abAfterChild_ok hr).1, hl.mono (abAfterChild_ok hr).2⟩⟩

/-- **`rootLoop`.** The child entered for the root move `mv` returns `x` in a late state: the root loop updates (and,
    gate permitting, prints) the best line if the move improved it, and returns; the remaining root moves are never
    searched; the state returned has the child's node count and is late. For every `child`. -/
theorem no_new_sibling_after_timeup_rootLoop {env : Env} {child : NodeFn} {p : Position} {target : Nat}
    {mv : RMove} {rest : List RMove} {alpha : Int} {curLen subLen : Nat} {s : SS} {q : Position}
    {x : Int × Nat × SS}
    (hni : s.interrupted = false) (hcap : ¬ 1 ≥ env.stackCap) (hmk : makeMove p mv.mov = .ok (q, true))
    (hch : child q 1 1 (-(Gen.InfinityScore : Int)) (-alpha) subLen s = .ok x) (hl : Late env x.2.2) :
    rootLoop env child p target (mv :: rest) alpha curLen subLen s = rootAfterChild env target mv alpha curLen x ∧
      ∀ r, rootAfterChild env target mv alpha curLen x = .ok r → r.st.nodes = x.2.2.nodes ∧ Late env r.st :=
  ⟨rootLoop_no_new_sibling hni hcap hmk hch hl, fun _ hr =>
    ⟨(rootAfterChild_ok hr).1, hl.mono (rootAfterChild_ok hr).2⟩⟩

open SearchExamples in
/-- non-vacuity of the three: Ka1 v Kh8, the move Ka1–a2 followed by two siblings, a clock that is up, a child that
    returns at once (the hypotheses are satisfied; the conclusions then give the explicit results) -/
example :
    let env := exEnv (fun _ => true) (fun _ => false)
    let child : NodeFn := fun _ _ _ _ _ l s => pure (0, l, s)
    let mv : RMove := ⟨⟨0, 0x10, 0, Gen.InvalidSquare⟩, 0, false⟩
    let rest : List RMove := [⟨⟨0, 0x11, 0, Gen.InvalidSquare⟩, 0, false⟩, ⟨⟨0, 0x01, 0, Gen.InvalidSquare⟩, 0, false⟩]
    ∃ q, makeMove kkPos mv.mov = .ok (q, true) ∧ ¬ 0 + 1 ≥ env.stackCap ∧ freshSS.interrupted = false ∧
      child q 1 1 (-5) (-3) 0 freshSS = .ok (0, 0, freshSS) ∧ Late env freshSS ∧
      qLoop env child kkPos 0 0 5 (mv :: rest) 3 0 0 freshSS = .ok ⟨3, 0, freshSS.consult⟩ := by
  intro env child mv rest
  obtain ⟨⟨q, b⟩, hm, hmk⟩ := okAnd'_elim (show okAnd' (fun r => r.2) (makeMove kkPos mv.mov) = true by decide +kernel)
  dsimp only at hmk
  subst hmk
  have hl : Late env freshSS := fun _ _ => rfl
  refine ⟨q, hm, by decide, rfl, rfl, hl, ?_⟩
  exact (no_new_sibling_after_timeup_qLoop (child := child) (rest := rest) (by decide) hm rfl hl).1

/-- **`deepenLoop`.** The iteration at depth `cur` returns in a late state: it is discarded (its score and line are
    not copied, nothing is printed for it), no deeper iteration is started, the loop returns the score `best` and
    the depth `done` of the last completed iteration, and no node is evaluated after the iteration returned.
    (`Props.C11.C11_interrupted_iteration_discarded` is the same step from one answer `timeUp s1.tick = true`, or
    the interrupt flag.) -/
theorem no_new_iteration_after_timeup {env : Env} {qfuel : Nat} {p : Position} {maxDepth n cur : Nat} {best : Int}
    {done len0 : Nat} {s : SS} {x : Int × Bool × Nat × SS}
    (hcur : ¬ cur > maxDepth) (hsab : startAlphaBeta env qfuel p cur len0 s = .ok x) (hl : Late env x.2.2.2) :
    deepenLoop env qfuel p maxDepth (n + 1) cur best done len0 s = .ok (best, done, x.2.2.2.consult) ∧
      x.2.2.2.consult.nodes = x.2.2.2.nodes :=
  ⟨deepenLoop_discard (Nat.le_of_not_gt hcur) hsab (.inl hl.now), rfl⟩

open SearchExamples in
set_option maxRecDepth 100000 in
/-- non-vacuity: iteration 2 on Ka1 v Kh8 with the clock running out at consultation 5 returns in a late state -/
example : ∃ x, ¬ 2 > 3 ∧ startAlphaBeta earlyEnv 3 kkPos 2 6 freshSS = .ok x ∧ Late earlyEnv x.2.2.2 ∧
    deepenLoop earlyEnv 3 kkPos 3 (0 + 1) 2 17 1 6 freshSS = .ok (17, 1, x.2.2.2.consult) := by
  have hmono : ClockMono earlyEnv := fun a b hab h => by
    simp only [earlyEnv, exEnv, decide_eq_true_eq] at h ⊢; omega
  obtain ⟨-, -, -, -, -, he, -⟩ := runs
  obtain ⟨x, hx, hb⟩ := okAnd'_elim he
  have hl : Late earlyEnv x.2.2.2 := late_of_timeUp hmono hb (Nat.le_refl _)
  exact ⟨x, by decide, hx, hl, (no_new_iteration_after_timeup (by decide) hx hl).1⟩

/-- a quiescence node entered in a late state: itself and its first capture, recursively — at most `fuel` nodes -/
theorem late_subtree_is_one_line_quiescence {env : Env} {fuel : Nat} {p : Position} {idx depth : Nat}
    {alpha beta : Int} {curLen : Nat} {s : SS} {v : Int} {l : Nat} {s' : SS} (hl : Late env s)
    (h : quiescence env fuel p idx depth alpha beta curLen s = .ok (v, l, s')) :
    s'.nodes ≤ s.nodes + fuel ∧ Late env s' :=
  quiescence_nodeLate env fuel _ _ _ _ _ _ _ _ _ _ hl h

/-- an alpha-beta node entered in a late state, whatever its remaining depth `rem`: at most `max qfuel 1` nodes -/
theorem late_subtree_is_one_line_alphaBeta {env : Env} {qfuel rem : Nat} {p : Position} {idx depth : Nat}
    {alpha beta : Int} {curLen : Nat} {s : SS} {v : Int} {l : Nat} {s' : SS} (hl : Late env s)
    (h : alphaBeta env qfuel rem p idx depth alpha beta curLen s = .ok (v, l, s')) :
    s'.nodes ≤ s.nodes + max qfuel 1 ∧ Late env s' :=
  alphaBeta_nodeLate env qfuel rem _ _ _ _ _ _ _ _ _ _ hl h

/-- an iteration entered in a late state, whatever its target depth: at most `max qfuel 1` nodes -/
theorem late_subtree_is_one_line_iteration {env : Env} {qfuel : Nat} {p : Position} {target curLen : Nat} {s : SS}
    {v : Int} {one : Bool} {l : Nat} {s' : SS} (hl : Late env s)
    (h : startAlphaBeta env qfuel p target curLen s = .ok (v, one, l, s')) :
    s'.nodes ≤ s.nodes + max qfuel 1 ∧ Late env s' :=
  startAlphaBeta_late hl h

/-- The deepening loop entered in a late state (the deadline passed at an iteration boundary or before): at most
    `max qfuel 1` more nodes are evaluated — the one line of the iteration it still starts —, that iteration is
    discarded, and the score and depth of the last completed iteration stand. -/
theorem deadline_honoured_at_iteration_boundary {env : Env} {qfuel : Nat} {p : Position} {maxDepth n cur : Nat} {best : Int}
    {done len0 : Nat} {s : SS} {best' : Int} {done' : Nat} {s' : SS} (hl : Late env s)
    (h : deepenLoop env qfuel p maxDepth n cur best done len0 s = .ok (best', done', s')) :
    best' = best ∧ done' = done ∧ s'.nodes ≤ s.nodes + max qfuel 1 :=
  deepenLoop_late hl h

open SearchExamples in
set_option maxRecDepth 100000 in
/-- non-vacuity: the deepening loop on Ka1 v Kh8 from the fresh state with a clock that is up succeeds -/
example : Late (exEnv (fun _ => true) (fun _ => false)) freshSS ∧
    ∃ r, deepenLoop (exEnv (fun _ => true) (fun _ => false)) 3 kkPos 3 3 2 17 1 6 freshSS = .ok r := by
  refine ⟨fun _ _ => rfl, ?_⟩
  obtain ⟨-, -, -, -, -, -, hd, -⟩ := runs
  obtain ⟨r, hr, -⟩ := okAnd'_elim hd
  exact ⟨r, hr⟩

/-- **A search started after its deadline** (monotone clock, `true` from the first consultation on — e.g. `go movetime`
    below the safety margin, where `doGo` computes a negative thinking time). Iteration 1 has no clock test before
    its first root move, so that move IS searched — one line, at most `max qfuel 1` evaluated nodes in all —; no
    other root move and no second iteration is started; the search announces `bestmove m` with the `info` line of
    depth 1 (or `bestmove 0000` when the root has no legal move). -/
theorem search_started_after_deadline {env : Env} {qfuel : Nat} {p : Position} {maxDepth : Nat} {killers : Killers}
    {rows : Array (Array Move)} {len0 : Nat} {s : SS} (hm : ClockMono env) (h0 : env.timeUp 0 = true)
    (h : iterDeep env qfuel p maxDepth killers rows len0 = .ok s) :
    s.nodes ≤ max qfuel 1 ∧
    ((∃ score rest, s.out = .bestmoveNone :: .infoTerminal score :: rest) ∨
     (∃ m best pv rest, s.out = .bestmove m :: .infoPv best 1 s.nodes pv :: rest)) :=
  iterDeep_late_start hm h0 h

open SearchExamples in
set_option maxRecDepth 100000 in
/-- non-vacuity: `go depth 3` on Ka1 v Kh8 with the clock up from the start: the run succeeds, evaluates exactly ONE
    node (against 12 for an unhurried depth-2 search, `C14Log`), and ends with `bestmove` after `info … depth 1` -/
example : ClockMono (exEnv (fun _ => true) (fun _ => false)) ∧
    (exEnv (fun _ => true) (fun _ => false)).timeUp 0 = true ∧
    ∃ s, run (exEnv (fun _ => true) (fun _ => false)) kkPos 3 = .ok s ∧ s.nodes = 1 := by
  refine ⟨fun _ _ _ _ => rfl, rfl, ?_⟩
  obtain ⟨-, -, -, -, -, -, -, hb⟩ := runs
  obtain ⟨s, hr, hb⟩ := okAnd'_elim hb
  exact ⟨s, hr, by simpa using hb⟩

/-- **T1 tie of the clock polls.** The deadline theorems above are about a model that consults its clock oracle in
    `qLoop`, `abLoop`, `rootLoop` and the deepening loop. These four facts are extracted from the Go source on every
    run: each of `quiescence`, `alphaBeta`, `startAlphaBeta`, `StartIterativeDeepening` has a loop whose body tests
    `time.Now().After(deadline)` in an `if` that leaves the loop. If a clock poll disappears from the source the
    fact flips and this theorem (hence the property's proof module) no longer checks. -/
theorem clock_polls_present :
    Gen.clockPoll_quiescence = true ∧ Gen.clockPoll_alphaBeta = true ∧ Gen.clockPoll_startAlphaBeta = true ∧
      Gen.clockPoll_deepening = true := by decide

end Magog.Props.C13Deadline
