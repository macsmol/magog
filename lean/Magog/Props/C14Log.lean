import Magog.Lemmas.LogIndep
import Magog.Lemmas.SearchExamples

/-! Property C14 (logging part) — the analysis does not depend on the option `currmoveLogInterval`.

    In the model the option is `env.logInterval`. It is read in one place only: `quiescence` prints a
    `currmove` line when `nodes % logInterval == 0` (Go integer division: a **zero** interval panics with
    `divZero`; that defect is not the subject here, hence the hypothesis `env'.logInterval ≠ 0`). The line also reads
    `movStack[0][firstMoveIdx]`, which in the model is `s.rootMoves[s.firstMoveIdx]?` with an explicit index panic.

    `C14_logInterval_indep` is proved at full strength: from a successful run under `env` we get a *successful* run
    under `env'` — the extra `currmove` lines that `env'` may print can not hit the index panic, because inside the
    root loop `firstMoveIdx` always points into `rootMoves` (`SimRel.sim_rootLoop` carries the invariant
    `rootMoves = pre ++ remaining ∧ firstMoveIdx = pre.length`) and `alphaBeta` / `quiescence` never write these two
    fields (`Keep`). Method: the simulation relation `Sim s s'` (all fields equal except `out`; `out`s equal after
    dropping `currmove` events) is preserved by every state update of `Model/Search.lean`
    (`LogAgree.simRel` in `Magog/Lemmas/LogIndep.lean`), hence by every function (`Magog/Lemmas/SearchSim.lean`). -/

namespace Magog.Props.C14Log
open Magog Magog.Model

/-- **C14 (logging).** Changing `currmoveLogInterval` to another non-zero value changes nothing but `currmove`
    lines: the run still succeeds, prints the same `info … pv` lines, the same `info depth …` line (score, node
    count, principal variation) for every completed depth, the same final `bestmove`, in the same order; the node
    counter and the stored best line are the same. -/
theorem C14_logInterval_indep {env env' : Env} {qfuel : Nat} {p : Position} {maxDepth : Nat} {killers : Killers}
    {rows : Array (Array Move)} {len0 : Nat} {s : SS}
    (hnz : env'.logInterval ≠ 0) (henv : env' = { env with logInterval := env'.logInterval })
    (h : iterDeep env qfuel p maxDepth killers rows len0 = .ok s) :
    ∃ s', iterDeep env' qfuel p maxDepth killers rows len0 = .ok s' ∧
      s'.out.filter (fun e => !e.isCurrmove) = s.out.filter (fun e => !e.isCurrmove) ∧
      s'.nodes = s.nodes ∧ s'.cand = s.cand := by
  obtain ⟨s', h', sim⟩ := iterDeep_simL (logAgree_of_eq hnz henv) h
  exact ⟨s', h', sim.out, sim.nodes, sim.cand⟩

/-- the complete statement: every component of the final search state other than the output (pv table, killer
    table, node counter, interrupt flag, oracle consultation counter, stored line, root move list and index) is
    the same -/
theorem C14_logInterval_indep_state {env env' : Env} {qfuel : Nat} {p : Position} {maxDepth : Nat} {killers : Killers}
    {rows : Array (Array Move)} {len0 : Nat} {s : SS}
    (hnz : env'.logInterval ≠ 0) (henv : env' = { env with logInterval := env'.logInterval })
    (h : iterDeep env qfuel p maxDepth killers rows len0 = .ok s) :
    ∃ s', iterDeep env' qfuel p maxDepth killers rows len0 = .ok s' ∧ Sim s s' :=
  iterDeep_simL (logAgree_of_eq hnz henv) h

/-- in particular the move played and the final `info` line are literally the same -/
theorem C14_logInterval_bestmove {env env' : Env} {qfuel : Nat} {p : Position} {maxDepth : Nat} {killers : Killers}
    {rows : Array (Array Move)} {len0 : Nat} {s : SS} {m : Move} {best : Int} {D n : Nat} {pv : List Move}
    {rest : List Event}
    (hnz : env'.logInterval ≠ 0) (henv : env' = { env with logInterval := env'.logInterval })
    (h : iterDeep env qfuel p maxDepth killers rows len0 = .ok s)
    (hout : s.out = .bestmove m :: .infoPv best D n pv :: rest) :
    ∃ s' rest', iterDeep env' qfuel p maxDepth killers rows len0 = .ok s' ∧
      s'.out = .bestmove m :: .infoPv best D n pv :: rest' ∧
      rest'.filter (fun e => !e.isCurrmove) = rest.filter (fun e => !e.isCurrmove) :=
  iterDeep_sim_best (logAgree_of_eq hnz henv) h hout

/-- when both intervals are non-zero the two runs succeed or panic together -/
theorem C14_logInterval_ok_iff {env env' : Env} {qfuel : Nat} {p : Position} {maxDepth : Nat} {killers : Killers}
    {rows : Array (Array Move)} {len0 : Nat}
    (hnz : env.logInterval ≠ 0) (hnz' : env'.logInterval ≠ 0)
    (henv : env' = { env with logInterval := env'.logInterval }) :
    (∃ s, iterDeep env qfuel p maxDepth killers rows len0 = .ok s) ↔
    (∃ s', iterDeep env' qfuel p maxDepth killers rows len0 = .ok s') := by
  constructor
  · rintro ⟨s, h⟩
    obtain ⟨s', h', _⟩ := iterDeep_simL (logAgree_of_eq hnz' henv) h
    exact ⟨s', h'⟩
  · rintro ⟨s', h'⟩
    have henv' : env = { env' with logInterval := env.logInterval } := by rw [henv]
    obtain ⟨s, h, _⟩ := iterDeep_simL (logAgree_of_eq hnz henv') h'
    exact ⟨s, h⟩

open Magog.Model.SearchExamples in
/-- non-vacuity: `go depth 2` on `kkPos` (Ka1 v Kh8) with interval 7, and the same environment with interval 1 -/
example : ∃ s, ({ quietEnv with logInterval := 1 } : Env).logInterval ≠ 0 ∧
    ({ quietEnv with logInterval := 1 } : Env) =
      { quietEnv with logInterval := ({ quietEnv with logInterval := 1 } : Env).logInterval } ∧
    iterDeep quietEnv 3 kkPos 2 Killers.empty (newRows 6) 6 = .ok s := by
  obtain ⟨s, _, _, _, _, _, hs, _, _⟩ := endsWithBest_elim quiet_run2
  exact ⟨s, by decide, rfl, hs⟩

open Magog.Model.SearchExamples in
set_option maxRecDepth 100000 in
/-- … and the two runs really differ: 12 nodes each, but 1 `currmove` line (of 10 lines) with interval 7 against 12
    (of 21 lines) with interval 1; with interval 0 the run panics -/
example :
    runStats (run quietEnv kkPos 2) = some (1, 10, 12) ∧
    runStats (run { quietEnv with logInterval := 1 } kkPos 2) = some (12, 21, 12) ∧
    runStats (run { quietEnv with logInterval := 0 } kkPos 2) = none := runs.2.1

end Magog.Props.C14Log
