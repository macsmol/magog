import Magog.Lemmas.UciFrame
import Magog.Props.C14Log
import Magog.Props.Capstone
import Magog.Props.C17
import Magog.Props.C07
import Magog.Props.C03Forms

/-! Property C14 at the command level — the analysis depends on the position `P` and the depth `d` only, not on
    what the engine did before.

What a search started by `go` reads, in the model: the position `posGen` (`UciState.pos`), the killer table
(`UciState.killers`), the depth limit and the deadline computed by `doGo` (the event `searchStarted millis depth`),
the PV buffers left by earlier searches (`rows`, `len0` of `Model.iterDeep`), the option `currmoveLogInterval`
(`Env.logInterval`), and the oracles (clock, stop channel, print gate: `Env`). An accepted `position` command sets
the same position from every state and clears the killer table; the output of a `go` line — in particular the pair
`millis`, `depth` handed to the search — is a function of the position and the line; the stale PV buffers
(`C14.C14_rows_indep`) and the logging option (`C14Log.C14_logInterval_indep`) change nothing but `currmove` lines.
The oracles are the same in the two runs compared. -/

namespace Magog.Props.C14Uci
open Magog Magog.Model Magog.UciFrame Magog.FenSpec

/-- **C14, `position` resets.** Let `l` be a `position` line that is accepted in the state `st₁` (it prints
    nothing: neither `invalid FEN` nor `Invalid position command`). Then from ANY other state `st₂` (any history:
    other position, other killer table, other option value, …) the line is accepted as well, both runs set the
    SAME position, and in both the killer table is empty afterwards. -/
theorem C14_position_resets {ops : EngineOps} {st₁ st₂ st₁' st₂' : UciState} {l : Bytes} {out₂ : List UOut}
    (hl : hasPrefix l Gen.uPosition_bytes = true)
    (h₁ : uciStep ops st₁ l = .ok (st₁', [])) (h₂ : uciStep ops st₂ l = .ok (st₂', out₂)) :
    out₂ = [] ∧ st₂'.pos = st₁'.pos ∧ (∃ p, st₁'.pos = some p) ∧
      st₁'.killers = Killers.empty ∧ st₂'.killers = Killers.empty := by
  obtain ⟨s, hs, a, b, c, d⟩ := uciStep_position_accept hl h₁ st₂
  rw [hs] at h₂
  cases h₂
  exact ⟨rfl, a, d, b, c⟩

/-- the second run need not be assumed: it succeeds because the first does -/
theorem C14_position_resets_total {ops : EngineOps} {st₁ st₁' : UciState} {l : Bytes}
    (hl : hasPrefix l Gen.uPosition_bytes = true) (h₁ : uciStep ops st₁ l = .ok (st₁', [])) (st₂ : UciState) :
    ∃ st₂', uciStep ops st₂ l = .ok (st₂', []) ∧ st₂'.pos = st₁'.pos ∧ (∃ p, st₁'.pos = some p) ∧
      st₁'.killers = Killers.empty ∧ st₂'.killers = Killers.empty := by
  obtain ⟨s, hs, a, b, c, d⟩ := uciStep_position_accept hl h₁ st₂
  exact ⟨s, hs, a, d, b, c⟩

/-- a state with a history: another position (Ka1 v Kh8), a junk killer table, another option value -/
def usedState : UciState :=
  ⟨some SearchExamples.kkPos, true, 77, false, Array.replicate 3 (⟨1, 2, 3, 4⟩, ⟨5, 6, 7, 8⟩)⟩

/-- The state is a variable, so the line is not evaluated: the two moves are legal by the rules (one `Spec.play`),
    so `C07.C07_position_startpos` speaks about the line; the kernel compares the texts. -/
private theorem demoPos_step (st : UciState) :
    ∃ q, uciStep C17.demoOps st (strBytes "position startpos moves e2e4 e7e5")
      = .ok (({ st with pos := some q } : UciState).clearKillers, []) := by
  obtain ⟨P', hP⟩ := Option.isSome_iff_exists.mp
    (show (Spec.play Spec.startPos [⟨12, 28, none⟩, ⟨52, 36, none⟩]).isSome = true by decide +kernel)
  obtain ⟨q, h, -⟩ := C07.C07_position_startpos C07.legalLink_holds (ops := C17.demoOps) rfl rfl rfl st (by decide) hP
  rw [show PosCmd.startposLine ([⟨12, 28, none⟩, ⟨52, 36, none⟩].map Spec.moveText) =
    strBytes "position startpos moves e2e4 e7e5" by decide +kernel] at h
  exact ⟨q, h⟩

/-- non-vacuity: `position startpos moves e2e4 e7e5` from the state of a fresh process and from `usedState` -/
example :
    hasPrefix (strBytes "position startpos moves e2e4 e7e5") Gen.uPosition_bytes = true ∧
    (∃ st₁', uciStep C17.demoOps UciState.init (strBytes "position startpos moves e2e4 e7e5") = .ok (st₁', [])) ∧
    (∃ st₂' out₂, uciStep C17.demoOps usedState (strBytes "position startpos moves e2e4 e7e5") = .ok (st₂', out₂)) ∧
    usedState.pos ≠ UciState.init.pos ∧ usedState.killers ≠ Killers.empty := by
  obtain ⟨_, h₁⟩ := demoPos_step UciState.init
  obtain ⟨_, h₂⟩ := demoPos_step usedState
  refine ⟨by decide +kernel, ⟨_, h₁⟩, ⟨_, [], h₂⟩, (fun h => by cases h), ?_⟩
  intro h
  have := congrArg Array.size h
  rw [Props.C18.killers_empty_size] at this
  simp [usedState, Gen.killerMovesMaxPly] at this

/-- **C14, `go` reads the position only.** For two states with the same position (whatever their killer tables,
    search objects, option values), a `go` line prints the same: the same `searchStarted millis depth` (same
    thinking time, same depth limit), or in both nothing (rejected), or in both `No position set …`; when a search is
    started both runs start it with an EMPTY killer table; the position stays what it was. -/
theorem C14_go_params_depend_on_position_only {ops : EngineOps} {st₁ st₂ st₁' st₂' : UciState} {g : Bytes}
    {out₁ out₂ : List UOut} (hg : hasPrefix g Gen.uGo_bytes = true) (hp : st₁.pos = st₂.pos)
    (h₁ : uciStep ops st₁ g = .ok (st₁', out₁)) (h₂ : uciStep ops st₂ g = .ok (st₂', out₂)) :
    out₁ = out₂ ∧ st₁'.pos = st₁.pos ∧ st₂'.pos = st₂.pos ∧
      (∀ millis depth, UOut.searchStarted millis depth ∈ out₁ →
        st₁'.killers = Killers.empty ∧ st₂'.killers = Killers.empty) := by
  rw [UciTotal.uciStep_go hg] at h₁ h₂
  have hc := doGo_out_congr (ops.str.trimSpace (trimPrefix g Gen.uGo_bytes)) hp
  rw [h₁, h₂] at hc
  have ho : out₁ = out₂ := by injection hc
  subst ho
  have f₁ := doGo_frame h₁
  have f₂ := doGo_frame h₂
  refine ⟨rfl, f₁.pos, f₂.pos, ?_⟩
  intro m d hm
  cases f₁ with
  | noPosition _ => simp at hm
  | rejected _ _ => simp at hm
  | started p hp1 m1 d1 =>
    cases f₂ with
    | started _ _ _ _ => exact ⟨rfl, rfl⟩

/-- non-vacuity: `go wtime 60000 btime 60000 movestogo 30` on the start position, once in a fresh state and once with
    a junk killer table, an allocated search object and another option value: 1950 ms, depth 40 in both -/
example :
    hasPrefix (strBytes "go wtime 60000 btime 60000 movestogo 30") Gen.uGo_bytes = true ∧
    (∃ st', uciStep C17.demoOps ⟨some startPosition, false, 1000000, false, Killers.empty⟩
      (strBytes "go wtime 60000 btime 60000 movestogo 30") = .ok (st', [.searchStarted 1950 40])) ∧
    (∃ st', uciStep C17.demoOps ⟨some startPosition, true, 77, false, usedState.killers⟩
      (strBytes "go wtime 60000 btime 60000 movestogo 30") = .ok (st', [.searchStarted 1950 40])) := by
  have key : ∀ st : UciState, okAnd' (fun r => match r.2 with | [.searchStarted m d] => m == 1950 && d == 40 | _ => false)
      (uciStep C17.demoOps st (strBytes "go wtime 60000 btime 60000 movestogo 30")) = true →
      ∃ st', uciStep C17.demoOps st (strBytes "go wtime 60000 btime 60000 movestogo 30") =
        .ok (st', [.searchStarted 1950 40]) := by
    intro st h
    obtain ⟨⟨s, o⟩, hr, h⟩ := okAnd'_elim h
    match o, h with
    | [.searchStarted m d], h =>
      simp only [Bool.and_eq_true, beq_iff_eq] at h
      obtain ⟨rfl, rfl⟩ := h
      exact ⟨s, hr⟩
  exact ⟨by decide +kernel, key _ (by decide +kernel), key _ (by decide +kernel)⟩

/-- **C14, `position` then `go`.** From two arbitrary states (two histories) the same accepted `position` line
    followed by the same `go` line start the same search: same position, empty killer table, same depth limit, same
    thinking time. (The second session need not be assumed to run: it does because the first does.) -/
theorem C14_position_go_same_search {ops : EngineOps} {st₁ st₁' st₁'' : UciState} {l g : Bytes} {millis depth : Int}
    (hl : hasPrefix l Gen.uPosition_bytes = true) (hg : hasPrefix g Gen.uGo_bytes = true)
    (h₁ : uciStep ops st₁ l = .ok (st₁', [])) (h₁' : uciStep ops st₁' g = .ok (st₁'', [.searchStarted millis depth]))
    (st₂ : UciState) :
    ∃ st₂' st₂'' p, uciStep ops st₂ l = .ok (st₂', []) ∧
      uciStep ops st₂' g = .ok (st₂'', [.searchStarted millis depth]) ∧
      st₁''.pos = some p ∧ st₂''.pos = some p ∧ st₁''.killers = Killers.empty ∧ st₂''.killers = Killers.empty := by
  obtain ⟨st₂', hs, hpos, ⟨p, hp⟩, _, _⟩ := C14_position_resets_total hl h₁ st₂
  -- the `go` line runs from `st₂'` as well: `doGo` is total
  obtain ⟨st₂'', out₂, hr, _⟩ := UciTotal.doGo_spec st₂' (ops.str.trimSpace (trimPrefix g Gen.uGo_bytes))
  rw [← UciTotal.uciStep_go hg] at hr
  obtain ⟨ho, p1, p2, hk⟩ := C14_go_params_depend_on_position_only hg hpos.symm h₁' hr
  subst ho
  obtain ⟨k1, k2⟩ := hk millis depth List.mem_cons_self
  exact ⟨st₂', st₂'', p, hs, hr, by rw [p1, hp], by rw [p2, hpos, hp], k1, k2⟩

/-- non-vacuity: the session `position startpos moves e2e4 e7e5`, `go depth 5` in a fresh process -/
example : ∃ st₁' st₁'' millis,
    hasPrefix (strBytes "position startpos moves e2e4 e7e5") Gen.uPosition_bytes = true ∧
    hasPrefix (strBytes "go depth 5") Gen.uGo_bytes = true ∧
    uciStep C17.demoOps UciState.init (strBytes "position startpos moves e2e4 e7e5") = .ok (st₁', []) ∧
    uciStep C17.demoOps st₁' (strBytes "go depth 5") = .ok (st₁'', [.searchStarted millis 5]) := by
  obtain ⟨q, h₁⟩ := demoPos_step UciState.init
  have hgo := C03Forms.C03_go_depth_every (ops := C17.demoOps)
    (st := ({ UciState.init with pos := some q } : UciState).clearKillers) rfl rfl 5 (by decide) (by decide)
  rw [show goLine [kwDepth, intText 5] = strBytes "go depth 5" by decide +kernel] at hgo
  exact ⟨_, _, _, by decide +kernel, by decide +kernel, h₁, hgo⟩

/-- `C14_analysis_function_of_position_and_depth` (below) over an abstract set `G` of positions, with the hypotheses
    of `C14.C14_rows_indep` undischarged -/
theorem C14_analysis_function_of_position_and_depth_abs {env env' : Env} {G : Nat → Position → Prop} {qfuel : Nat}
    {p : Position} {maxDepth : Nat} {killers : Killers} {rows rows' : Array (Array Move)} {len0 len0' : Nat} {s : SS}
    (hsz : rows.size = rows'.size) (hrow : ∀ i : Nat, (rows[i]?).map (·.size) = (rows'[i]?).map (·.size))
    (hsort : Lemmas.AlphaBeta.PermSort env) (hp : G 0 p) (hcl : GenClosed G) (hfin : EvalFinite env G rows.size)
    (hnz : env'.logInterval ≠ 0) (henv : env' = { env with logInterval := env'.logInterval })
    (h : iterDeep env qfuel p maxDepth killers rows len0 = .ok s) :
    ∃ s', iterDeep env' qfuel p maxDepth killers rows' len0' = .ok s' ∧
      s'.out.filter (fun e => !e.isCurrmove) = s.out.filter (fun e => !e.isCurrmove) ∧
      s'.nodes = s.nodes ∧ s'.cand = s.cand := by
  obtain ⟨s1, h1, ho, hs1⟩ := C14.C14_rows_indep (len0' := len0') hsz hrow h hsort hp hcl hfin
  obtain ⟨s2, h2, o2, n2, c2⟩ := C14Log.C14_logInterval_indep hnz henv h1
  refine ⟨s2, h2, by rw [o2, ho], ?_, ?_⟩
  · rw [n2, hs1]
  · rw [c2, hs1]

/-- **C14, the analysis is a function of position and depth.** Two searches started from the same position, the
    same killer table (`Killers.empty` after a `position` command, by `C14_position_resets`), the same depth limit
    and the same oracles, but
    * on PV buffers of different contents `rows` / `rows'` and different stale header lengths `len0` / `len0'`
      (same shape: the table is allocated once), and
    * under different non-zero values of the option `currmoveLogInterval`
    both succeed and print the same lines in the same order, `currmove` lines apart; node count and the stored
    best line are the same.

    Hypotheses exactly as `Capstone.C14_rows_indep_G` and `C14Log.C14_logInterval_indep` need them: `p` is a good
    position (`Total.G`: well-formed, side not to move not in check — the start position, every loaded FEN, and
    closed under legal moves), the blend is bounded, the sort permutes, the table has at most 10 000 rows, the
    second option value is not zero (the first run is assumed to succeed, so its value did not make it panic). -/
theorem C14_analysis_function_of_position_and_depth {env env' : Env} {qfuel : Nat} {p : Position} {maxDepth : Nat}
    {killers : Killers} {rows rows' : Array (Array Move)} {len0 len0' : Nat} {s : SS}
    (hg : Total.G p) (hb : Lemmas.EvalBound.BlendBounded env.blend Lemmas.EvalBound.pstMaxAbs)
    (hsort : Lemmas.AlphaBeta.PermSort env)
    (hsz : rows.size = rows'.size) (hrow : ∀ i : Nat, (rows[i]?).map (·.size) = (rows'[i]?).map (·.size))
    (h10 : rows.size ≤ 10000)
    (hnz : env'.logInterval ≠ 0) (henv : env' = { env with logInterval := env'.logInterval })
    (h : iterDeep env qfuel p maxDepth killers rows len0 = .ok s) :
    ∃ s', iterDeep env' qfuel p maxDepth killers rows' len0' = .ok s' ∧
      s'.out.filter (fun e => !e.isCurrmove) = s.out.filter (fun e => !e.isCurrmove) ∧
      s'.nodes = s.nodes ∧ s'.cand = s.cand :=
  C14_analysis_function_of_position_and_depth_abs hsz hrow hsort (G := fun _ => Total.G) hg Capstone.G_closed
    (Capstone.evalFinite_of_blendBounded hb h10) hnz henv h

open Magog.Capstone (noisyEnv) in
/-- non-vacuity: the run from the start position to full depth under `noisyEnv` (clock, stop channel and print gate
    firing at arbitrary consultations) on the fresh table with the default option value, against the run on a table
    filled with junk moves, another stale header length and the option value 10 -/
example : ∃ s s', iterDeep noisyEnv (Gen.maxQuiescenceDepth + 1) startPosition Gen.MaxSearchDepth Killers.empty
      (newRows noisyEnv.pvRows) 0 = .ok s ∧
    iterDeep { noisyEnv with logInterval := 10 } (Gen.maxQuiescenceDepth + 1) startPosition Gen.MaxSearchDepth
      Killers.empty ((newRows noisyEnv.pvRows).map fun r => r.map fun _ => (⟨1, 2, 3, 4⟩ : Move)) 5 = .ok s' ∧
    s'.out.filter (fun e => !e.isCurrmove) = s.out.filter (fun e => !e.isCurrmove) := by
  obtain ⟨s, hs⟩ := Props.C18Total.iterDeep_total_newRows (env := noisyEnv) (maxDepth := Gen.MaxSearchDepth)
    (qfuel := Gen.maxQuiescenceDepth + 1) Total.G_start Props.C18.killers_empty_size rfl rfl (by decide)
    (Nat.le_refl _) (Nat.le_refl _) (PvWitness.sortSound_of_perm (fun l => List.reverse_perm l)) 0
  obtain ⟨s', hs', ho, _⟩ := C14_analysis_function_of_position_and_depth (len0' := 5)
    (env' := { noisyEnv with logInterval := 10 })
    (rows' := (newRows noisyEnv.pvRows).map fun r => r.map fun _ => (⟨1, 2, 3, 4⟩ : Move))
    Total.G_start Lemmas.MateValue.demoBlend_bounded (fun l => List.reverse_perm l) (by simp)
    (fun i => by simp [Array.getElem?_map, Option.map_map, Function.comp_def])
    (by simp [newRows, noisyEnv, Lemmas.AlphaBeta.demoEnvLazy, Lemmas.AlphaBeta.demoEnv, Gen.pvRows]) (by decide) rfl hs
  exact ⟨s, s', hs, hs', ho⟩

end Magog.Props.C14Uci
