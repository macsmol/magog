import Magog.Lemmas.UciFrame
import Magog.Props.C17
import Magog.Props.C03Forms

/-! Property C16 at the command level — query commands never change the game position.

`Model.uciStep ops st line` (Magog/Model/Uci.lean) models `ParseInputLine` of engine/uci.go branch by branch over
arbitrary byte strings; `UciState.pos` is the global `posGen` (its top position; `none` = nil). The theorems below
hold for EVERY byte string `line`, every state and every record of engine operations `ops` (nothing is assumed
about `Evaluate`, `Perftd`, `PerftDivTactical`, `String`, `strings.TrimSpace`, `strings.ToLower`): the operations
receive the position by value and the interpreter stores a position in one place only, `doPosition`.

What this does and does not cover: the *interpreter* never assigns `posGen` outside `position`. That the engine
operations called by the queries (`perft`, `tperft`, `eval`, the search started by `go`) leave the position they
work on in place as they found it is the push/pop discipline of Props/C16.lean. -/

namespace Magog.Props.C16Uci
open Magog Magog.Model Magog.UciFrame Magog.FenSpec

/-- **C16, one line.** A line that is not a `position` command — `go` in all its forms, `perft`, `tperft`, `eval`,
    `tostr`, `isready`, `setoption`, `stop`, `uci`, `help`, `quit`, garbage — leaves `posGen` as it was. -/
theorem C16_queries_keep_position {ops : EngineOps} {st st' : UciState} {line : Bytes} {out : List UOut}
    (h : uciStep ops st line = .ok (st', out)) (hnp : hasPrefix line Gen.uPosition_bytes = false) :
    st'.pos = st.pos :=
  (uciStep_queryFrame hnp h).pos

/-- non-vacuity: `go depth 3`, `setoption …`, garbage bytes on the start position with the model's engine
    operations: each runs (`.ok`) and is not a `position` line (fields of `UciState`: `pos`, `searchAllocated`,
    `logInterval`, `quit`, `killers`) -/
example (blend : Blend) (tostr : Position → M Bytes) :
    let ops := modelOps blend tostr
    let st : UciState := ⟨some startPosition, false, 1000000, false, Killers.empty⟩
    (∃ st' out, uciStep ops st (strBytes "go depth 3") = .ok (st', out) ∧
      hasPrefix (strBytes "go depth 3") Gen.uPosition_bytes = false) ∧
    (∃ st' out, uciStep ops st (strBytes "setoption name currmoveLogInterval value 5000") = .ok (st', out) ∧
      st'.logInterval = 5000 ∧
      hasPrefix (strBytes "setoption name currmoveLogInterval value 5000") Gen.uPosition_bytes = false) ∧
    (∃ st' out, uciStep ops st [255, 0, 300, 32, 9] = .ok (st', out) ∧
      hasPrefix [255, 0, 300, 32, 9] Gen.uPosition_bytes = false) := by
  intro ops st
  refine ⟨?_, ?_, ?_⟩
  · obtain ⟨st', out, hr, -⟩ := UciTotal.doGo_spec st
      (ops.str.trimSpace (trimPrefix (strBytes "go depth 3") Gen.uGo_bytes))
    rw [← UciTotal.uciStep_go (by decide +kernel)] at hr
    exact ⟨st', out, hr, by decide +kernel⟩
  · have hb : strBytes "setoption name currmoveLogInterval value 5000" =
        [115, 101, 116, 111, 112, 116, 105, 111, 110, 32, 110, 97, 109, 101, 32, 99, 117, 114, 114, 109, 111, 118, 101,
         76, 111, 103, 73, 110, 116, 101, 114, 118, 97, 108, 32, 118, 97, 108, 117, 101, 32, 53, 48, 48, 48] := by
      decide +kernel
    rw [hb]
    exact ⟨⟨some startPosition, false, 5000, false, Killers.empty⟩, [], rfl, rfl, by decide⟩
  · exact ⟨st, [], rfl, by decide⟩

/-- **C16, the only writer.** If a line changed `posGen`, it was a `position` command. -/
theorem C16_position_is_the_only_writer {ops : EngineOps} {st st' : UciState} {line : Bytes} {out : List UOut}
    (h : uciStep ops st line = .ok (st', out)) (hne : st'.pos ≠ st.pos) :
    hasPrefix line Gen.uPosition_bytes = true := by
  cases hp : hasPrefix line Gen.uPosition_bytes with
  | true => rfl
  | false => exact absurd (C16_queries_keep_position h hp) hne

/-- non-vacuity: `position startpos` in the state of a fresh process does change `posGen` -/
example (blend : Blend) (tostr : Position → M Bytes) :
    ∃ st' out, uciStep (modelOps blend tostr) UciState.init (strBytes "position startpos") = .ok (st', out) ∧
      st'.pos ≠ UciState.init.pos := by
  have hb : strBytes "position startpos" =
      [112, 111, 115, 105, 116, 105, 111, 110, 32, 115, 116, 97, 114, 116, 112, 111, 115] := by decide +kernel
  rw [hb]
  exact ⟨⟨some startPosition, false, Gen.currmoveLogIntervalDefault, false, Killers.empty⟩, [], rfl,
    fun h => by cases h⟩

/-- **C16, sessions.** Any sequence of lines none of which is a `position` command leaves `posGen` as it was
    (whatever they print, whatever else they change). -/
theorem C16_session_keeps_position {ops : EngineOps} {st st' : UciState} {lines : List Bytes}
    {outs : List (List UOut)} (h : uciRun ops st lines = .ok (st', outs))
    (hnp : ∀ l ∈ lines, hasPrefix l Gen.uPosition_bytes = false) : st'.pos = st.pos :=
  uciRun_pos lines hnp h

/-- non-vacuity: a session of queries on the start position (stub evaluation / perft so that the kernel can run
    it; the string functions and the dispatcher are the real ones) -/
example :
    let ops : EngineOps := Magog.Props.C17.demoOps
    let lines := [strBytes "isready", strBytes "go depth 3", strBytes "eval", strBytes "perft 2", strBytes "tperft 1",
      strBytes "go movetime 100", strBytes "stop", strBytes "tostr", strBytes "uci", strBytes "help", [1, 2, 3],
      strBytes "setoption name currmoveLogInterval value 5000", strBytes "go", strBytes "quit"]
    (∀ l ∈ lines, hasPrefix l Gen.uPosition_bytes = false) ∧
    ∃ r, uciRun ops ⟨some startPosition, false, 1000000, false, Killers.empty⟩ lines = .ok r ∧
      r.2.length = 14 ∧ r.1.logInterval = 5000 ∧ r.1.quit = true := by
  intro ops lines
  refine ⟨by decide +kernel, ?_⟩
  obtain ⟨r, hr, h⟩ := okAnd'_elim (show okAnd' (fun r => decide (r.2.length = 14 ∧ r.1.logInterval = 5000 ∧ r.1.quit = true))
    (uciRun ops ⟨some startPosition, false, 1000000, false, Killers.empty⟩ lines) = true by decide +kernel)
  exact ⟨r, hr, by simpa using h⟩

/-- **C16, the frame of `go`.** A line with the prefix `go` writes at most `search` (allocated) and
    `killerMoves` (cleared), exactly as `doGo` does:
    * without a position it prints `No position set to start search from` and changes nothing;
    * with a position, when the token scanner `return`s (missing / malformed value): the search object exists
      afterwards, nothing else changed, nothing is printed or started;
    * with a position, when a search is started: the search object exists, the killer table is cleared, the
      one output event is `searchStarted millis depth`.
    In every case `posGen`, `currmoveLogInterval` and `Quit` are untouched. -/
theorem C16_go_keeps_everything_but_search {ops : EngineOps} {st st' : UciState} {line : Bytes} {out : List UOut}
    (hgo : hasPrefix line Gen.uGo_bytes = true) (h : uciStep ops st line = .ok (st', out)) :
    st'.pos = st.pos ∧ st'.logInterval = st.logInterval ∧ st'.quit = st.quit ∧
    ((st.pos = none ∧ st' = st ∧ out = [.noPositionGo]) ∨
     (st.pos ≠ none ∧ st' = { st with searchAllocated := true } ∧ out = []) ∨
     (st.pos ≠ none ∧ ∃ millis depth,
        st' = { st with searchAllocated := true, killers := Killers.empty } ∧ out = [.searchStarted millis depth])) := by
  rw [UciTotal.uciStep_go hgo] at h
  have hf := doGo_frame h
  refine ⟨hf.pos, hf.logInterval, hf.quit, ?_⟩
  cases hf with
  | noPosition hp => exact .inl ⟨hp, rfl, rfl⟩
  | rejected p hp => exact .inr (.inl ⟨by rw [hp]; exact Option.some_ne_none p, rfl, rfl⟩)
  | started p hp m d => exact .inr (.inr ⟨by rw [hp]; exact Option.some_ne_none p, m, d, rfl, rfl⟩)

/-- non-vacuity, all three cases: `go depth 3` without a position; `go depth` (value missing) and `go depth 3`
    with the start position and a non-empty killer table -/
example (ops : EngineOps) (hts : ops.str.trimSpace = trimSpace) (k : Killers) :
    hasPrefix (strBytes "go depth 3") Gen.uGo_bytes = true ∧ hasPrefix (strBytes "go depth") Gen.uGo_bytes = true ∧
    uciStep ops ⟨none, false, 7, false, k⟩ (strBytes "go depth 3") = .ok (⟨none, false, 7, false, k⟩, [.noPositionGo]) ∧
    uciStep ops ⟨some startPosition, false, 7, false, k⟩ (strBytes "go depth") =
      .ok (⟨some startPosition, true, 7, false, k⟩, []) ∧
    ∃ millis, uciStep ops ⟨some startPosition, false, 7, false, k⟩ (strBytes "go depth 3") =
      .ok (⟨some startPosition, true, 7, false, Killers.empty⟩, [.searchStarted millis 3]) := by
  have h0 : trimSpace (trimPrefix (strBytes "go depth") Gen.uGo_bytes) = strBytes "depth" := by decide +kernel
  refine ⟨by decide +kernel, by decide +kernel, ?_, ?_, defaultMillis, ?_⟩
  · rw [UciTotal.uciStep_go (by decide +kernel)]; rfl
  · rw [UciTotal.uciStep_go (by decide +kernel), hts, h0]
    have : goParams (!whiteTurn startPosition) (strBytes "depth") = .ok none := by decide +kernel
    unfold doGo
    simp only [this]
    rfl
  · rw [show strBytes "go depth 3" = goLine [kwDepth, intText 3] by decide +kernel,
      C03Forms.C03_go_depth_every hts rfl 3 (by decide) (by decide)]
    rfl

end Magog.Props.C16Uci
