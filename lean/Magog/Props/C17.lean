import Magog.Lemmas.UciTotal
import Magog.Lemmas.FenCount
import Magog.Lemmas.Inv
import Magog.Lemmas.Total
import Magog.Lemmas.UciFenWitness

/-! Property C17 — no input line can crash the engine: the command interpreter is total on arbitrary
    byte strings.

`Model.uciStep ops st line` (Magog/Model/Uci.lean) models `ParseInputLine` of engine/uci.go branch by branch over
`Bytes = List Nat`; every index / slice expression, nil dereference and division of uci.go is an explicit
`Except.error (Panic.…)` in the model. The heavy engine operations are the parameter record `EngineOps`; the
Unicode-table-dependent library functions `strings.ToLower` / `strings.TrimSpace` are the parameter `ops.str`
about which NOTHING is assumed. The model is tied to the real code by `uci_diff.py` (sessions of
grammar-directed and random-byte lines, model vs `hdrv ucihex`).

For EVERY byte string `line`, every state satisfying `StateOk`, under the UCI precondition `Pre` (move lists of
`position … moves` are legal at their positions — nothing else), the interpreter returns normally and keeps
`StateOk` (in particular `currmoveLogInterval ≠ 0`, the divisor of the search); likewise for any list of lines from
the state of a fresh process, after which `isready` is still answered with `readyok`. For abstract operations the
hypothesis is `OpsTotal ops G Legal`: the engine operations return normally on positions satisfying `G`. For the
REAL engine operations (`modelOps`: `evaluate`, `perftDivide`, `tperftDivide`, `applyUciMove`, `parseFen` of the
model) NO hypothesis about the operations is left (`modelOps_opsTotal`): they are total on
`Total.G p := Inv p ∧ MM.OppSafe p` (Props/C18Total.lean), and `G` holds of the start position, of every position
the FEN loader accepts (C02.fen_inv, C08.fen_oppSafe) and after every legal move. The precondition says nothing
about FENs: the loader rejects a FEN whose side not to move is in check, such as `4k3/8/8/8/8/8/8/4RK2 w - - 0 1`.
A loader that accepts it (the defect recorded in DESIGN.md 11.2, 11.3) loads a well-formed position on which
`perft 3` panics, so `OpsTotal` fails for it whatever `G` and `Legal` are.

The regression lines of the crashes of DESIGN.md 11.2 are evaluated: `go depth`, `go wtime`,
`go movestogo 0 wtime 1000`, `setoption name currmoveLogInterval value 0`, `eval` without a position,
`position garbage moves e2e4`, `perft 250`, `perft -1`. -/

namespace Magog.Props.C17
open Magog Magog.Model Magog.UciTotal Magog.FenSpec

/-- `doGo`'s token loop and deadline arithmetic return normally on EVERY token list (no `tokens[i+1]`
    index panic, no division by a zero `movestogo`). -/
theorem goTokens_total (blackToMove : Bool) (tokens : List Bytes) : ∃ r, goTokens blackToMove tokens = .ok r :=
  UciTotal.goTokens_total blackToMove tokens

theorem goParams_total (blackToMove : Bool) (goCommand : Bytes) : ∃ r, goParams blackToMove goCommand = .ok r :=
  UciTotal.goParams_total blackToMove goCommand

example : goTokens true [strBytes "depth"] = .ok none := by decide +kernel
example : goTokens false [strBytes "movestogo", strBytes "0", strBytes "wtime", strBytes "1000"] = .ok none := by
  decide +kernel
example : goTokens false [strBytes "wtime", strBytes "1000", strBytes "movestogo", strBytes "1"] = .ok (some ⟨950, 40⟩) := by
  decide +kernel

/-- **C17, one line.** For every byte string `line`: if the engine operations are total on `G`-positions,
    the state is well-formed and the line satisfies the UCI precondition, `ParseInputLine` returns normally
    and the state stays well-formed. -/
theorem uciStep_total {ops : EngineOps} {G : Position → Prop} {Legal : Position → Move → Prop}
    (ho : OpsTotal ops G Legal) {st : UciState} (hst : StateOk G st) (line : Bytes) (hpre : Pre ops Legal st line) :
    ∃ st' out, uciStep ops st line = .ok (st', out) ∧ StateOk G st' :=
  UciTotal.uciStep_total ho hst hpre

/-- the same with legality read through the model: every listed move applies without panic and keeps `G` -/
theorem uciStep_total_apply {ops : EngineOps} {G : Position → Prop}
    (start : G ops.startPos) (fen : ∀ s p, parseFen s = .ok (.ok p) → G p)
    (eval : ∀ p, G p → ∃ v, ops.evalOp p = .ok v)
    (perft : ∀ p d, G p → 0 < d → d < Gen.plyBufferCapacity → ∃ r, ops.perftDivOp p d = .ok r)
    (tperft : ∀ p d, G p → 0 < d → d < Gen.plyBufferCapacity → ∃ r, ops.tperftDivOp p d = .ok r)
    {st : UciState} (hst : StateOk G st) (line : Bytes) (hpre : Pre ops (LegalByApply ops G) st line) :
    ∃ st' out, uciStep ops st line = .ok (st', out) ∧ StateOk G st' :=
  UciTotal.uciStep_total (opsTotal_byApply start fen eval perft tperft) hst hpre

/-- every line that is not a `position` command satisfies the precondition -/
theorem pre_of_not_position {ops : EngineOps} {Legal : Position → Move → Prop} {st : UciState} {line : Bytes}
    (h : hasPrefix line Gen.uPosition_bytes = false) : Pre ops Legal st line :=
  UciTotal.pre_of_not_position h

/-- How the real engine operations enter: the hypotheses are statements about the model functions
    (`evaluate`, `perftDivide` over `perft`, `applyUciMove`, `parseFen`); C08 / C02 / C18 supply them
    (`modelOps_opsTotal`). -/
theorem modelOps_total {blend : Blend} {tostr : Position → M Bytes} {G : Position → Prop} {Legal : Position → Move → Prop}
    (hstart : G startPosition) (hfen : ∀ s p, parseFen s = .ok (.ok p) → G p)
    (heval : ∀ p, G p → ∃ v, evaluate blend p 0 = .ok v)
    (hperft : ∀ p d, G p → 0 < d → d < Gen.plyBufferCapacity →
      ∃ r, perftDivide Killers.empty Gen.plyBufferCapacity p d = .ok r)
    (htperft : ∀ p d, G p → 0 < d → d < Gen.plyBufferCapacity →
      ∃ r, tperftDivide Killers.empty Gen.plyBufferCapacity p d = .ok r)
    (happly : ∀ p mv, G p → Legal p mv → ∃ p', applyUciMove p mv = .ok p' ∧ G p') :
    OpsTotal (modelOps blend tostr) G Legal :=
  ⟨hstart, hfen, heval, hperft, htperft, happly⟩

/-- **C17, sessions.** From the state of a freshly started process, every finite list of byte strings whose
    `position … moves` commands list legal moves is processed without panic, one output list per line, and
    the final state is well-formed. -/
theorem session_total {ops : EngineOps} {G : Position → Prop} {Legal : Position → Move → Prop}
    (ho : OpsTotal ops G Legal) (lines : List Bytes) (hpre : SessionPre ops Legal UciState.init lines) :
    ∃ st' outs, uciRun ops UciState.init lines = .ok (st', outs) ∧ StateOk G st' ∧ outs.length = lines.length :=
  uciRun_total ho lines UciState.init (stateOk_init G) hpre

/-- `isready` is answered with `readyok` in every state (and allocates the search object if there is none). -/
theorem isready_answers (ops : EngineOps) (st : UciState) :
    uciStep ops st Gen.uIsReady_bytes = .ok ({ st with searchAllocated := true }, [.readyok]) := by
  rw [uciStep, if_pos (by decide)]
  rfl

/-- after any such session the engine still answers `isready` with `readyok` -/
theorem session_keeps_answering {ops : EngineOps} {G : Position → Prop} {Legal : Position → Move → Prop}
    (ho : OpsTotal ops G Legal) (lines : List Bytes) (hpre : SessionPre ops Legal UciState.init lines) :
    ∃ st' outs st'', uciRun ops UciState.init lines = .ok (st', outs) ∧
      uciStep ops st' Gen.uIsReady_bytes = .ok (st'', [.readyok]) ∧ StateOk G st'' := by
  obtain ⟨st', outs, h, hst, _⟩ := session_total ho lines hpre
  exact ⟨st', outs, _, h, isready_answers ops st', hst.1, hst.2⟩

/-! ### the hypotheses are satisfiable: a concrete session

`demoOps`: the real string functions, start position, FEN loader and `applyUciMove` of the model; evaluation and
perft are stubs (their totality on real positions is the business of C02 / C18). `DemoG` is the shared position
invariant `Inv` (or, for loaded positions, what C08 proves about them). The session mixes legal move lists
(incl. a double push, so `applyUciMove` reconstructs the en-passant square), malformed lines, boundary numerals,
a rejected FEN followed by a move list, and random bytes. -/

def demoOps : EngineOps :=
  { str := goStrEnv, startPos := startPosition, evalOp := fun _ => pure 0, perftDivOp := fun _ _ => pure [],
    tperftDivOp := fun _ _ => pure [], applyMove := applyUciMove, tostrOp := fun _ => pure [] }

def DemoG (p : Position) : Prop := Inv p ∨ FenInv p

theorem demoOps_total : OpsTotal demoOps DemoG (LegalByApply demoOps DemoG) :=
  opsTotal_byApply (Or.inl inv_startPosition)
    (fun _ _ h => Or.inr (Props.C08.fen_sound h))
    (fun _ _ => ⟨0, rfl⟩) (fun _ _ _ _ _ => ⟨[], rfl⟩) (fun _ _ _ _ _ => ⟨[], rfl⟩)

def demoSession : List Bytes :=
  [strBytes "eval", strBytes "go depth", strBytes "position startpos moves e2e4 e7e5",
   strBytes "go depth", strBytes "go movestogo 0 wtime 1000", strBytes "setoption name currmoveLogInterval value 0",
   strBytes "position garbage moves e2e4", strBytes "perft 250", strBytes "perft -1", strBytes "perft 2",
   strBytes "position fen r3k2r/8/8/8/8/8/8/R3K2R w KQkq - 0 1 moves e1g1", strBytes "eval",
   strBytes "position startpos moves", strBytes "position  startpos   moves  e2e4", [255, 0, 300, 32, 9],
   strBytes "tostr", strBytes "stop", strBytes "isready", strBytes "stop", strBytes "quit"]

/-- legality through the generator gives legality through the model (`Pre.apply_of_gen`); the `position` lines are
    evaluated once for all sessions (`UciTotal.positionLines_genB`) -/
theorem demoSession_pre : SessionPre demoOps (LegalByApply demoOps DemoG) UciState.init demoSession :=
  sessionPre_of_lines (fun l hl st => (positionLines_pre rfl rfl rfl l hl st).apply_of_gen rfl rfl fun _ h => Or.inl h.1)
    demoSession (by decide +kernel) UciState.init

example : ∃ st' outs, uciRun demoOps UciState.init demoSession = .ok (st', outs) ∧ StateOk DemoG st' ∧
    outs.length = demoSession.length :=
  session_total demoOps_total demoSession demoSession_pre

example : Pre demoOps (LegalByApply demoOps DemoG) UciState.init (strBytes "position startpos moves g1f3") :=
  pre_of_preB (g := invC) (fun _ h => Or.inl (inv_of_invC h))
    (by unfold demoOps; rw [startPosition_eq]; decide +kernel)

/-- the precondition is not vacuous: a move list with an illegal move fails the Boolean test
    (here the model of `ApplyUciMove` panics, as the real code does) -/
example : preB demoOps invB UciState.init (strBytes "position startpos moves e2e4 e1e8") = false := by
  unfold demoOps; rw [startPosition_eq]; decide +kernel

/-- Whenever a `position` command answers `invalid FEN: …` — with or without a move list after the FEN — the
    current position, the option value, the search object and the quit flag are what they were: in particular a
    following move list was NOT applied to the old position. -/
theorem position_keeps_old {ops : EngineOps} {st st' : UciState} {line : Bytes} {out : List UOut} {e : FenError}
    (hline : hasPrefix line Gen.uPosition_bytes = true) (h : uciStep ops st line = .ok (st', out))
    (he : UOut.invalidFen e ∈ out) :
    st'.pos = st.pos ∧ st'.logInterval = st.logInterval ∧ st'.searchAllocated = st.searchAllocated ∧ st'.quit = st.quit := by
  rw [uciStep_position hline] at h
  exact doPosition_keeps_old h he

/-! Regression lines (the crashes of DESIGN.md 11.2), for ANY engine operations and ANY state: the string functions
    are the ones the driver runs (`ops.str = goStrEnv`); everything else is arbitrary. -/

section regression
variable (startPos : Position) (evalOp : Position → M Int) (perftDivOp tperftDivOp : Position → Nat → M (List (Move × Nat)))
  (applyMove : Position → Move → M Position) (tostrOp : Position → M Bytes)
  (pos : Option Position) (p : Position) (sa : Bool) (li : Int) (q : Bool) (k : Killers)

local notation "OPS" => (EngineOps.mk goStrEnv startPos evalOp perftDivOp tperftDivOp applyMove tostrOp)

-- State and operations are variables below, so the steps are closed by `rfl`, not `decide`: each line is first rewritten to
-- its literal byte list.
theorem bytes_go_depth : strBytes "go depth" = [103, 111, 32, 100, 101, 112, 116, 104] := by decide +kernel
theorem bytes_go_wtime : strBytes "go wtime" = [103, 111, 32, 119, 116, 105, 109, 101] := by decide +kernel
theorem bytes_go_mtg0 : strBytes "go movestogo 0 wtime 1000" =
    [103, 111, 32, 109, 111, 118, 101, 115, 116, 111, 103, 111, 32, 48, 32, 119, 116, 105, 109, 101, 32, 49, 48, 48, 48] := by
  decide +kernel
theorem bytes_setoption0 : strBytes "setoption name currmoveLogInterval value 0" =
    [115, 101, 116, 111, 112, 116, 105, 111, 110, 32, 110, 97, 109, 101, 32, 99, 117, 114, 114, 109, 111, 118, 101, 76,
     111, 103, 73, 110, 116, 101, 114, 118, 97, 108, 32, 118, 97, 108, 117, 101, 32, 48] := by decide +kernel
theorem bytes_perft250 : strBytes "perft 250" = [112, 101, 114, 102, 116, 32, 50, 53, 48] := by decide +kernel
theorem bytes_perftm1 : strBytes "perft -1" = [112, 101, 114, 102, 116, 32, 45, 49] := by decide +kernel
theorem bytes_eval : strBytes "eval" = kwEval := by decide +kernel

/-- `go depth` (keyword without a value; unrepaired engine: index out of range [1] with length 1): no search is
    started, nothing changes except that the search object exists afterwards -/
theorem go_depth_no_value :
    uciStep OPS ⟨some p, sa, li, q, k⟩ (strBytes "go depth") = .ok (⟨some p, true, li, q, k⟩, []) := by
  rw [bytes_go_depth]; rfl

/-- `go wtime` (unrepaired engine: index out of range) -/
theorem go_wtime_no_value :
    uciStep OPS ⟨some p, sa, li, q, k⟩ (strBytes "go wtime") = .ok (⟨some p, true, li, q, k⟩, []) := by
  rw [bytes_go_wtime]; rfl

/-- `go movestogo 0 wtime 1000` (unrepaired engine: integer divide by zero in `calcEndtime`): rejected, no search -/
theorem go_movestogo_zero :
    uciStep OPS ⟨some p, sa, li, q, k⟩ (strBytes "go movestogo 0 wtime 1000") = .ok (⟨some p, true, li, q, k⟩, []) := by
  rw [bytes_go_mtg0]; rfl

/-- `go …` before any position: a message, the state is unchanged (not even a search object is allocated) -/
theorem go_no_position :
    uciStep OPS ⟨none, sa, li, q, k⟩ (strBytes "go depth") = .ok (⟨none, sa, li, q, k⟩, [.noPositionGo]) := by
  rw [bytes_go_depth]; rfl

/-- `setoption name currmoveLogInterval value 0` (unrepaired engine: stored, then integer divide by zero in the
    search): the state is unchanged -/
theorem setoption_zero_ignored :
    uciStep OPS ⟨pos, sa, li, q, k⟩ (strBytes "setoption name currmoveLogInterval value 0") = .ok (⟨pos, sa, li, q, k⟩, []) := by
  rw [bytes_setoption0]; rfl

/-- `eval` before any position (unrepaired engine: nil dereference): a message, the state is unchanged -/
theorem eval_no_position :
    uciStep OPS ⟨none, sa, li, q, k⟩ (strBytes "eval") = .ok (⟨none, sa, li, q, k⟩, [.noPositionEval]) := by
  rw [bytes_eval]; rfl

/-- `perft 250` (depth beyond the generator's position stack): refused, the state is unchanged -/
theorem perft_250_refused :
    uciStep OPS ⟨pos, sa, li, q, k⟩ (strBytes "perft 250") = .ok (⟨pos, sa, li, q, k⟩, [.invalidDepth [50, 53, 48]]) := by
  rw [bytes_perft250]; rfl

/-- `perft -1`: refused, the state is unchanged -/
theorem perft_negative_refused :
    uciStep OPS ⟨pos, sa, li, q, k⟩ (strBytes "perft -1") = .ok (⟨pos, sa, li, q, k⟩, [.invalidDepth [45, 49]]) := by
  rw [bytes_perftm1]; rfl

/-- `position garbage moves e2e4` (unrepaired engine: nil dereference without a position; with an old position
    the moves are applied to it): the FEN is rejected with "not 6 fields", the moves are not applied, the state —
    whatever it was — is unchanged -/
theorem position_garbage_moves (st : UciState) :
    uciStep OPS st (strBytes "position garbage moves e2e4") = .ok (st, [.invalidFen .fields]) := by
  rw [uciStep_position (by decide +kernel)]
  have hcmd : goStrEnv.trimSpace (trimPrefix (strBytes "position garbage moves e2e4") Gen.uPosition_bytes) =
      strBytes "garbage moves e2e4" := by decide +kernel
  show doPosition OPS st (goStrEnv.trimSpace (trimPrefix (strBytes "position garbage moves e2e4") Gen.uPosition_bytes)) = _
  rw [hcmd]
  have htake : goStrEnv.trimSpace ((strBytes "garbage moves e2e4").take 8) = strBytes "garbage" := by decide +kernel
  exact doPosition_rejected_moves (i := 8) (by decide +kernel)
    (by show hasPrefix (goStrEnv.trimSpace _) _ = false; rw [htake]; decide +kernel)
    (by show hasPrefix (goStrEnv.trimSpace _) _ = false; rw [htake]; decide +kernel)
    (by show parseFen (goStrEnv.trimSpace _) = _; rw [htake]; exact FenLemmas.rejectedWith_iff.1 (by decide +kernel))

end regression

/-- two of the regression lines on the operations the driver runs (`modelOps`) -/
example (blend : Blend) (tostr : Position → M Bytes) (st : UciState) :
    uciStep (modelOps blend tostr) st (strBytes "position garbage moves e2e4") = .ok (st, [.invalidFen .fields]) :=
  position_garbage_moves _ _ _ _ _ _ st

-- fields of `UciState`: `pos`, `searchAllocated`, `logInterval`, `quit`, `killers`
example (blend : Blend) (tostr : Position → M Bytes) :
    uciStep (modelOps blend tostr) ⟨some startPosition, false, 1000000, false, Killers.empty⟩ (strBytes "go depth") =
      .ok (⟨some startPosition, true, 1000000, false, Killers.empty⟩, []) :=
  go_depth_no_value _ _ _ _ _ _ _ _ _ _ _

/-! The real engine operations: no hypothesis about the operations left.

`Total.G p := Inv p ∧ MM.OppSafe p` (well-formed, the side not to move is not in check). Legality of a listed move
is `LegalGen`: the move string denotes a move of the pseudo-legal generator that `makeMove` accepts. The
precondition is `Pre` / `SessionPre` as for abstract operations. Definitions: `Magog/Lemmas/UciFen.lean`.

The FEN `4k3/8/8/8/8/8/8/4RK2 w - - 0 1` (side not to move in check) is rejected by the loader
(`fen_check_witness_rejected`); the position itself, built directly, shows that `Inv` alone does not make perft
total (`UciTotal.checkWitness_perft_panics`). -/

/-- a FEN with the side NOT to move in check is rejected in an orderly way (see C08.fen_oppSafe) -/
theorem fen_check_witness_rejected : parseFen (strBytes "4k3/8/8/8/8/8/8/4RK2 w - - 0 1") =
    .ok (.error (.invalid "side not to move in check")) :=
  FenWrite.checkText_rejected

/-- **The operations are total.** Every field of `OpsTotal` holds for the model of the engine — evaluation
    (C18Total.evaluate_total), both perft drivers for every admitted depth (C18Total.perftDivide_total /
    tperftDivide_total), `ApplyUciMove` on legal moves (C18Total.applyUciMove_total), the start position, and EVERY
    position the FEN loader accepts (C02.fen_inv, C08.fen_oppSafe) — for every `blend` and every renderer `tostr`. -/
theorem modelOps_opsTotal (blend : Blend) (tostr : Position → M Bytes) :
    OpsTotal (modelOps blend tostr) Total.G LegalGen :=
  Total.modelOps_opsTotal blend tostr

/-- **C17, one line, real operations.** For every byte string `line`, every well-formed state, under the UCI
    precondition `Pre` (listed moves legal at their positions — nothing else) `ParseInputLine` over the model of the
    engine returns normally and keeps the state well-formed. No operation hypotheses, no condition on FENs. -/
theorem uciStep_total_model (blend : Blend) (tostr : Position → M Bytes) {st : UciState}
    (hst : StateOk Total.G st) (line : Bytes)
    (hpre : Pre (modelOps blend tostr) LegalGen st line) :
    ∃ st' out, uciStep (modelOps blend tostr) st line = .ok (st', out) ∧ StateOk Total.G st' :=
  uciStep_total (modelOps_opsTotal blend tostr) hst line hpre

/-- lines that are not `position` commands need no precondition at all -/
theorem uciStep_total_model_of_not_position (blend : Blend) (tostr : Position → M Bytes) {st : UciState}
    (hst : StateOk Total.G st) {line : Bytes} (h : hasPrefix line Gen.uPosition_bytes = false) :
    ∃ st' out, uciStep (modelOps blend tostr) st line = .ok (st', out) ∧ StateOk Total.G st' :=
  uciStep_total_model blend tostr hst line (pre_of_not_position h)

/-- **C17, sessions, real operations.** From the state of a fresh process every finite list of byte strings
    whose `position … moves` commands list legal moves is processed without panic. -/
theorem session_total_model (blend : Blend) (tostr : Position → M Bytes) (lines : List Bytes)
    (hpre : SessionPre (modelOps blend tostr) LegalGen UciState.init lines) :
    ∃ st' outs, uciRun (modelOps blend tostr) UciState.init lines = .ok (st', outs) ∧ StateOk Total.G st' ∧
      outs.length = lines.length :=
  session_total (modelOps_opsTotal blend tostr) lines hpre

/-- a concrete session on the real operations (blend = the midgame value, empty renderer): legal move lists incl.
    double pushes and castling, a FEN with the side to move in check (legal), the same placement with the side NOT
    to move in check (answered with `invalid FEN`, whatever follows it), a rejected FEN followed by moves,
    `tperft`, `eval` before any position, malformed lines, random bytes. (The Boolean test of the precondition runs
    every line in the kernel to obtain the next state; `eval` / `perft` on a real position are left out of THIS
    list only because kernel evaluation of the `Int` tables takes half a minute — they are not `position` lines and
    need no precondition, see the next example.) -/
def modelSession : List Bytes :=
  [strBytes "eval", strBytes "position startpos moves e2e4 e7e5 g1f3", strBytes "go depth",
   strBytes "position fen r3k2r/8/8/8/8/8/8/R3K2R w KQkq - 0 1 moves e1g1 e8c8", strBytes "tperft 1",
   strBytes "position garbage moves e2e4", [255, 0, 300, 32, 9],
   strBytes "position fen 4k3/8/8/8/8/8/8/4RK2 b - - 0 1",
   strBytes "position fen 4k3/8/8/8/8/8/8/4RK2 w - - 0 1 moves e1e8", strBytes "tperft 1", strBytes "isready"]

theorem modelSession_pre :
    SessionPre (modelOps (fun _ mid _ => mid) (fun _ => pure [])) LegalGen UciState.init modelSession :=
  sessionPre_of_lines (positionLines_pre rfl rfl rfl) modelSession (by decide +kernel) UciState.init

example : ∃ st' outs, uciRun (modelOps (fun _ mid _ => mid) (fun _ => pure [])) UciState.init modelSession =
    .ok (st', outs) ∧ StateOk Total.G st' ∧ outs.length = modelSession.length :=
  session_total_model _ _ modelSession modelSession_pre

/-- `eval`, `perft 199`, `tperft 199` on the start position, for every blend: total (no kernel evaluation involved) -/
example (blend : Blend) (tostr : Position → M Bytes) (line : Bytes)
    (hl : line = strBytes "eval" ∨ line = strBytes "perft 199" ∨ line = strBytes "tperft 199") :
    ∃ st' out, uciStep (modelOps blend tostr) ⟨some startPosition, true, 1000000, false, Killers.empty⟩ line =
      .ok (st', out) := by
  have hst : StateOk Total.G ⟨some startPosition, true, 1000000, false, Killers.empty⟩ :=
    ⟨fun p h => by cases h; exact Total.G_start, by decide, by decide, by decide⟩
  have hnp : hasPrefix line Gen.uPosition_bytes = false := by
    rcases hl with rfl | rfl | rfl <;> decide +kernel
  obtain ⟨st', out, h, _⟩ := uciStep_total_model_of_not_position blend tostr hst hnp
  exact ⟨st', out, h⟩

/-- a `position` line whose FEN has the side NOT to move in check satisfies the precondition (nothing is asked of a
    FEN) and is processed without panic -/
example : ∃ st' out, uciStep (modelOps (fun _ mid _ => mid) (fun _ => pure [])) UciState.init
    (strBytes "position fen 4k3/8/8/8/8/8/8/4RK2 w - - 0 1 moves e1e8") = .ok (st', out) := by
  obtain ⟨st', out, h, _⟩ := uciStep_total_model (fun _ mid _ => mid) (fun _ => pure []) (stateOk_init _)
    (strBytes "position fen 4k3/8/8/8/8/8/8/4RK2 w - - 0 1 moves e1e8")
    (positionLines_pre rfl rfl rfl _ (by decide +kernel) _)
  exact ⟨st', out, h⟩

/-- the precondition is not vacuous on the real operations: a move list with an illegal move fails the Boolean test -/
example : preFB (modelOps (fun _ mid _ => mid) (fun _ => pure [])) Killers.empty (fun _ => true) UciState.init
    (strBytes "position startpos moves e2e4 e1e8") = false := by
  unfold modelOps; rw [startPosition_eq]; decide +kernel

end Magog.Props.C17
