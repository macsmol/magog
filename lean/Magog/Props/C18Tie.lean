import Magog.Lemmas.GoArith
import Magog.Model.MoveGen

/-! C18 - the killer-table slot: Go's `killerSlot`.

    Tie theorems: `Magog.Gen.Fn.*` is printed by the Go→Lean translator `harness/cmd/go2lean` from the current Go
    source on every run (T0); these theorems equate the translation with the hand-written model for **all**
    arguments, so the model's theorems about these functions hold of the code as translated. A change of the Go
    function changes the generated definition and this module is re-checked. -/

namespace Magog.Props.C18Tie
open Magog Magog.Lemmas.GoArith Magog.Gen.Fn

theorem killerSlot_tie (ply : Int) : Gen.Fn.killerSlot ply = (Model.killerIdx ply : Int) := by
  unfold Gen.Fn.killerSlot Model.killerIdx wrapU
  simp only [Gen.killerMovesMaxPly]
  have h : (0:Int) ≤ ply % 2 ^ 16 := Int.emod_nonneg _ (by decide)
  rw [Int.tmod_eq_emod_of_nonneg h]
  omega

/-- capacity, stated of the translated Go code: every ply value, negative and wrapped ones included, is mapped
    inside the killer table -/
theorem killerSlot_in_table (ply : Int) : 0 ≤ Gen.Fn.killerSlot ply ∧ Gen.Fn.killerSlot ply < (Gen.killerMovesMaxPly : Int) := by
  rw [killerSlot_tie]
  unfold Model.killerIdx
  simp only [Gen.killerMovesMaxPly]
  omega

example : Gen.Fn.killerSlot 349 = 349 ∧ Gen.Fn.killerSlot 350 = 0 ∧ Gen.Fn.killerSlot (-1) = 85 ∧ Gen.Fn.killerSlot 32767 = 217 := by decide

end Magog.Props.C18Tie
