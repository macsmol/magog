import Magog.Lemmas.Total
import Magog.Lemmas.PvWitness
import Magog.Lemmas.AlphaBetaWitness

/-! Properties C17 / C18, the engine side — on a well-formed legal position NO engine operation panics, and the
    search never exhausts a fixed capacity.

`G p := Inv p ∧ MM.OppSafe p` (`Magog/Lemmas/Total.lean`): the shared well-formedness invariant `Inv`
(`Magog/Lemmas/Inv.lean`) and "the side NOT to move is not in check". `G` holds of the start position, of EVERY
position the FEN loader accepts (`G_of_fen`, from C02.fen_inv and C08.fen_oppSafe), and is kept by every generated
move that `makeMove` accepts (`G_child`, from C02). Model panics are explicit `Except.error` values; "never panics" is
`∃ r, f x = .ok r`.

On one position: the legal generators return normally and every listed move is generated and accepted, so the
search's / perft's `panic("… illegal position")` is dead code. The counters need ONLY `Inv`: they call `MakeMove` on
moves the generator never produces (promo-0 pawn moves onto the last rank, king steps onto attacked squares, and —
in the position with the side to move flipped, which `LazyEvaluate` counts — captures of the king, wrong-coloured
en-passant squares); `makeMove_total_of_moveOk` covers them. Evaluation (every `blend`, depth, window), the mate
test, `ApplyUciMove` on the UCI string of a generated legal move (the reconstructed en-passant target is the
generator's) and perft within the position stack return normally.

The search: `mu_le`, `tactical_decreases` (quiescence measure), and the main theorem `iterDeep_total` /
`iterDeep_total_newRows`: iterative deepening to any `maxDepth ≤ MaxSearchDepth` with the allocated table (`pvRows`
rows), position stack (`plyBufferCapacity`), killer table, a non-zero `currmoveLogInterval`, a sort that does not
invent moves, and quiescence fuel `> maxQuiescenceDepth` returns normally for EVERY clock / stop / print-gate oracle
and every `blend`: no PV-table index, no stack slot, no `currmove` index, no empty line in `printInfo`, no `hang`.
No finiteness-of-evaluation hypothesis is needed. All theorems are FULL (none is `_partial`).

`G` cannot be weakened to `Inv` (see `Props/C17.lean`, `Lemmas/UciFenWitness.lean`): on the well-formed position
White Kf1 Re1, Black Ke8, WHITE to move (Black, not to move, in check) `perft 3` panics ("Unexpected piece found"):
the rook captures the king, which `MakeMove` does not book (`UciTotal.checkWitness_perft_panics`). The FEN loader
rejects that position (`4k3/8/8/8/8/8/8/4RK2 w - - 0 1`), so `G_of_fen` needs no hypothesis on the FEN; a loader
that accepts it is the defect recorded in DESIGN.md 11.2, 11.3. -/

namespace Magog.Props.C18Total
open Magog Magog.Model Magog.MM Magog.Total

theorem G_start : G startPosition := Total.G_start

/-- every position the FEN loader accepts is good (no hypothesis on the FEN: the loader itself rejects positions
    with the side not to move in check) -/
theorem G_of_fen {s : Bytes} {p : Position} (h : parseFen s = .ok (.ok p)) : G p :=
  Total.G_of_fen h

example : ∃ p, parseFen (FenSpec.strBytes "4k3/8/8/8/8/8/8/4RK2 b - - 0 1") = .ok (.ok p) ∧ G p :=
  FenWrite.checkTextBlack_accepted.imp fun _ hp => ⟨hp, G_of_fen hp⟩

theorem G_child {p q : Position} {m : Move} (hg : G p) (hG : Generated p m) (h : makeMove p m = .ok (q, true)) :
    G q :=
  Total.G_child hg hG h

/-- 1.e4 from the start position leads to a good position -/
example : ∃ q, makeMove startPosition ⟨0x14, 0x34, 0, 0x24⟩ = .ok (q, true) ∧ G q := by
  obtain ⟨_, q, h, _⟩ := MM.game_e2e4
  exact ⟨q, h, G_child G_start Props.C02.generated_e2e4 h⟩

/-- The legal move generator never panics on a good position, and every move it lists is a generated move
    that `makeMove` accepts (verdict `true`). -/
theorem generateMoves_total {p : Position} {kt : Killers} (hg : G p) (hk : kt.size = Gen.killerMovesMaxPly) :
    ∃ ms, generateMoves kt p = .ok ms ∧
      ∀ rm ∈ ms, Generated p rm.mov ∧ ∃ q, makeMove p rm.mov = .ok (q, true) :=
  Total.generateMoves_total hg hk

example : ∃ ms, generateMoves Killers.empty startPosition = .ok ms ∧
    ∀ rm ∈ ms, Generated startPosition rm.mov ∧ ∃ q, makeMove startPosition rm.mov = .ok (q, true) :=
  generateMoves_total G_start Props.C18.killers_empty_size

/-- The tactical generator likewise. -/
theorem generateTacticalMoves_total {p : Position} (hg : G p) :
    ∃ ts, generateTacticalMoves p = .ok ts ∧
      ∀ rm ∈ ts, Generated p rm.mov ∧ ∃ q, makeMove p rm.mov = .ok (q, true) :=
  Total.generateTacticalMoves_total hg

example : ∃ ts, generateTacticalMoves startPosition = .ok ts := by
  obtain ⟨ts, h, _⟩ := generateTacticalMoves_total G_start
  exact ⟨ts, h⟩

/-- `countMoves` never panics on a well-formed position (`Inv` alone: `OppSafe` is not needed). -/
theorem countMoves_total {p : Position} (hI : Inv p) : ∃ n, countMoves p = .ok n := Total.countMoves_total hI

/-- … nor on the position with the side to move flipped (what `LazyEvaluate` counts for the opponent):
    there the en-passant square has the wrong colour and the "mover" may capture the king. -/
theorem countMoves_flip_total {p : Position} (hI : Inv p) : ∃ n, countMoves (flipTurn p) = .ok n :=
  Total.countMoves_flip_total hI

/-- `countTacticalMoves` never panics on a well-formed position. -/
theorem countTacticalMoves_total {p : Position} (hI : Inv p) : ∃ n, countTacticalMoves p = .ok n :=
  Total.countTacticalMoves_total hI

example : (∃ n, countMoves startPosition = .ok n) ∧ (∃ n, countMoves (flipTurn startPosition) = .ok n) ∧
    (∃ n, countTacticalMoves startPosition = .ok n) :=
  ⟨countMoves_total inv_startPosition, countMoves_flip_total inv_startPosition,
   countTacticalMoves_total inv_startPosition⟩

/-- the lemma behind the counters: `makeMove` never panics on a "simple" move of a man of the side to move to an empty
    square or onto ANY enemy man (also the king; also a pawn arriving on the last rank with `promo = 0`), on a
    position that is well-formed up to its en-passant field. -/
theorem makeMove_total_of_moveOk {p : Position} {w : Bool} {m : Move} {v t : Nat}
    (hI : InvNoEp p) (hw : whiteTurn p = w) (h : MoveOk p w m v t) : ∃ r, makeMove p m = .ok r :=
  Total.makeMove_total_of_moveOk hI hw h

/-- The evaluation never panics on a good position — every `blend`, depth and window. -/
theorem lazyEvaluate_total {p : Position} (hg : G p) (blend : Blend) (d a b : Int) :
    ∃ x, lazyEvaluate blend p d a b = .ok x :=
  Total.lazyEvaluate_total hg blend d a b

theorem evaluate_total {p : Position} (hg : G p) (blend : Blend) (d : Int) : ∃ x, evaluate blend p d = .ok x :=
  Total.evaluate_total hg blend d

theorem isCheckMate_total {p : Position} (hg : G p) : ∃ b, isCheckMate p = .ok b := Total.isCheckMate_total hg

theorem terminalNodeScore_total {p : Position} (hg : G p) (d : Int) : ∃ x, terminalNodeScore p d = .ok x :=
  Total.terminalNodeScore_total hg d

example (blend : Blend) : (∃ x, evaluate blend startPosition 0 = .ok x) ∧ (∃ b, isCheckMate startPosition = .ok b) ∧
    (∃ x, terminalNodeScore startPosition 3 = .ok x) :=
  ⟨evaluate_total G_start blend 0, isCheckMate_total G_start, terminalNodeScore_total G_start 3⟩

/-- `ApplyUciMove` on the UCI string (from, to, promotion piece) of a generated legal move returns normally —
    the en-passant target it reconstructs for a double push is the generator's — and the new position is good. -/
theorem applyUciMove_total {p : Position} {m : Move} (hg : G p) (hG : Generated p m)
    (hacc : ∃ q, makeMove p m = .ok (q, true)) :
    ∃ p', applyUciMove p ⟨m.frm, m.to, m.promo, InvalidSq⟩ = .ok p' ∧ G p' :=
  Total.applyUciMove_total hg hG hacc

/-- on 1.e4: the move carries the en-passant square e3, its UCI string does not -/
example : ∃ p', applyUciMove startPosition ⟨0x14, 0x34, 0, InvalidSq⟩ = .ok p' ∧ G p' := by
  obtain ⟨_, q, h, _⟩ := MM.game_e2e4
  exact applyUciMove_total (m := ⟨0x14, 0x34, 0, 0x24⟩) G_start Props.C02.generated_e2e4 ⟨q, h⟩

/-- perft never panics as long as the position stack has a slot for every ply (`idx + d < cap`). -/
theorem perft_total {kt : Killers} (hk : kt.size = Gen.killerMovesMaxPly) {cap d idx : Nat} {p : Position}
    (hg : G p) (h : idx + d < cap) : ∃ n, perft kt cap d idx p = .ok n :=
  Total.perft_total hk hg h

theorem perftTactical_total {kt : Killers} (hk : kt.size = Gen.killerMovesMaxPly) {cap d idx : Nat} {p : Position}
    (hg : G p) (h : idx + d < cap) : ∃ n, perftTactical kt cap d idx p = .ok n :=
  Total.perftTactical_total hk hg h

/-- `perft <d>` / `tperft <d>` of the UCI layer for every depth it admits (`0 < d < plyBufferCapacity`) -/
theorem perftDivide_total {kt : Killers} (hk : kt.size = Gen.killerMovesMaxPly) {cap d : Nat} {p : Position}
    (hg : G p) (hd0 : 0 < d) (hd : d < cap) : ∃ r, perftDivide kt cap p d = .ok r :=
  Total.perftDivide_total hk hg hd0 hd

theorem tperftDivide_total {kt : Killers} (hk : kt.size = Gen.killerMovesMaxPly) {cap d : Nat} {p : Position}
    (hg : G p) (hd0 : 0 < d) (hd : d < cap) : ∃ r, tperftDivide kt cap p d = .ok r :=
  Total.tperftDivide_total hk hg hd0 hd

example : (∃ n, perft Killers.empty Gen.plyBufferCapacity 199 0 startPosition = .ok n) ∧
    (∃ r, perftDivide Killers.empty Gen.plyBufferCapacity startPosition 199 = .ok r) ∧
    (∃ r, tperftDivide Killers.empty Gen.plyBufferCapacity startPosition 199 = .ok r) :=
  ⟨perft_total Props.C18.killers_empty_size G_start (by decide),
   perftDivide_total Props.C18.killers_empty_size G_start (by decide) (by decide),
   tperftDivide_total Props.C18.killers_empty_size G_start (by decide) (by decide)⟩

/-- the quiescence measure: 2·(pawns of both sides) + (knights, bishops, rooks, queens of both sides) is at most
    the source constant `maxQuiescenceDepth` on every well-formed position … -/
theorem mu_le {p : Position} (hI : Inv p) : TotalMeasure.mu p ≤ Gen.maxQuiescenceDepth := TotalMeasure.mu_le hI

/-- … and every move of the tactical generator (capture, en-passant capture, promotion) that `makeMove` accepts
    strictly lowers it: quiescence terminates. -/
theorem tactical_decreases {p q : Position} {ts : List RMove} {rm : RMove} (hg : G p)
    (ht : generateTacticalMoves p = .ok ts) (hrm : rm ∈ ts) (hm : makeMove p rm.mov = .ok (q, true)) :
    TotalMeasure.mu q < TotalMeasure.mu p :=
  TotalMeasure.tactical_decreases hg.1 hg.2 ht hrm hm

example : TotalMeasure.mu startPosition ≤ Gen.maxQuiescenceDepth := mu_le inv_startPosition

/-- every per-node operation of the search is total on good positions, for every environment -/
theorem searchOps (env : Env) : SearchTotal.SearchOps env G TotalMeasure.mu := Total.searchOps env

/-- `quiescence` at depth `d` / stack index `idx` returns normally when fuel, table rows and stack slots cover
    `mu p` more plies; the table keeps its shape, the returned line length fits its row (`RowsTri`, `Post`:
    Lemmas/SearchTotal.lean; `InRange s`, Lemmas/SearchSim.lean: `s.firstMoveIdx` points into `s.rootMoves`). -/
theorem quiescence_total {env : Env} (hsort : SortSound env) (hlog : env.logInterval ≠ 0) {D : Nat}
    (fuel : Nat) (p : Position) (idx d : Nat) (α β : Int) (curLen : Nat) (s : SS)
    (hg : G p) (hf : TotalMeasure.mu p < fuel) (hD : d + TotalMeasure.mu p + 1 < D)
    (hst : idx + TotalMeasure.mu p < env.stackCap) (hrows : SearchTotal.RowsTri s.rows D)
    (hk : s.killers.size = Gen.killerMovesMaxPly) (hin : InRange s) (hlen : curLen ≤ D - d) :
    ∃ v len s', quiescence env fuel p idx d α β curLen s = .ok (v, len, s') ∧ SearchTotal.Post D d s len s' :=
  SearchTotal.quiescence_total (searchOps env) hsort hlog fuel p idx d α β curLen s hg hf hD hst hrows hk hin hlen

theorem alphaBeta_total {env : Env} (hsort : SortSound env) (hlog : env.logInterval ≠ 0) {D qfuel : Nat}
    (hq : Gen.maxQuiescenceDepth < qfuel) (rem : Nat) (p : Position) (idx d : Nat) (α β : Int) (curLen : Nat)
    (s : SS) (hg : G p) (hD : d + rem + Gen.maxQuiescenceDepth + 1 < D)
    (hst : idx + rem + Gen.maxQuiescenceDepth < env.stackCap) (hrows : SearchTotal.RowsTri s.rows D)
    (hk : s.killers.size = Gen.killerMovesMaxPly) (hin : InRange s) (hlen : curLen ≤ D - d) :
    ∃ v len s', alphaBeta env qfuel rem p idx d α β curLen s = .ok (v, len, s') ∧ SearchTotal.Post D d s len s' :=
  SearchTotal.alphaBeta_total (searchOps env) hsort hlog hq rem p idx d α β curLen s hg hD hst hrows hk hin hlen

theorem startAlphaBeta_total {env : Env} (hsort : SortSound env) (hlog : env.logInterval ≠ 0) {D qfuel : Nat}
    (hq : Gen.maxQuiescenceDepth < qfuel) {p : Position} (target curLen : Nat) (s : SS) (hg : G p)
    (ht : 1 ≤ target) (hD : target + Gen.maxQuiescenceDepth + 1 < D)
    (hst : target + Gen.maxQuiescenceDepth < env.stackCap) (hrows : SearchTotal.RowsTri s.rows D)
    (hk : s.killers.size = Gen.killerMovesMaxPly) :
    ∃ score one len s', startAlphaBeta env qfuel p target curLen s = .ok (score, one, len, s') ∧
      SearchTotal.RowsTri s'.rows D ∧ s'.killers.size = Gen.killerMovesMaxPly :=
  by
    obtain ⟨score, one, len, s', h, h1, h2, _⟩ :=
      SearchTotal.startAlphaBeta_total (searchOps env) hsort hlog hq target curLen s hg ht hD hst hrows hk
    exact ⟨score, one, len, s', h, h1, h2⟩

/-- **C18, main theorem.** Iterative deepening never panics: for every good position, every killer table of
    the allocated size, every triangular PV table with `pvRows` rows (row `i` with `pvRows − i` slots), a position
    stack of `plyBufferCapacity` slots, a non-zero `currmoveLogInterval`, every `maxDepth ≤ MaxSearchDepth`,
    quiescence fuel above `maxQuiescenceDepth`, a sort function that does not invent moves — and EVERY
    clock / stop-channel / print-gate oracle, every `blend`, lazy or full evaluation, any incoming line length. -/
theorem iterDeep_total {env : Env} {p : Position} (hg : G p) {kt : Killers} (hk : kt.size = Gen.killerMovesMaxPly)
    {rows : Array (Array Move)} (hrows : SearchTotal.RowsTri rows Gen.pvRows.toNat)
    (hst : env.stackCap = Gen.plyBufferCapacity) (hlog : env.logInterval ≠ 0)
    {maxDepth : Nat} (hmd : maxDepth ≤ Gen.MaxSearchDepth) {qfuel : Nat} (hq : Gen.maxQuiescenceDepth + 1 ≤ qfuel)
    (hsort : SortSound env) (len0 : Nat) :
    ∃ s, iterDeep env qfuel p maxDepth kt rows len0 = .ok s := by
  have h1 := Props.C18.pv_rows_suffice
  have h2 := Props.C18.stack_suffices
  have h3 := Props.C18.quiescence_bound_is_source_constant
  have h4 : 1 ≤ Gen.MaxSearchDepth := by decide
  exact SearchTotal.iterDeep_total (searchOps env) hsort hlog hg hk hrows (by omega) (by rw [hst]; omega) (by omega) len0

/-- the same for the table `NewSearch` allocates -/
theorem iterDeep_total_newRows {env : Env} {p : Position} (hg : G p) {kt : Killers}
    (hk : kt.size = Gen.killerMovesMaxPly) (hpv : env.pvRows = Gen.pvRows.toNat)
    (hst : env.stackCap = Gen.plyBufferCapacity) (hlog : env.logInterval ≠ 0)
    {maxDepth : Nat} (hmd : maxDepth ≤ Gen.MaxSearchDepth) {qfuel : Nat} (hq : Gen.maxQuiescenceDepth + 1 ≤ qfuel)
    (hsort : SortSound env) (len0 : Nat) :
    ∃ s, iterDeep env qfuel p maxDepth kt (newRows env.pvRows) len0 = .ok s :=
  iterDeep_total hg hk (by rw [hpv]; exact SearchTotal.rowsTri_newRows _) hst hlog hmd hq hsort len0

/-- the hypotheses are satisfiable: the start position, the empty killer table, the allocated table, full depth,
    an environment whose clock, stop channel and print gate fire at arbitrary consultations, lazy evaluation and a
    sort that really reorders (reverse) -/
example : ∃ s, iterDeep
    { Magog.Lemmas.AlphaBeta.demoEnvLazy with
        timeUp := fun n => n % 7 == 3, stopAt := fun n => n % 5 == 1, gateOpen := fun n => n % 2 == 0 }
    (Gen.maxQuiescenceDepth + 1) startPosition Gen.MaxSearchDepth Killers.empty (newRows Gen.pvRows.toNat) 0 = .ok s :=
  iterDeep_total_newRows (env := { Magog.Lemmas.AlphaBeta.demoEnvLazy with
        timeUp := fun n => n % 7 == 3, stopAt := fun n => n % 5 == 1, gateOpen := fun n => n % 2 == 0 })
    G_start Props.C18.killers_empty_size rfl rfl (by decide) (Nat.le_refl _) (Nat.le_refl _)
    (PvWitness.sortSound_of_perm (fun l => List.reverse_perm l)) 0

end Magog.Props.C18Total
