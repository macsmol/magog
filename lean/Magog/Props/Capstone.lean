import Magog.Lemmas.Capstone
import Magog.Props.C03
import Magog.Props.C04
import Magog.Props.C05
import Magog.Props.C10
import Magog.Props.C14
import Magog.Props.C18Total

/-! CAPSTONE — the search theorems in the terms of the RULES OF CHESS.

The per-property theorems C03 / C04 / C05 / C10 / C14 are stated on the engine model's own game tree (a move is
"legal" when `generateMoves` lists it, a forced mate is `winsInM / losesInM` over the model's generator) and carry
hypotheses about an abstract set `G` of positions (`Closed`, `GenClosed`, `EvalFinite`, `EvalRange`, `EvalBoundOn`,
`GenLink`, "the check test does not panic"). Here they are combined with C01 (the generator lists exactly the legal
moves), C02 (`makeMove` is the rules' `Spec.apply`; the invariant is kept), C06 (counters), C18 (no panic) into
statements about

    `Spec.legal`, `Spec.legalMoves`, `Spec.apply`, `Spec.play`, `Spec.isMated`, `Spec.winsIn`, `Spec.losesIn`
                                                                                (`Magog/Spec/Chess.lean`)

on the set of GOOD positions

    `Total.G p := Inv p ∧ OppSafe p`   — well-formed, and the side not to move is not in check —

which contains the start position (`Total.G_start`), EVERY position the FEN loader accepts (`Total.G_of_fen`) and is
closed under legal moves. `abs p : Spec.Pos` is the chess position an engine position denotes, `absMove m` the chess
move an engine move denotes.

Remaining hypotheses, and nothing else:
* `BlendBounded env.blend pstMaxAbs` — the recorded parameter assumption on the float king-table interpolation:
  on material sums `≤ maxMaterialSum` the blend of two table values is within `blendK · pstMaxAbs` (the engine
  does not clamp the game-phase factor, so the blend extrapolates with promoted pieces; the assumption is true of
  the exact interpolation, `Lemmas.EvalBound.blendBounded_exact`);
* `PermSort env` — the sort function only reorders;
* the allocated shapes (PV table with `Gen.pvRows` triangular rows, position stack `Gen.plyBufferCapacity`, killer
  table `Gen.killerMovesMaxPly`, `maxDepth ≤ Gen.MaxSearchDepth`, quiescence fuel `> Gen.maxQuiescenceDepth`,
  `currmoveLogInterval ≠ 0`) where "never panics" is claimed;
* for the VALUE theorems (C04, C05) in addition `Quiet env` (no time-out / stop: an interrupted iteration is
  discarded, C11) and `LazyOn env Total.G` (the lazy-evaluation margin assumption, only when `env.lazy = true`);
* depth budgets far above `MaxSearchDepth + maxQuiescenceDepth`: `maxDepth + qfuel ≤ 10000`, `rows.size ≤ 10000` (C04, C10,
  C14: a mate score at such a depth is outside the evaluation band, `Lemmas.EvalBound.depth_10000_ok`) and
  `maxDepth + qfuel + 1 ≤ 79000` (C05: it is still printed as a mate score, `Props.C05.score_bands`).

All theorems are FULL (none is `_partial`). -/

namespace Magog.Props.Capstone
open Magog Magog.Model Magog.Total
open Magog.Lemmas.AlphaBeta Magog.Lemmas.EvalBound Magog.Lemmas.MateValue Magog.Spec.MateM Magog.Spec.Minimax
open Magog.Capstone (noisyEnv start_has_moves start_legal_count m1_good foolsMate_good)

/-- `Total.G` is closed under the moves of both legal generators, in the sense used by C10 / C14 … -/
theorem G_closed : GenClosed (fun _ p => Total.G p) := Magog.Capstone.G_closed

example : Total.G startPosition := Total.G_start

/-- … and in the sense used by C04 / C05 (the verdict of `makeMove` on a listed move is always `true`). -/
theorem closed_G : Closed Total.G := Magog.Capstone.closed_G

/-- With a bounded blend every static and terminal score on a good position is strictly between `−∞` and `+∞`
    (`|score| ≤ evalB = 20 650`, or the mate score `Lost + d`), for every PV table of at most 10 000 rows (the
    engine allocates `Gen.pvRows = 88`): C10's / C14's hypothesis `EvalFinite`. -/
theorem evalFinite_of_blendBounded {env : Env} (hb : BlendBounded env.blend pstMaxAbs)
    {rows : Array (Array Move)} (hD : rows.size ≤ 10000) :
    EvalFinite env (fun _ p => Total.G p) rows.size :=
  Magog.Capstone.evalFinite_of_blendBounded hb hD

example : BlendBounded demoEnvLazy.blend pstMaxAbs ∧ (newRows Gen.pvRows.toNat).size ≤ 10000 :=
  ⟨demoBlend_bounded, by simp [newRows, Gen.pvRows]⟩

/-- C05's hypotheses `GenLink`, `EvalBoundOn`, "the check test does not panic", and C04's `EvalRange` (depth
    budget 10 000), on `Total.G`. -/
theorem genLink_G : GenLink Total.G := Magog.Capstone.genLink_G

theorem evalBoundOn_G {blend : Blend} (hb : BlendBounded blend pstMaxAbs) : EvalBoundOn blend Total.G :=
  Magog.Capstone.evalBoundOn_G hb

theorem evalRange_G {blend : Blend} (hb : BlendBounded blend pstMaxAbs) : EvalRange blend Total.G 10000 :=
  Magog.Capstone.evalRange_G hb

theorem check_total_G : ∀ p, Total.G p → ∃ c, isCurrentKingUnderCheck p = .ok c := Magog.Capstone.chk_G

example : BlendBounded demoBlend pstMaxAbs := demoBlend_bounded

/-- The specification value of C04 / C05 — the plain minimax value `rootV` of the depth-`target` tree — is DEFINED
    on every good position (no node of the full tree panics, quiescence terminates) as soon as the quiescence fuel
    exceeds the source constant `maxQuiescenceDepth`; for every blend. -/
theorem rootV_defined (blend : Blend) {qfuel : Nat} (hq : Gen.maxQuiescenceDepth < qfuel) (target : Nat)
    {p : Position} (hg : Total.G p) : ∃ w, rootV blend qfuel target p = .ok w :=
  Magog.Capstone.V_total blend hq _ p 0 hg

example : Gen.maxQuiescenceDepth < Gen.maxQuiescenceDepth + 1 ∧ Total.G startPosition :=
  ⟨Nat.lt_succ_self _, Total.G_start⟩

/-- **Generated = legal, applied = the rules' successor.** On a good position a move listed by the full move
    generator (any killer table) or by the tactical generator and applied by `makeMove` is a legal move of the
    rules, the new position denotes exactly `Spec.apply`, and is good again. -/
theorem generated_move_is_legal {p q : Position} {m : Move} (hg : Total.G p) (h : GenFull p m ∨ GenTac p m)
    (hmk : makeMove p m = .ok (q, true)) :
    Spec.legal (abs p) (absMove m) = true ∧ abs q = Spec.apply (abs p) (absMove m) ∧ Total.G q :=
  Magog.Capstone.legal_of_gen hg h hmk

/-- instance: all 20 moves the generator lists in the start position are legal moves of the rules, and each
    successor is the rules' -/
example : ∃ ms, generateMoves Killers.empty startPosition = .ok ms ∧ ms.length = 20 ∧
    ∀ rm ∈ ms, ∃ q, makeMove startPosition rm.mov = .ok (q, true) ∧
      Spec.legal (abs startPosition) (absMove rm.mov) = true ∧
      abs q = Spec.apply (abs startPosition) (absMove rm.mov) ∧ Total.G q := by
  obtain ⟨ms, hms, hall⟩ := Total.generateMoves_total Total.G_start Props.C18.killers_empty_size
  refine ⟨ms, hms, by rw [Magog.Capstone.gen_length Total.G_start hms, start_legal_count], fun rm hrm => ?_⟩
  obtain ⟨_, q, hq⟩ := hall rm hrm
  exact ⟨q, hq, generated_move_is_legal Total.G_start (.inl ⟨_, ms, hms, List.mem_map.2 ⟨rm, hrm, rfl⟩⟩) hq⟩

/-- **A legal line of the model is a game of the rules** (`LegalLine`: every move produced by a legal generator at
    the position reached and accepted by `makeMove`). -/
theorem legalLine_is_play {p : Position} {pv : List Move} (hg : Total.G p) (h : LegalLine p pv) :
    ∃ q, Total.G q ∧ Spec.play (abs p) (pv.map absMove) = some (abs q) :=
  Magog.Capstone.play_of_legalLine pv hg h

example : ∃ m, LegalLine startPosition [m] ∧
    ∃ q, Total.G q ∧ Spec.play (abs startPosition) ([m].map absMove) = some (abs q) := by
  obtain ⟨ms, hms, hall⟩ := Total.generateMoves_total Total.G_start Props.C18.killers_empty_size
  have hl : ms.length = 20 := by rw [Magog.Capstone.gen_length Total.G_start hms, start_legal_count]
  cases ms with
  | nil => cases hl
  | cons rm tl =>
    obtain ⟨_, q, hq⟩ := hall rm List.mem_cons_self
    have hline : LegalLine startPosition [rm.mov] :=
      ⟨q, .inl ⟨_, _, hms, List.mem_map.2 ⟨rm, List.mem_cons_self, rfl⟩⟩, hq, trivial⟩
    exact ⟨rm.mov, hline, legalLine_is_play Total.G_start hline⟩

/-- **C03 + C10 + C18, capstone. Every `go` on a position with a legal move is answered — without panic, for EVERY
    clock / stop / print-gate oracle — by exactly one `bestmove m`, printed last, and `m` is a LEGAL MOVE OF THE
    RULES OF CHESS.**

    For every good position `p` (`Total.G`: e.g. the start position, every position the FEN loader accepts, every
    position reached from these by legal moves) in which the rules give at least one legal move; every environment
    whose blend is bounded, whose sort only reorders and whose `currmoveLogInterval` is non-zero; the allocated
    shapes (position stack, killer table, a triangular PV table of `Gen.pvRows` rows with ARBITRARY stale contents
    and stale header length `len0` — `newRows Gen.pvRows.toNat` is one, `SearchTotal.rowsTri_newRows`); every
    `maxDepth ≤ MaxSearchDepth`; quiescence fuel above the source constant `maxQuiescenceDepth`. -/
theorem C03_bestmove_is_legal_chess_move {env : Env} {p : Position} (hg : Total.G p)
    (hmoves : Spec.legalMoves (abs p) ≠ [])
    (hb : BlendBounded env.blend pstMaxAbs) (hsort : PermSort env) (hlog : env.logInterval ≠ 0)
    (hst : env.stackCap = Gen.plyBufferCapacity)
    {kt : Killers} (hk : kt.size = Gen.killerMovesMaxPly)
    {rows : Array (Array Move)} (hrows : SearchTotal.RowsTri rows Gen.pvRows.toNat)
    {maxDepth : Nat} (hmd : maxDepth ≤ Gen.MaxSearchDepth)
    {qfuel : Nat} (hq : Gen.maxQuiescenceDepth + 1 ≤ qfuel) (len0 : Nat) :
    ∃ s, iterDeep env qfuel p maxDepth kt rows len0 = .ok s ∧
      ∃ m rest, s.out = .bestmove m :: rest ∧ Spec.legal (abs p) (absMove m) = true ∧
        s.out.countP Event.isBest = 1 := by
  have hss := PvWitness.sortSound_of_perm hsort
  obtain ⟨s, hs⟩ := Props.C18Total.iterDeep_total hg hk hrows hst hlog hmd hq hss len0
  have hsz : rows.size ≤ 10000 := by rw [hrows.1]; decide
  have hfin := Magog.Capstone.evalFinite_of_blendBounded hb hsz
  have H : PvHyps env (fun _ p => Total.G p) rows.size := ⟨hss, Magog.Capstone.G_closed, hfin⟩
  refine ⟨s, hs, ?_⟩
  obtain ⟨e, rest, hout, _, _, hcount, score, one, l, s1, hsab, hnone, _, hbest⟩ := Props.C03.C03_one_bestmove hs
  have hne : rowPrefix s1 0 l ≠ [] := by
    refine Magog.Capstone.startAlphaBeta_nonempty H hsab hg (Nat.le_refl _) rfl ?_
    intro ms hms hnil
    subst hnil
    exact hmoves (List.eq_nil_of_length_eq_zero (Magog.Capstone.gen_length hg hms).symm)
  obtain ⟨m, rfl⟩ := hbest (fun he => hne (hnone.1 he))
  obtain ⟨hgen, q, hq⟩ := Props.C10.C10_bestmove_legal hs hsort hg Magog.Capstone.G_closed hfin hout
  exact ⟨m, rest, hout, (Magog.Capstone.legal_of_gen hg (.inl hgen) hq).1, hcount⟩

/-- the same for the table `NewSearch` allocates -/
theorem C03_bestmove_is_legal_chess_move_newRows {env : Env} {p : Position} (hg : Total.G p)
    (hmoves : Spec.legalMoves (abs p) ≠ [])
    (hb : BlendBounded env.blend pstMaxAbs) (hsort : PermSort env) (hlog : env.logInterval ≠ 0)
    (hpv : env.pvRows = Gen.pvRows.toNat) (hst : env.stackCap = Gen.plyBufferCapacity)
    {kt : Killers} (hk : kt.size = Gen.killerMovesMaxPly)
    {maxDepth : Nat} (hmd : maxDepth ≤ Gen.MaxSearchDepth)
    {qfuel : Nat} (hq : Gen.maxQuiescenceDepth + 1 ≤ qfuel) (len0 : Nat) :
    ∃ s, iterDeep env qfuel p maxDepth kt (newRows env.pvRows) len0 = .ok s ∧
      ∃ m rest, s.out = .bestmove m :: rest ∧ Spec.legal (abs p) (absMove m) = true ∧
        s.out.countP Event.isBest = 1 :=
  C03_bestmove_is_legal_chess_move hg hmoves hb hsort hlog hst hk
    (by rw [hpv]; exact SearchTotal.rowsTri_newRows _) hmd hq len0

/-- non-vacuity, and an instance of the conclusion: from the start position, full depth, under `noisyEnv` the engine
    answers with exactly one `bestmove`, a legal chess move -/
example : ∃ s, iterDeep noisyEnv (Gen.maxQuiescenceDepth + 1) startPosition Gen.MaxSearchDepth Killers.empty
      (newRows noisyEnv.pvRows) 0 = .ok s ∧
    ∃ m rest, s.out = .bestmove m :: rest ∧ Spec.legal (abs startPosition) (absMove m) = true ∧
      s.out.countP Event.isBest = 1 :=
  C03_bestmove_is_legal_chess_move_newRows Total.G_start start_has_moves demoBlend_bounded
    (fun l => List.reverse_perm l) (by decide) rfl rfl Props.C18.killers_empty_size (Nat.le_refl _) (Nat.le_refl _) 0

/-- the same from a FEN: EVERY position the FEN loader accepts is good (`Total.G_of_fen`: C02.fen_inv and
    C08.fen_oppSafe), so `position fen … ; go` on a position with a legal move is answered by a legal chess move -/
theorem C03_bestmove_from_fen {fen : Bytes} {env : Env} {p : Position} (hfen : parseFen fen = .ok (.ok p))
    (hmoves : Spec.legalMoves (abs p) ≠ [])
    (hb : BlendBounded env.blend pstMaxAbs) (hsort : PermSort env) (hlog : env.logInterval ≠ 0)
    (hpv : env.pvRows = Gen.pvRows.toNat) (hst : env.stackCap = Gen.plyBufferCapacity)
    {kt : Killers} (hk : kt.size = Gen.killerMovesMaxPly)
    {maxDepth : Nat} (hmd : maxDepth ≤ Gen.MaxSearchDepth)
    {qfuel : Nat} (hq : Gen.maxQuiescenceDepth + 1 ≤ qfuel) (len0 : Nat) :
    ∃ s, iterDeep env qfuel p maxDepth kt (newRows env.pvRows) len0 = .ok s ∧
      ∃ m rest, s.out = .bestmove m :: rest ∧ Spec.legal (abs p) (absMove m) = true ∧
        s.out.countP Event.isBest = 1 :=
  C03_bestmove_is_legal_chess_move_newRows (Total.G_of_fen hfen) hmoves hb hsort hlog hpv hst hk hmd hq len0

set_option maxRecDepth 100000 in
/-- non-vacuity: the FEN of a king-and-pawn ending is accepted and its position has a legal move (Ke1-d1) -/
example : ∃ p, parseFen (FenSpec.strBytes "4k3/8/8/8/8/8/4P3/4K3 w - - 0 1") = .ok (.ok p) ∧
    Spec.legalMoves (abs p) ≠ [] := by
  obtain ⟨p, hp, hl⟩ := okAnd'_elim₂ (show okAnd' (okAnd' fun p : Position => Spec.legal (abs p) ⟨4, 3, none⟩)
    (parseFen (FenSpec.strBytes "4k3/8/8/8/8/8/4P3/4K3 w - - 0 1")) = true by decide +kernel)
  refine ⟨p, hp, fun h => ?_⟩
  have := ((Props.C01.legalMoves_spec (abs p)).2 ⟨4, 3, none⟩).2 hl
  rw [h] at this
  cases this

/-- **C10, capstone. Every principal variation printed during a search is a game of the rules of chess from the
    searched position**: each `pv` of an `info score … pv` (`infoPv`) or `info depth … pv` (`infoDepth`) line is
    non-empty and `Spec.play (abs p) (pv.map absMove)` succeeds — every move is legal by the rules in the position
    the rules define after the moves before it — ending in (the position denoted by) a good engine position.
    For every oracle (interrupted iterations included), every killer table, every stale content and header length of
    a PV table of at most 10 000 rows; partial correctness (the run succeeds: it does under the shapes of
    `C03_bestmove_is_legal_chess_move`). -/
theorem C10_pv_is_legal_chess_line {env : Env} {p : Position} (hg : Total.G p)
    (hb : BlendBounded env.blend pstMaxAbs) (hsort : PermSort env)
    {qfuel maxDepth : Nat} {kt : Killers} {rows : Array (Array Move)} (hsz : rows.size ≤ 10000) {len0 : Nat} {s : SS}
    (h : iterDeep env qfuel p maxDepth kt rows len0 = .ok s) :
    ∀ e ∈ s.out, ∀ sc d n pv, (e = .infoPv sc d n pv ∨ e = .infoDepth d sc n pv) →
      pv ≠ [] ∧ ∃ q, Total.G q ∧ Spec.play (abs p) (pv.map absMove) = some (abs q) := by
  intro e he sc d n pv hpv
  have hfin := Magog.Capstone.evalFinite_of_blendBounded hb hsz
  have hl := (Props.C10.C10_pv_legal h hsort hg Magog.Capstone.G_closed hfin e he sc d n pv hpv).1
  refine ⟨?_, Magog.Capstone.play_of_legalLine pv hg hl⟩
  rcases hpv with rfl | rfl
  · exact (Props.C10.C10_pv_nonempty h).1 _ _ _ _ he
  · exact (Props.C10.C10_pv_nonempty h).2 _ _ _ _ he

/-- non-vacuity, and an instance of the conclusion: the run from the start position under `noisyEnv` prints (just
    before `bestmove m`) a principal variation starting with `m` that is a game of the rules -/
example : ∃ s m rest best done nodes pv, iterDeep noisyEnv (Gen.maxQuiescenceDepth + 1) startPosition
      Gen.MaxSearchDepth Killers.empty (newRows noisyEnv.pvRows) 0 = .ok s ∧
    s.out = .bestmove m :: .infoPv best done nodes pv :: rest ∧ pv.head? = some m ∧
    ∃ q, Total.G q ∧ Spec.play (abs startPosition) (pv.map absMove) = some (abs q) := by
  obtain ⟨s, hs, m, rest, hout, _, _⟩ :=
    C03_bestmove_is_legal_chess_move_newRows (env := noisyEnv) Total.G_start start_has_moves demoBlend_bounded
      (fun l => List.reverse_perm l) (by decide) rfl rfl Props.C18.killers_empty_size (Nat.le_refl _)
      (Nat.le_refl (Gen.maxQuiescenceDepth + 1)) 0
  obtain ⟨best, done, nodes, pv, rest', rfl, hhead, _, _⟩ := Props.C10.C10_bestmove hs hout
  have hmem : Event.infoPv best done nodes pv ∈ s.out := by rw [hout]; simp
  exact ⟨s, m, rest', best, done, nodes, pv, hs, hout, hhead,
    (C10_pv_is_legal_chess_line Total.G_start demoBlend_bounded (fun l => List.reverse_perm l)
      (by simp [newRows, noisyEnv, demoEnvLazy, demoEnv, Gen.pvRows]) hs _ hmem _ _ _ _ (.inl rfl)).2⟩

/-- **The forced-mate solver on the model's game tree computes the rules' forced mate**: for every good position and
    every length `n`, `winsInM n p` / `losesInM n p` (AND/OR search over `generateMoves` / `makeMove` /
    `isCurrentKingUnderCheck`, `Spec/MateM.lean`) return — without panic — exactly `Spec.winsIn (abs p) n` /
    `Spec.losesIn (abs p) n` (AND/OR over `Spec.legalMoves` / `Spec.apply` / `Spec.isMated`). No corner differs:
    `n = 0`, "mated now" and stalemate are treated alike on both sides. -/
theorem mate_solver_is_the_rules {p : Position} (hg : Total.G p) (n : Nat) :
    winsInM n p = .ok (Spec.winsIn (abs p) n) ∧ losesInM n p = .ok (Spec.losesIn (abs p) n) :=
  Magog.Capstone.mateM_spec n hg

/-- instance: `m1Pos` (White Kb6, Pc7 against Ka8, White to move) is good; the model solver says "mate in one ply,
    not in zero", hence — through the theorem — so do the rules -/
example : Total.G m1Pos ∧ Spec.winsIn (abs m1Pos) 1 = true ∧ Spec.winsIn (abs m1Pos) 0 = false := by
  have h1 := (mate_solver_is_the_rules m1_good 1).1
  have h0 := (mate_solver_is_the_rules m1_good 0).1
  rw [m1_wins1] at h1
  rw [m1_wins0] at h0
  exact ⟨m1_good, (Except.ok.inj h1).symm, (Except.ok.inj h0).symm⟩

/-- … and fool's mate: the model says "mated now", hence the rules say `Spec.losesIn … 0`, i.e. `Spec.isMated` -/
example : Total.G foolsMate ∧ Spec.losesIn (abs foolsMate) 0 = true := by
  have hg : Total.G foolsMate := foolsMate_good
  have h0 := (mate_solver_is_the_rules hg 0).2
  rw [fm_loses0] at h0
  exact ⟨hg, (Except.ok.inj h0).symm⟩

/-- **C05, capstone: a mate is found when it is forced and real when it is announced — by the rules of chess.**
    Under a quiet oracle, for every `info depth t score sc` line of a completed iteration `t ≤ maxDepth` on a good
    position (`w` = the minimax value of the depth-`t` tree, when defined):
    * `sc = w`;
    * found when forced: if by the rules the side to move is mated in exactly `n ≤ max t 1` plies whatever it plays
      (`Spec.losesIn … n`, not `… k` for `k < n`), the line says `mate −⌈n/2⌉`; if it can force mate in exactly
      `n ≤ max t 1` plies (`Spec.winsIn`), the line says `mate ⌈n/2⌉`;
    * real when announced: if the line says `mate k`, then by the rules a forced mate of exactly `n` plies exists,
      against (`k < 0` or `n = 0`) or for the side to move according to the sign, `|k| = ⌈n/2⌉`, `n ≤ max t 1 + 1`;
    * otherwise the line says `cp sc` with `|sc| ≤ evalB`.
    (`t − 1 + 1 = max t 1`.) Hypotheses left: quiet oracle, permuting sort, the lazy-evaluation assumption on good
    positions (only if `env.lazy`), bounded blend, and the depth budget `maxDepth + qfuel + 1 ≤ 79000`. -/
theorem C05_mate_found_when_forced_and_real_when_announced (env : Env)
    (hb : BlendBounded env.blend pstMaxAbs) (hq : Quiet env) (hps : PermSort env) (hlz : LazyOn env Total.G)
    (qfuel : Nat) (p : Position) (maxDepth : Nat) (killers : Killers)
    (rows : Array (Array Move)) (len0 : Nat) (s : SS) (hp : Total.G p) (hD1 : qfuel + 2 ≤ 79000)
    (hDm : maxDepth + qfuel + 1 ≤ 79000) (h : iterDeep env qfuel p maxDepth killers rows len0 = .ok s)
    (t : Nat) (sc : Int) (nodes : Nat) (pv : List Move) (hmem : Event.infoDepth t sc nodes pv ∈ s.out)
    (ht : t ≤ maxDepth) (w : Int) (hw : rootV env.blend qfuel t p = .ok w) :
    sc = w ∧
    (∀ n, n ≤ t - 1 + 1 → Spec.losesIn (abs p) n = true → (∀ k, k < n → Spec.losesIn (abs p) k = false) →
      formatScore sc = .mate (-(((n + 1) / 2 : Nat) : Int))) ∧
    (∀ n, n ≤ t - 1 + 1 → Spec.winsIn (abs p) n = true → (∀ k, k < n → Spec.winsIn (abs p) k = false) →
      formatScore sc = .mate (((n + 1) / 2 : Nat) : Int)) ∧
    (∀ k, formatScore sc = .mate k →
      (∃ n, n ≤ t - 1 + 1 + 1 ∧ sc = Gen.LostScore + n ∧ k = -(((n + 1) / 2 : Nat) : Int) ∧
        Spec.losesIn (abs p) n = true ∧ ∀ j, j < n → Spec.losesIn (abs p) j = false) ∨
      (∃ n, 1 ≤ n ∧ n ≤ t - 1 + 1 + 1 ∧ sc = -Gen.LostScore - n ∧ k = (((n + 1) / 2 : Nat) : Int) ∧
        Spec.winsIn (abs p) n = true ∧ ∀ j, j < n → Spec.winsIn (abs p) j = false)) ∧
    (closeToMate sc = false → formatScore sc = .cp sc ∧ sc.natAbs ≤ evalB) := by
  obtain ⟨h1, h2, h3, h4, h5⟩ := Props.C05.C05_reported_mate env Total.G hq hps Magog.Capstone.closed_G hlz
    (Magog.Capstone.evalBoundOn_G hb) Magog.Capstone.genLink_G Magog.Capstone.chk_G 79000 (Nat.le_refl _) qfuel p maxDepth killers
    rows len0 s hp hD1 hDm h t sc nodes pv hmem ht w hw
  have L : ∀ n b, losesInM n p = .ok b ↔ Spec.losesIn (abs p) n = b := fun n b => by
    rw [(Magog.Capstone.mateM_spec n hp).2, Except.ok.injEq]
  have W : ∀ n b, winsInM n p = .ok b ↔ Spec.winsIn (abs p) n = b := fun n b => by
    rw [(Magog.Capstone.mateM_spec n hp).1, Except.ok.injEq]
  refine ⟨h1, ?_, ?_, ?_, h5⟩
  · intro n hn a b
    exact h2 n hn ((L n true).2 a) (fun k hk => (L k false).2 (b k hk))
  · intro n hn a b
    exact h3 n hn ((W n true).2 a) (fun k hk => (W k false).2 (b k hk))
  · intro k hk
    rcases h4 k hk with ⟨n, hn, e1, e2, a, b⟩ | ⟨n, hn1, hn, e1, e2, a, b⟩
    · exact .inl ⟨n, hn, e1, e2, (L n true).1 a, fun j hj => (L j false).1 (b j hj)⟩
    · exact .inr ⟨n, hn1, hn, e1, e2, (W n true).1 a, fun j hj => (W j false).1 (b j hj)⟩

/-- **C05, capstone, exact form**: with the engine's quiescence fuel the minimax value is defined (`rootV_defined`),
    so no "when defined" is needed: the reported score IS `rootV … t p`, and the four mate clauses hold. -/
theorem C05_mate_exact (env : Env)
    (hb : BlendBounded env.blend pstMaxAbs) (hq : Quiet env) (hps : PermSort env) (hlz : LazyOn env Total.G)
    (qfuel : Nat) (hqf : Gen.maxQuiescenceDepth < qfuel) (p : Position) (maxDepth : Nat) (killers : Killers)
    (rows : Array (Array Move)) (len0 : Nat) (s : SS) (hp : Total.G p) (hD1 : qfuel + 2 ≤ 79000)
    (hDm : maxDepth + qfuel + 1 ≤ 79000) (h : iterDeep env qfuel p maxDepth killers rows len0 = .ok s)
    (t : Nat) (sc : Int) (nodes : Nat) (pv : List Move) (hmem : Event.infoDepth t sc nodes pv ∈ s.out)
    (ht : t ≤ maxDepth) :
    rootV env.blend qfuel t p = .ok sc ∧
    (∀ n, n ≤ t - 1 + 1 → Spec.losesIn (abs p) n = true → (∀ k, k < n → Spec.losesIn (abs p) k = false) →
      formatScore sc = .mate (-(((n + 1) / 2 : Nat) : Int))) ∧
    (∀ n, n ≤ t - 1 + 1 → Spec.winsIn (abs p) n = true → (∀ k, k < n → Spec.winsIn (abs p) k = false) →
      formatScore sc = .mate (((n + 1) / 2 : Nat) : Int)) ∧
    (∀ k, formatScore sc = .mate k →
      (∃ n, n ≤ t - 1 + 1 + 1 ∧ sc = Gen.LostScore + n ∧ k = -(((n + 1) / 2 : Nat) : Int) ∧
        Spec.losesIn (abs p) n = true ∧ ∀ j, j < n → Spec.losesIn (abs p) j = false) ∨
      (∃ n, 1 ≤ n ∧ n ≤ t - 1 + 1 + 1 ∧ sc = -Gen.LostScore - n ∧ k = (((n + 1) / 2 : Nat) : Int) ∧
        Spec.winsIn (abs p) n = true ∧ ∀ j, j < n → Spec.winsIn (abs p) j = false)) ∧
    (closeToMate sc = false → formatScore sc = .cp sc ∧ sc.natAbs ≤ evalB) := by
  obtain ⟨w, hw⟩ := rootV_defined env.blend hqf t hp
  obtain ⟨h1, h2⟩ := C05_mate_found_when_forced_and_real_when_announced env hb hq hps hlz qfuel p maxDepth killers
    rows len0 s hp hD1 hDm h t sc nodes pv hmem ht w hw
  exact ⟨by rw [h1]; exact hw, h2⟩

/-- non-vacuity (hypotheses): the full-evaluation reference environment `demoEnv` is quiet, its sort permutes, the
    lazy assumption is void for it, its blend is bounded; the start position is good; the budgets hold for the
    deepest search; and the run exists (C18) -/
example : BlendBounded demoEnv.blend pstMaxAbs ∧ Quiet demoEnv ∧ PermSort demoEnv ∧ LazyOn demoEnv Total.G ∧
    Gen.maxQuiescenceDepth < Gen.maxQuiescenceDepth + 1 ∧
    Total.G startPosition ∧ (Gen.maxQuiescenceDepth + 1) + 2 ≤ 79000 ∧
    Gen.MaxSearchDepth + (Gen.maxQuiescenceDepth + 1) + 1 ≤ 79000 ∧
    ∃ s, iterDeep demoEnv (Gen.maxQuiescenceDepth + 1) startPosition Gen.MaxSearchDepth Killers.empty
      (newRows demoEnv.pvRows) 0 = .ok s :=
  ⟨demoBlend_bounded, demoEnv_quiet, demoEnv_perm, demoEnv_lazyOn _, Nat.lt_succ_self _, Total.G_start, by decide,
   by decide,
   Props.C18Total.iterDeep_total_newRows Total.G_start Props.C18.killers_empty_size rfl rfl (by decide)
     (Nat.le_refl _) (Nat.le_refl _) (PvWitness.sortSound_of_perm demoEnv_perm) 0⟩

/-- **C04, capstone**: `C04_reported_scores` with `Closed` and `EvalRange` discharged on the good positions: under a
    quiet oracle every score reported for a completed iteration `d` (each `info depth d score sc` line, the final
    `info score best depth done` line, and `info depth 0 score …` at a root without legal moves) is the plain
    minimax value of the depth-`d` tree — for every permuting sort, killer table, PV hint and stale PV table. By
    `generated_move_is_legal` / C01 that tree is the game tree of chess (edges = the legal moves of the rules,
    successor = `Spec.apply`). -/
theorem C04_reported_scores_G (env : Env) (hb : BlendBounded env.blend pstMaxAbs) (hq : Quiet env)
    (hps : PermSort env) (hlz : LazyOn env Total.G) (qfuel : Nat) (p : Position) (maxDepth : Nat)
    (killers : Killers) (rows : Array (Array Move)) (len0 : Nat) (s : SS) (hp : Total.G p)
    (hD1 : 1 + qfuel ≤ 10000) (hD : maxDepth + qfuel ≤ 10000)
    (h : iterDeep env qfuel p maxDepth killers rows len0 = .ok s) :
    (∀ d sc nodes pv, Event.infoDepth d sc nodes pv ∈ s.out →
        ∀ w, rootV env.blend qfuel d p = .ok w → sc = w) ∧
    ((∃ m best done nodes pv rest, s.out = .bestmove m :: .infoPv best done nodes pv :: rest ∧
        ∀ w, rootV env.blend qfuel done p = .ok w → best = w) ∨
     (∃ sc rest, s.out = .bestmoveNone :: .infoTerminal sc :: rest ∧
        ∀ w, rootV env.blend qfuel 1 p = .ok w → sc = w)) :=
  Props.C05.C04_reported_scores_inv env Total.G (fun _ hg => hg.1) hb hq hps Magog.Capstone.closed_G hlz qfuel p
    maxDepth killers rows len0 s hp hD1 hD h

example : BlendBounded demoEnv.blend pstMaxAbs ∧ Quiet demoEnv ∧ PermSort demoEnv ∧ LazyOn demoEnv Total.G ∧
    Total.G startPosition ∧ 1 + (Gen.maxQuiescenceDepth + 1) ≤ 10000 ∧
    Gen.MaxSearchDepth + (Gen.maxQuiescenceDepth + 1) ≤ 10000 ∧
    ∃ s, iterDeep demoEnv (Gen.maxQuiescenceDepth + 1) startPosition Gen.MaxSearchDepth Killers.empty
      (newRows demoEnv.pvRows) 0 = .ok s :=
  ⟨demoBlend_bounded, demoEnv_quiet, demoEnv_perm, demoEnv_lazyOn _, Total.G_start, by decide, by decide,
   Props.C18Total.iterDeep_total_newRows Total.G_start Props.C18.killers_empty_size rfl rfl (by decide)
     (Nat.le_refl _) (Nat.le_refl _) (PvWitness.sortSound_of_perm demoEnv_perm) 0⟩

/-- **C04, capstone, exact form.** With the engine's quiescence fuel the specification value is defined
    (`rootV_defined`), so the statement needs no "when defined": every score reported for a completed iteration `d`
    IS the minimax value `rootV … d p` of the depth-`d` game tree. -/
theorem C04_reported_scores_exact (env : Env) (hb : BlendBounded env.blend pstMaxAbs) (hq : Quiet env)
    (hps : PermSort env) (hlz : LazyOn env Total.G) (qfuel : Nat) (hqf : Gen.maxQuiescenceDepth < qfuel)
    (p : Position) (maxDepth : Nat)
    (killers : Killers) (rows : Array (Array Move)) (len0 : Nat) (s : SS) (hp : Total.G p)
    (hD1 : 1 + qfuel ≤ 10000) (hD : maxDepth + qfuel ≤ 10000)
    (h : iterDeep env qfuel p maxDepth killers rows len0 = .ok s) :
    (∀ d sc nodes pv, Event.infoDepth d sc nodes pv ∈ s.out → rootV env.blend qfuel d p = .ok sc) ∧
    ((∃ m best done nodes pv rest, s.out = .bestmove m :: .infoPv best done nodes pv :: rest ∧
        rootV env.blend qfuel done p = .ok best) ∨
     (∃ sc rest, s.out = .bestmoveNone :: .infoTerminal sc :: rest ∧ rootV env.blend qfuel 1 p = .ok sc)) := by
  obtain ⟨h1, h2⟩ := C04_reported_scores_G env hb hq hps hlz qfuel p maxDepth killers rows len0 s hp hD1 hD h
  have def_ := fun t => rootV_defined env.blend hqf t hp
  refine ⟨fun d sc nodes pv hmem => ?_, ?_⟩
  · obtain ⟨w, hw⟩ := def_ d
    rw [h1 d sc nodes pv hmem w hw]; exact hw
  · rcases h2 with ⟨m, best, done, nodes, pv, rest, ho, hv⟩ | ⟨sc, rest, ho, hv⟩
    · obtain ⟨w, hw⟩ := def_ done
      exact .inl ⟨m, best, done, nodes, pv, rest, ho, by rw [hv w hw]; exact hw⟩
    · obtain ⟨w, hw⟩ := def_ 1
      exact .inr ⟨sc, rest, ho, by rw [hv w hw]; exact hw⟩

/-- **The iteration clause of C04 in the terms of the rules**: under a quiet oracle `go depth d` on a good position
    completes exactly the iterations `1 … done`, and ends before `maxDepth` only when the accepted iteration
    reported a mate no longer than the iteration, or when the rules give exactly ONE legal move at the root. -/
theorem C04_iterations_rules {env : Env} {qfuel : Nat} {p : Position} {maxDepth : Nat} {killers : Killers}
    {rows : Array (Array Move)} {len0 : Nat} {s : SS} (hg : Total.G p) (hq : env.Quiet) (hps : PermSort env)
    (h : iterDeep env qfuel p maxDepth killers rows len0 = .ok s) :
    (∃ score rest, s.out = .bestmoveNone :: .infoTerminal score :: rest ∧ depthsOf s.out = []) ∨
    (∃ m best done nodes pv rest, s.out = .bestmove m :: .infoPv best done nodes pv :: rest ∧
       (depthsOf s.out).reverse = List.range' 2 (done - 1) ∧ 1 ≤ done ∧ done ≤ max 1 maxDepth ∧
       (done < maxDepth →
          (2 ≤ done ∧ pliesToMate best = done) ∨ (Spec.legalMoves (abs p)).length = 1)) := by
  rcases Props.C04.C04_iterations hq h with h1 | ⟨m, best, done, nodes, pv, rest, ho, hd, h1, h2, h3⟩
  · exact .inl h1
  · refine .inr ⟨m, best, done, nodes, pv, rest, ho, hd, h1, h2, fun hlt => ?_⟩
    rcases h3 hlt with h4 | ⟨len, sb, len', sa, hsab⟩
    · exact .inl h4
    · exact .inr ((Magog.Capstone.one_spec hps hg hsab).1 rfl)

/-- **An instance of the conclusions of C03, C04, C05 together** — `go depth 2` from the start position with the
    full-evaluation reference environment `demoEnv`, the allocated tables and the engine's fuel: the search returns,
    answers `bestmove m` with `m` a legal chess move, prints an `info depth 2 score sc` line (the start position
    has 20 legal moves, not one, so deepening is not cut short), `sc` IS the minimax value of the depth-2 game tree,
    and it is printed either as `cp sc` with `|sc| ≤ evalB` or as a mate score. -/
example : ∃ s m rest sc nodes pv,
    iterDeep demoEnv (Gen.maxQuiescenceDepth + 1) startPosition 2 Killers.empty (newRows demoEnv.pvRows) 0 = .ok s ∧
    s.out = .bestmove m :: rest ∧ Spec.legal (abs startPosition) (absMove m) = true ∧
    Event.infoDepth 2 sc nodes pv ∈ s.out ∧
    rootV demoEnv.blend (Gen.maxQuiescenceDepth + 1) 2 startPosition = .ok sc ∧
    ((formatScore sc = .cp sc ∧ sc.natAbs ≤ evalB) ∨ closeToMate sc = true) := by
  obtain ⟨s, hs, m, rest, hout, hleg, _⟩ :=
    C03_bestmove_is_legal_chess_move_newRows (env := demoEnv) (maxDepth := 2) Total.G_start start_has_moves
      demoBlend_bounded demoEnv_perm (by decide) rfl rfl Props.C18.killers_empty_size (by decide)
      (Nat.le_refl (Gen.maxQuiescenceDepth + 1)) 0
  have hq' : demoEnv.Quiet := fun _ => ⟨rfl, rfl⟩
  have hdone : 2 ∈ depthsOf s.out := by
    rcases C04_iterations_rules Total.G_start hq' demoEnv_perm hs with ⟨_, _, ho, _⟩ |
      ⟨m', best, done, nodes, pv, rest', _, hd, h1, h2, h3⟩
    · rw [hout] at ho; cases ho
    · have hd2 : done = 2 := by
        have h2' : done ≤ 2 := h2
        rcases Nat.lt_or_ge done 2 with hlt | hge
        · rcases h3 hlt with ⟨h4, _⟩ | h4
          · omega
          · rw [start_legal_count] at h4; cases h4
        · omega
      subst hd2
      have : 2 ∈ (depthsOf s.out).reverse := by rw [hd]; simp
      exact List.mem_reverse.1 this
  obtain ⟨sc, nodes, pv, hmem⟩ := mem_depthsOf.1 hdone
  have hv := (C04_reported_scores_exact demoEnv demoBlend_bounded demoEnv_quiet demoEnv_perm (demoEnv_lazyOn _)
    (Gen.maxQuiescenceDepth + 1) (Nat.lt_succ_self _) startPosition 2 Killers.empty _ 0 s Total.G_start
    (by decide) (by decide) hs).1 2 sc nodes pv hmem
  have h5 := (C05_mate_found_when_forced_and_real_when_announced demoEnv demoBlend_bounded demoEnv_quiet
    demoEnv_perm (demoEnv_lazyOn _) (Gen.maxQuiescenceDepth + 1) startPosition 2 Killers.empty _ 0 s Total.G_start
    (by decide) (by decide) hs 2 sc nodes pv hmem (Nat.le_refl _) sc hv).2.2.2.2
  refine ⟨s, m, rest, sc, nodes, pv, hs, hout, hleg, hmem, hv, ?_⟩
  cases hc : closeToMate sc
  · exact .inl (h5 hc)
  · exact .inr rfl

/-- **C14, capstone**: `C14_rows_indep` with `GenClosed` and `EvalFinite` discharged: on a good position, with a
    bounded blend and a permuting sort, the output of a search (every oracle, killer table, depth limit) does not
    depend on the contents of the PV table it starts with (same shape, at most 10 000 rows) nor on the stale length
    of the row-0 header; the final states agree in every component except the table. -/
theorem C14_rows_indep_G {env : Env} {qfuel : Nat} {p : Position} {maxDepth : Nat}
    {killers : Killers} {rows rows' : Array (Array Move)} {len0 len0' : Nat} {s : SS}
    (hg : Total.G p) (hb : BlendBounded env.blend pstMaxAbs) (hsort : PermSort env)
    (hsz : rows.size = rows'.size) (hrow : ∀ i : Nat, (rows[i]?).map (·.size) = (rows'[i]?).map (·.size))
    (h10 : rows.size ≤ 10000)
    (h : iterDeep env qfuel p maxDepth killers rows len0 = .ok s) :
    ∃ s', iterDeep env qfuel p maxDepth killers rows' len0' = .ok s' ∧ s'.out = s.out ∧
      s' = { s with rows := s'.rows } :=
  Props.C14.C14_rows_indep hsz hrow h hsort hg Magog.Capstone.G_closed (Magog.Capstone.evalFinite_of_blendBounded hb h10)

/-- non-vacuity: the run from the start position under `noisyEnv` on the fresh table and on a table of the same
    shape filled with junk moves, with another stale header length -/
example : ∃ s s', iterDeep noisyEnv (Gen.maxQuiescenceDepth + 1) startPosition Gen.MaxSearchDepth Killers.empty
      (newRows noisyEnv.pvRows) 0 = .ok s ∧
    iterDeep noisyEnv (Gen.maxQuiescenceDepth + 1) startPosition Gen.MaxSearchDepth Killers.empty
      ((newRows noisyEnv.pvRows).map fun r => r.map fun _ => (⟨1, 2, 3, 4⟩ : Move)) 5 = .ok s' ∧
    s'.out = s.out := by
  obtain ⟨s, hs⟩ := Props.C18Total.iterDeep_total_newRows (env := noisyEnv) (maxDepth := Gen.MaxSearchDepth)
    (qfuel := Gen.maxQuiescenceDepth + 1) Total.G_start Props.C18.killers_empty_size rfl rfl (by decide)
    (Nat.le_refl _) (Nat.le_refl _) (PvWitness.sortSound_of_perm (fun l => List.reverse_perm l)) 0
  obtain ⟨s', hs', ho, _⟩ := C14_rows_indep_G (len0' := 5)
    (rows' := (newRows noisyEnv.pvRows).map fun r => r.map fun _ => (⟨1, 2, 3, 4⟩ : Move))
    Total.G_start demoBlend_bounded (fun l => List.reverse_perm l) (by simp)
    (fun i => by simp [Array.getElem?_map, Option.map_map, Function.comp_def])
    (by simp [newRows, noisyEnv, demoEnvLazy, demoEnv, Gen.pvRows]) hs
  exact ⟨s, s', hs, hs', ho⟩

end Magog.Props.Capstone
